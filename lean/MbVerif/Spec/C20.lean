/-
  C20 — the C API returns exactly the framework's actions, never writes past `num_machines`,
  and reports bad arguments through error codes.

  Specification as a list of named decidable checks over what a caller of the C API observes
  (`checks`); the property is "every check holds" (`Holds`), the monitor reports the first
  failing check (`firstFail`); `firstFail_none_iff` (Proofs/FfiSpec.lean) proves the two equivalent.
  The same definitions are used by the theorems about the model and by the monitor that the
  driver runs on the implementation's observations.
-/
import MbVerif.Ffi

namespace Mb.C20
open Mb Mb.Ffi

/-- a named check -/
abbrev Check := Bool × String

/-- the property: every check holds -/
def Holds (cs : List Check) : Prop := ∀ c ∈ cs, c.1 = true

/-- the monitor: description of the first failing check -/
def firstFail (cs : List Check) : Option String := (cs.find? (fun c => !c.1)).map (·.2)

/-! ### `maybenot_on_events` -/

/-- what the caller observes of one call -/
structure EvObs where
  /-- which pointer arguments were null -/
  nulls : Nulls
  /-- returned `MaybenotResult` -/
  rc : Nat
  /-- the count cell after the call; `none` = still the caller's sentinel -/
  count : Option Nat
  /-- `maybenot_num_machines` -/
  nm : Nat
  /-- number of guard slots the caller placed before and after its `nm` output slots -/
  guard : Nat
  /-- the slot contents the caller filled all `guard + nm + guard` slots with before the call -/
  patSlot : Bytes
  /-- the caller's memory after the call: `guard + nm + guard` slots -/
  mem : List Bytes
  /-- the actions the Rust framework returns for the same machines and events -/
  ref : List TAction
  deriving Repr, Inhabited

/-- the `nm` output slots -/
def EvObs.slots (o : EvObs) : List Bytes := (o.mem.drop o.guard).take o.nm

def EvObs.checks (o : EvObs) : List Check :=
  [ (o.rc == onEventsRc o.nulls, "result code: a null instance/event/action/count pointer must give NullPointer, anything else Ok"),
    (o.mem.length == o.guard + o.nm + o.guard, "observation malformed: memory size"),
    (o.mem.take o.guard == List.replicate o.guard o.patSlot, "canary before the output buffer overwritten"),
    (o.mem.drop (o.guard + o.nm) == List.replicate o.guard o.patSlot, "canary after the output buffer overwritten (write past num_machines)") ] ++
  (if o.rc == RC_Ok then
    match o.count with
    | none => [(false, "Ok returned but the count was not written")]
    | some k =>
      [ (decide (k ≤ o.nm), "count exceeds maybenot_num_machines"),
        (k == o.ref.length, "count differs from the number of actions the framework returns"),
        ((o.slots.take k).map decodeAction == (o.ref.map (fun a => some (view a))),
          "written actions differ from the framework's (kind, machine, bypass, replace, timer, timeout/duration secs+nanos)"),
        (o.slots.drop k == List.replicate (o.nm - k) o.patSlot, "a slot at or beyond index `count` was written") ]
  else
    [ (o.count == none, "error returned but the count was written"),
      (o.slots == List.replicate o.nm o.patSlot, "error returned but the output buffer was written") ])

/-! ### `maybenot_start`, `maybenot_num_machines`, `maybenot_stop` -/

structure StartObs where
  outNull : Bool
  /-- the machine-string argument as the Rust API sees it (UTF-8 check, `Machine::from_str` per line) -/
  arg : MachinesArg
  fp : F64
  fb : F64
  rc : Nat
  /-- was a non-null instance pointer stored through `out` -/
  outWritten : Bool
  /-- `maybenot_num_machines` of the new instance (when one was created) -/
  nm : Option Nat
  /-- `maybenot_num_machines(NULL)` -/
  nmNull : Nat
  deriving Repr, Inhabited

def StartObs.checks (o : StartObs) : List Check :=
  [ (o.rc == startRc o.outNull o.arg o.fp o.fb,
      "start result code: NullPointer / MachineStringNotUtf8 / InvalidMachineString / StartFramework / Ok as the Rust API accepts the arguments"),
    (o.nmNull == 0, "maybenot_num_machines(NULL) is not 0"),
    (o.rc != RC_Ok || o.outWritten, "Ok returned but no instance pointer was stored") ] ++
  (match o.arg, o.nm with
   | .parsed ms, some n => [(o.rc != RC_Ok || n == ms.length, "maybenot_num_machines differs from the number of machine strings")]
   | _, _ => [])

/-- allocated bytes before `maybenot_start` and after `maybenot_stop` (counting allocator) -/
structure StopObs where
  before : Nat
  after : Nat
  deriving Repr, Inhabited

def StopObs.checks (o : StopObs) : List Check :=
  [ (o.before == o.after, "start/stop leak: allocated bytes differ before start and after stop") ]

end Mb.C20
