/-
  Promptness of rand's `UniformFloat::<f64>::sample_single` retry loop (C13).

  One binary64 rounding of `q ≥ 0` exceeds `q` by at most the relative error `2^-53` plus half a
  subnormal ulp `2^-1075`.  So for doubles `a < b` and a unit value `0 ≤ v ≤ 1/4` the rounded
  product `fl(v · fl(b − a))` is below `(b − a)/2`, hence the sum `fl(a + ·)` stays below `b`: for a
  validated range with `low ≠ high`, every word whose unit value is at most `1/4` ends the loop at
  once.  The unit value of the word `m·2^12 + r` is `m·2^-52`, whatever the discarded bits `r`.
-/
import MbVerif.Proofs.Sample

namespace Mb
namespace Fp

theorem pow2_neg1074 : pow2 (-1074) = 2 * pow2 (-1075) := by
  rw [show (-1074 : Int) = 1 + -1075 by norm_num, pow2_add, pow2_one]

/-- one rounding of `q ≥ 0` to binary64 exceeds `q` by at most the relative error `2^-53` plus
    half a subnormal ulp -/
theorem rne_le_bound {q : ℚ} (hq : 0 ≤ q) :
    rne 53 (-1074) q ≤ q * (1 + 1 / 2 ^ 53) + pow2 (-1075) := by
  have hd := pow2_pos (-1075)
  rcases eq_or_lt_of_le hq with h | h
  · subst h; rw [rne_zero]; linarith
  · have herr := (abs_le.mp (rne_err_pos 53 (-1074) h)).2
    have hb : pow2 (expo 53 (-1074) q) / 2 ≤ q * (1 / 2 ^ 53) + pow2 (-1075) := by
      rcases le_or_gt (-1074) (ilog2 q - (((53 : Nat) : Int) - 1)) with hn | hn
      · have := half_ulp_le 53 (-1074) h hn
        rw [pow2_neg_eq] at this; linarith
      · have hex : expo 53 (-1074) q = -1074 := by have := expo_spec 53 (-1074) q; omega
        have : 0 ≤ q * (1 / 2 ^ 53) := by positivity
        rw [hex, pow2_neg1074]; linarith
    linarith

/-- at most half the smallest subnormal rounds to zero (the tie goes to the even neighbour 0) -/
theorem rne_tiny {q : ℚ} (h0 : 0 ≤ q) (h : q ≤ pow2 (-1075)) : rne 53 (-1074) q = 0 := by
  have hd := pow2_pos (-1075)
  have hz : rne 53 (-1074) (pow2 (-1075)) = 0 := by
    rw [rne_pos_eq 53 (-1074) hd]
    have hil : ilog2 (pow2 (-1075)) < -1074 :=
      ilog2_lt_of_lt_pow2 hd (pow2_lt_pow2 (by norm_num))
    have hex : expo 53 (-1074) (pow2 (-1075)) = -1074 := by
      have := expo_spec 53 (-1074) (pow2 (-1075)); omega
    rw [hex]
    have hdiv : pow2 (-1075) / pow2 (-1074) = 1 / 2 := by
      rw [pow2_neg1074]; field_simp
    rw [hdiv]
    have : roundHalfEven (1 / 2) = 0 := by decide +kernel
    rw [this]; simp
  have h1 := rne_mono 53 (by decide) (-1074) h
  have h2 := rne_nonneg 53 (-1074) h0
  rw [hz] at h1
  exact le_antisymm h1 h2

/-- two roundings with relative error `2^-53` and absolute error `δ` each, a factor `1/4` in
    between: from `D ≥ 6δ` the result stays below `D/2` -/
theorem two_roundings_lt_half {D s r δ : ℚ} (hδ : 0 < δ) (hD : 6 * δ ≤ D)
    (hs : s ≤ D * (1 + 1 / 2 ^ 53) + δ) (hr : r ≤ s / 4 * (1 + 1 / 2 ^ 53) + δ) : r < D / 2 := by
  linarith

/-- the heart of the promptness bound: for doubles `a < b` and a unit value `v ≤ 1/4` the rounded
    product `fl(v · fl(b − a))` is strictly below half the exact width -/
theorem quarter_prod_lt_half {a b v : ℚ} (ha : Rep 53 (-1074) a) (hb : Rep 53 (-1074) b)
    (hab : a < b) (hv0 : 0 ≤ v) (hv : v ≤ 1 / 4) :
    rne 53 (-1074) (v * rne 53 (-1074) (b - a)) < (b - a) / 2 := by
  obtain ⟨Na, rfl⟩ := rep_grid ha
  obtain ⟨Nb, rfl⟩ := rep_grid hb
  have hg := pow2_pos (-1074)
  have hd := pow2_pos (-1075)
  have hN : Na < Nb := by
    by_contra hc
    have : (Nb : ℚ) ≤ (Na : ℚ) := by exact_mod_cast not_lt.mp hc
    have := mul_le_mul_of_nonneg_right this hg.le
    linarith
  have hD : (Nb : ℚ) * pow2 (-1074) - (Na : ℚ) * pow2 (-1074) = ((Nb - Na : Int) : ℚ) * pow2 (-1074) := by
    push_cast; ring
  rw [hD]
  set N : Int := Nb - Na with hNdef
  have hN1 : 1 ≤ N := by omega
  set D : ℚ := (N : ℚ) * pow2 (-1074) with hDdef
  have hD0 : 0 < D := mul_pos (by exact_mod_cast hN1) hg
  rcases (by omega : N ≤ 2 ∨ 3 ≤ N) with hs | hs
  · -- width of one or two subnormal steps: exact difference, the product rounds to zero
    have hrep : Rep 53 (-1074) D := ⟨N, -1074, le_refl _, by rw [abs_of_nonneg (by omega)]; omega, rfl⟩
    rw [rne_eq_self_of_rep 53 (-1074) hrep]
    have hDle : D ≤ 2 * pow2 (-1074) := by
      have : (N : ℚ) ≤ 2 := by exact_mod_cast hs
      exact mul_le_mul_of_nonneg_right this hg.le
    have hvD : v * D ≤ pow2 (-1075) := by
      have : v * D ≤ 1 / 4 * D := mul_le_mul_of_nonneg_right hv hD0.le
      rw [pow2_neg1074] at hDle; linarith
    rw [rne_tiny (mul_nonneg hv0 hD0.le) hvD]
    linarith
  · have hDge : 6 * pow2 (-1075) ≤ D := by
      have h3 : (3 : ℚ) ≤ (N : ℚ) := by exact_mod_cast hs
      have := mul_le_mul_of_nonneg_right h3 hg.le
      rw [hDdef]; rw [pow2_neg1074] at this ⊢; linarith
    set s := rne 53 (-1074) D with hsdef
    have hs0 : 0 ≤ s := rne_nonneg 53 (-1074) hD0.le
    have hsb : s ≤ D * (1 + 1 / 2 ^ 53) + pow2 (-1075) := rne_le_bound hD0.le
    have hvs : v * s ≤ s / 4 := by
      have := mul_le_mul_of_nonneg_right hv hs0; linarith
    have h1 : rne 53 (-1074) (v * s) ≤ rne 53 (-1074) (s / 4) := rne_mono 53 (by decide) (-1074) hvs
    exact two_roundings_lt_half hd hDge hsb (le_trans h1 (rne_le_bound (by linarith)))

end Fp

namespace C13
open Fp

/-- promptness: for a validated range with `low ≠ high`, every word whose unit value is at
    most `1/4` ends the `sample_single` retry loop at once -/
theorem uniformF64_quarter {lo hi : F64} (h : Validate.distType (.uniform lo hi) = true)
    (hne : feq (val64 lo) (val64 hi) = false) (w : UInt64) (hw : unit64 w ≤ 1 / 4) :
    (uniformF64 lo hi w).isSome = true := by
  obtain ⟨a, b, s, hl, hh, hab, hs, hs0⟩ := uniform_range_facts h hne
  obtain ⟨hra, hba⟩ := val64_rep lo hl
  obtain ⟨hrb, hbb⟩ := val64_rep hi hh
  rw [abs_lt] at hba hbb
  rw [hh, hl, sub_fin_fin] at hs
  obtain ⟨hsr, hsmax, _⟩ := Fmt.round_fin_bound f64 hs
  have hsr' : s = rne 53 (-1074) (b - a) := hsr
  have hv0 := unit64_nonneg w
  set v := unit64 w with hvdef
  have hsrep : Rep 53 (-1074) s := by rw [hsr']; exact rne_rep 53 (by decide) _ _
  have hvs : v * s ≤ s := by
    have := mul_le_mul_of_nonneg_right hw hs0; linarith
  set pr := rne 53 (-1074) (v * s) with hprdef
  have hpr0 : 0 ≤ pr := rne_nonneg 53 (-1074) (mul_nonneg hv0 hs0)
  have hmul : f64.round (v * s) = .fin pr :=
    Fmt.round_fin_of_le f64 (by decide) (mul_nonneg hv0 hs0) hsrep hvs hsmax
  have hprlt : pr < (b - a) / 2 := by
    rw [hprdef, hsr']; exact quarter_prod_lt_half hra hrb hab hv0 hw
  -- the sum stays in `[a, b)`
  have hlt : rne 53 (-1074) (pr + a) < b :=
    rne_lt_of_lt_mid 53 (by decide) (-1074) hra hrb hab (by linarith)
  have hge : a ≤ rne 53 (-1074) (pr + a) :=
    le_rne_of_rep_le 53 (by decide) (-1074) hra (by linarith)
  have hadd : f64.round (pr + a) = .fin (rne 53 (-1074) (pr + a)) :=
    f64.round_eq_fin (lt_trans hlt hbb.2) (lt_of_lt_of_le hba.1 hge)
  have hres : uniformRes lo hi w = .fin (rne 53 (-1074) (pr + a)) := by
    unfold uniformRes
    simp only []
    rw [hh, hl, sub_fin_fin, hs]
    simp only [mul]
    rw [← hvdef, hmul]
    simp only [add]
    exact hadd
  unfold uniformF64
  rw [hres, hh]
  simp [hlt]

/-- the unit value of the word with mantissa bits `m` and discarded low bits `r` -/
theorem unit64_word (m r : Nat) (hm : m < 2 ^ 52) (hr : r < 2 ^ 12) :
    unit64 (UInt64.ofNat (m * 2 ^ 12 + r)) = (m : ℚ) / 2 ^ 52 := by
  have hlt : m * 2 ^ 12 + r < 2 ^ 64 := by omega
  have htn : (UInt64.ofNat (m * 2 ^ 12 + r)).toNat = m * 2 ^ 12 + r := by
    rw [UInt64.toNat_ofNat']; exact Nat.mod_eq_of_lt hlt
  have hdiv : (m * 2 ^ 12 + r) / 2 ^ 12 = m := by omega
  unfold unit64
  rw [htn, hdiv]
  norm_num

/-- the adjacent doubles `2^-1021·(1+2^-52)`, `2^-1021·(1+2^-51)`, on which the bound `1/4` is
    attained, are a validated range -/
theorem adjacent_range_valid :
    Validate.distType (.uniform 0x0020000000000001 0x0020000000000002) = true := by decide +kernel

end C13
end Mb
