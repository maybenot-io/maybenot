/-
  Causality of C15 at trace level, in Hall-condition form: for every instant `T`, the number of
  TunnelRecv events of one kind on one side with time ≤ T is at most the number of TunnelSent
  events of the same kind on the other side with time + delay ≤ T.  (For time-sorted lists this
  is equivalent to an injection from receipts to earlier sends at least one delay before.)
-/
import MbVerif.Proofs.SimFuture
import MbVerif.Proofs.SimLoopInd

namespace Mb.Sim
open Mb

/-- count of a predicate over all heaps of one side's queue -/
def qcount (p : SimEvent → Bool) (q : EventQueue) : Nat :=
  q.base.data.countP p + q.blocking.data.countP p + q.bypassable.data.countP p + q.internal.data.countP p

def tcount (p : SimEvent → Bool) (sq : SimQueue) : Nat := qcount p sq.client + qcount p sq.server

theorem push_qcount (p : SimEvent → Bool) (q : EventQueue) (e : SimEvent) :
    qcount p (q.push e) = qcount p q + b2n (p e) := by
  unfold EventQueue.push
  split
  · split <;> simp only [qcount, EvHeap.push, heap_push_countP] <;> omega
  · simp only [qcount, EvHeap.push, heap_push_countP]; omega
  · simp only [qcount, EvHeap.push, heap_push_countP]; omega

theorem pushSim_tcount (p : SimEvent → Bool) (sq : SimQueue) (e : SimEvent) :
    tcount p (sq.pushSim e) = tcount p sq + b2n (p e) := by
  unfold SimQueue.pushSim SimQueue.setSide SimQueue.side tcount
  cases e.client <;> simp only [if_true, Bool.false_eq_true, if_false] <;> rw [push_qcount] <;> omega

theorem pop_qcount (p : SimEvent → Bool) {q q' : EventQueue} {qi : Queue} {ds : Nat} {e : SimEvent}
    (h : q.pop qi ds = .ok (some (e, q'))) :
    ∃ hd, qcount p q = qcount p q' + b2n (p hd) ∧ e = { hd with time := hd.time + qShift qi ds } := by
  obtain ⟨hd, h', hp, he, hq⟩ := EventQueue.pop_some h
  have hc := (heap_pop_countP p SimEvent.le hp).1
  have hb := hq .base
  have hk := hq .blocking
  have hy := hq .bypassable
  have hi := hq .internal
  refine ⟨hd, ?_, he⟩
  cases qi <;> simp only [EventQueue.heap, reduceCtorEq, if_true, if_false] at hc hb hk hy hi <;>
    simp only [qcount, hb, hk, hy, hi] <;> omega

theorem simQueue_pop_tcount (p : SimEvent → Bool) {s s' : SimQueue} {qi : Queue} {cl : Bool} {ds : Nat} {e : SimEvent}
    (h : s.pop qi cl ds = .ok (some (e, s'))) :
    ∃ hd, tcount p s = tcount p s' + b2n (p hd) ∧ sameButTime e hd ∧ hd.time ≤ e.time := by
  obtain ⟨q', hr, rfl⟩ := SimQueue.pop_some h
  obtain ⟨hd, hc, rfl⟩ := pop_qcount p hr
  refine ⟨hd, ?_, ⟨rfl, rfl, rfl, rfl, rfl⟩, by unfold qShift; split <;> simp <;> omega⟩
  cases cl <;> simp only [tcount, SimQueue.side, SimQueue.setSide, if_true, Bool.false_eq_true, if_false] at hc ⊢ <;> omega

/-- a predicate on events that only depends on the time through an upper bound, and only holds
    for TunnelRecv events -/
structure RecvPred (p : SimEvent → Bool) : Prop where
  recv : ∀ e, p e = true → e.event = .tunnelRecv
  mono : ∀ e hd, e.event = hd.event → e.client = hd.client → e.containsPadding = hd.containsPadding →
    hd.time ≤ e.time → p e = true → p hd = true

theorem RecvPred.false_of {p : SimEvent → Bool} (hp : RecvPred p) (e : SimEvent) (h : e.event ≠ .tunnelRecv) :
    p e = false := by
  cases hpe : p e with
  | false => rfl
  | true => exact absurd (hp.recv e hpe) h

/-- a popped event, put back or handed on with its kind and side and not earlier, counts at most
    as it did in the queue -/
theorem RecvPred.pop_le {p : SimEvent → Bool} (hp : RecvPred p) {s s' : SimQueue} {qi : Queue} {cl : Bool} {ds : Nat}
    {e e' : SimEvent} (h : s.pop qi cl ds = .ok (some (e, s'))) (h1 : e'.event = e.event) (h2 : e'.client = e.client)
    (h3 : e'.containsPadding = e.containsPadding) (h4 : e.time ≤ e'.time) :
    tcount p s' + b2n (p e') ≤ tcount p s := by
  obtain ⟨hd, hc, hsame, hle⟩ := simQueue_pop_tcount p h
  cases hpe : p e' with
  | false => show tcount p s' + 0 ≤ _; omega
  | true =>
    rw [hp.mono e' hd (h1.trans hsame.1) (h2.trans hsame.2.1) (h3.trans hsame.2.2.1) (Int.le_trans hle h4) hpe] at hc
    exact Nat.le_of_eq hc.symm

section
variable {σ : Type} {p : SimEvent → Bool}

theorem doInternalTimer_keeps {st st' : St σ} {t : Int} {e : SimEvent} (h : doInternalTimer st t = .ok (e, st')) :
    e.event ≠ .tunnelRecv ∧ st'.sq = st.sq ∧ st'.net = st.net := by
  obtain ⟨c, i, t', -, rfl, rfl⟩ := doInternalTimer_ok h
  exact ⟨by simp, setSide_sq _ _ _, setSide_net _ _ _⟩

theorem doScheduledAction_keeps {st st' : St σ} {t : Int} {e : SimEvent} (h : doScheduledAction st t = .ok (e, st')) :
    e.event ≠ .tunnelRecv ∧ st'.sq = st.sq ∧ st'.net = st.net := by
  obtain ⟨c, i, a, sd, -, rfl, -, -, -, -, -, hev⟩ := doScheduledAction_ok h
  refine ⟨?_, setSide_sq _ _ _, setSide_net _ _ _⟩
  rcases hev with ⟨_, _, _, _, -, he, -⟩ | ⟨_, _, _, _, _, -, he⟩ <;> rw [he] <;> simp

theorem popAggregateDelay_network {b b' : Bottleneck} (h : b.popAggregateDelay = .ok b') : b'.network = b.network := by
  unfold Bottleneck.popAggregateDelay at h
  split at h
  · cases h; rfl
  · split at h <;> (rw [bind_ok_iff] at h; obtain ⟨v, -, h⟩ := h; cases h; rfl)

theorem blockExpNet_network {sq : SimQueue} {net net' : Bottleneck} {c : Bool} {t : Int}
    (h : blockExpNet sq net c t = .ok net') : net'.network = net.network := by
  unfold blockExpNet at h
  split at h
  · split at h
    · split at h
      · exact pushAggregateDelay_network h
      · cases h; rfl
    · cases h; rfl
  · cases h; rfl

/-- `pick_next`: the network model is kept; the returned event left the queues (or is a
    BlockingEnd), and nothing that counts was added -/
theorem pickNext_causal (hp : RecvPred p) : ∀ (fuel : Nat) (st st' : St σ) (e : Option SimEvent),
    pickNext fuel st = some (.ok (e, st')) →
    st'.net.network = st.net.network ∧ ∀ ev, e = some ev → tcount p st'.sq + b2n (p ev) ≤ tcount p st.sq := by
  refine pickNext_ok_induct (motive := fun st e st' => st'.net.network = st.net.network ∧
    ∀ ev, e = some ev → tcount p st'.sq + b2n (p ev) ≤ tcount p st.sq) ?_ ?_ ?_ ?_ ?_ ?_
  · intro st _
    exact ⟨rfl, fun _ h => nomatch h⟩
  · intro st st1 e st' _ ha ih
    obtain ⟨-, net, hn, rfl⟩ := pickAgg_ok_iff.1 ha
    exact ⟨ih.1.trans (popAggregateDelay_network hn), ih.2⟩
  · intro st b c e st' _ hb
    obtain ⟨net, hn, rfl, rfl⟩ := pickBlockExp_ok_iff.1 hb
    refine ⟨blockExpNet_network hn, fun ev hev => ?_⟩
    cases hev
    rw [hp.false_of _ (by simp)]
    show tcount p (St.setSide _ _ _).sq + 0 ≤ _
    rw [setSide_sq]
    exact Nat.le_refl _
  · intro st q qid c e st' _ hq
    obtain ⟨tmp, sq, hpop, rfl, rfl⟩ := pickQueue_ok_iff.1 hq
    refine ⟨rfl, fun ev hev => ?_⟩
    cases hev
    exact hp.pop_le hpop rfl rfl rfl (Int.le_max_left _ _)
  · intro st st1 i e st' _ ht ih
    obtain ⟨ev, st2, h1, rfl⟩ := pickTimer_ok_iff.1 ht
    obtain ⟨hev, hsq, hnet⟩ := doInternalTimer_keeps h1
    have hc : tcount p (st2.sq.pushSim ev) = tcount p st.sq := by
      rw [pushSim_tcount, hp.false_of ev hev, hsq]; rfl
    exact ⟨ih.1.trans (congrArg _ hnet), fun x hx => hc ▸ ih.2 x hx⟩
  · intro st st1 s e st' _ ha ih
    obtain ⟨ev, st2, h1, rfl⟩ := pickAction_ok_iff.1 ha
    obtain ⟨hev, hsq, hnet⟩ := doScheduledAction_keeps h1
    have hc : tcount p (st2.sq.pushSim ev) = tcount p st.sq := by
      rw [pushSim_tcount, hp.false_of ev hev, hsq]; rfl
    exact ⟨ih.1.trans (congrArg _ hnet), fun x hx => hc ▸ ih.2 x hx⟩

theorem applyAction_tcount (hp : RecvPred p) {a : TAction} {sd sd' : Side σ} {sq sq' : SimQueue} {now : Int} {cl : Bool}
    (h : applyAction sd sq now cl a = .ok (sd', sq')) : tcount p sq' = tcount p sq := by
  rcases applyAction_queue h with hq | ⟨_, _, m, _, _, hq⟩
  · rw [hq]
  · rw [hq, pushSim_tcount, hp.false_of _ (by simp)]; rfl

end
/-- a TunnelRecv of kind `pd` on side `c` with time at most `T` -/
def recvP (c pd : Bool) (T : Int) (e : SimEvent) : Bool :=
  e.event == .tunnelRecv && e.client == c && e.containsPadding == pd && decide (e.time ≤ T)

/-- a TunnelSent of kind `pd` on the other side, at least `d` before `T` -/
def sendP (c pd : Bool) (T : Int) (d : Nat) (e : SimEvent) : Bool :=
  e.event == .tunnelSent && e.client == !c && e.containsPadding == pd && decide (e.time + d ≤ T)

theorem recvP_pred (c pd : Bool) (T : Int) : RecvPred (recvP c pd T) := by
  constructor
  · intro e h
    simp only [recvP, Bool.and_eq_true, beq_iff_eq] at h
    exact h.1.1.1
  · intro e hd h1 h2 h3 h4 h
    simp only [recvP, Bool.and_eq_true, beq_iff_eq, decide_eq_true_eq] at h ⊢
    exact ⟨⟨⟨h1 ▸ h.1.1.1, h2 ▸ h.1.1.2⟩, h3 ▸ h.1.2⟩, by omega⟩

theorem replaceBypass_network {next : SimEvent} {sq sq' : SimQueue} {qid : Queue} {byp : Bool} {net net' : Bottleneck}
    {now : Int} (h : replaceBypass next sq qid byp net now = .ok (sq', net')) : net'.network = net.network := by
  unfold replaceBypass at h
  rw [bind_ok_iff] at h
  obtain ⟨_ | ⟨entry, sq2⟩, -, h⟩ := h
  · cases h
  · simp only [] at h
    rw [bind_ok_iff] at h
    obtain ⟨n2, hn2, h⟩ := h
    cases h
    unfold replaceAgg at hn2
    split at hn2
    · have := pushAggregateDelay_network hn2; exact this
    · cases hn2; rfl

theorem netPaddingSent_network {next : SimEvent} {sq sq' : SimQueue} {byp : Bool} {net net' : Bottleneck} {now : Int}
    (h : netPaddingSent next sq byp net now = .ok (sq', net')) : net'.network = net.network := by
  unfold netPaddingSent at h
  simp only [] at h
  split at h
  · split at h
    · split at h
      · split at h
        · cases h; rfl
        · exact replaceBypass_network h
      · cases h; rfl
    · cases h; rfl
  · cases h; rfl

theorem netTunnelSent_network {next : SimEvent} {sq sq' : SimQueue} {net net' : Bottleneck} {now : Int}
    (h : netTunnelSent next sq net now = .ok (sq', net')) : net'.network = net.network := by
  unfold netTunnelSent at h
  rw [bind_ok_iff] at h
  obtain ⟨⟨r, n1⟩, hs, h⟩ := h
  rw [bind_ok_iff] at h
  obtain ⟨n2, hn2, h⟩ := h
  cases h
  rw [ppsAgg_network hn2, (sample_spec hs).2]

/-- the network stack adds at most one TunnelRecv, only for a TunnelSent, at least one delay later -/
theorem simNetworkStack_causal (c pd : Bool) (T : Int) {next : SimEvent} {sq sq' : SimQueue} {byp : Bool}
    {net net' : Bottleneck} {now : Int} {na : Bool}
    (h : simNetworkStack next sq byp net now = .ok (na, sq', net')) :
    tcount (recvP c pd T) sq' ≤ tcount (recvP c pd T) sq + b2n (sendP c pd T net.network.delay next) ∧
    net'.network = net.network := by
  have hp := recvP_pred c pd T
  have push0 : ∀ e : SimEvent, e.event ≠ .tunnelRecv →
      tcount (recvP c pd T) (sq.pushSim e) ≤ tcount (recvP c pd T) sq + b2n (sendP c pd T net.network.delay next) := by
    intro e he
    rw [pushSim_tcount, hp.false_of e he]
    exact Nat.le_add_right _ _
  unfold simNetworkStack at h
  split at h
  · cases h
    exact ⟨push0 _ (by simp), rfl⟩
  · rw [map_ok_iff] at h
    obtain ⟨⟨sq1, net1⟩, h1, h2⟩ := h
    cases h2
    refine ⟨?_, netPaddingSent_network h1⟩
    rcases netPaddingSent_spec h1 with hq | hq | ⟨qid, entry, sq2, hpop, hq⟩
    · rw [hq]; exact push0 _ (by simp)
    · rw [hq]; exact Nat.le_add_right _ _
    · rw [hq, pushSim_tcount]
      have hpop' : ∃ qi ds, sq.pop qi next.client ds = .ok (some (entry, sq2)) := by
        unfold SimQueue.popBlocking at hpop
        split at hpop <;> exact ⟨_, _, hpop⟩
      obtain ⟨qi, ds, hpp⟩ := hpop'
      exact Nat.le_trans (hp.pop_le hpp rfl rfl rfl (Int.le_refl _)) (Nat.le_add_right _ _)
  · rename_i hev
    rw [map_ok_iff] at h
    obtain ⟨⟨sq1, net1⟩, h1, h2⟩ := h
    cases h2
    obtain ⟨t, hq, hle⟩ := netTunnelSent_spec h1
    refine ⟨?_, netTunnelSent_network h1⟩
    rw [hq, pushSim_tcount]
    apply Nat.add_le_add_left
    -- the TunnelRecv counts only if its TunnelSent does
    cases hr : recvP c pd T ⟨.tunnelRecv, t, !next.client, next.containsPadding, false, false⟩ with
    | false => exact Nat.zero_le _
    | true =>
      have hs : sendP c pd T net.network.delay next = true := by
        simp only [recvP, sendP, Bool.and_eq_true, beq_iff_eq, decide_eq_true_eq] at hr ⊢
        exact ⟨⟨⟨hev, by rw [← hr.1.1.2, Bool.not_not]⟩, hr.1.2⟩, by omega⟩
      rw [hs]; exact Nat.le_refl _
  · split at h <;> (cases h; exact ⟨push0 _ (by simp), rfl⟩)
  · cases h
    exact ⟨Nat.le_add_right _ _, rfl⟩

section
variable {σ : Type} (ρ : Oracle σ)

theorem step_causal (c pd : Bool) (T : Int) {st st' : St σ} {r : StepRec} (h : step ρ st = .ok (some (r, st'))) :
    tcount (recvP c pd T) st'.sq + b2n (recvP c pd T r.ev) ≤
      tcount (recvP c pd T) st.sq + b2n (sendP c pd T st.net.network.delay r.ev) ∧
    st'.net.network = st.net.network := by
  have hp := recvP_pred c pd T
  obtain ⟨st1, sq, net, hpk, -, hs, ht⟩ := (step_some_iff ρ).1 h
  obtain ⟨-, -, sd, sq2, h5, rfl⟩ := (triggerUpdate_ok_iff ρ).1 ht
  obtain ⟨hn1, hc1⟩ := pickNext_causal hp _ _ _ _ hpk
  obtain ⟨hc2, hn2⟩ := simNetworkStack_causal c pd T hs
  have hc3 : tcount (recvP c pd T) sq2 = tcount (recvP c pd T) sq :=
    applyActions_inv (R := fun _ q => tcount (recvP c pd T) q = tcount (recvP c pd T) sq)
      (fun _ _ _ _ _ hq h => (applyAction_tcount hp h).trans hq) _ rfl h5
  have hc1 := hc1 _ rfl
  rw [hn1] at hc2
  refine ⟨?_, ?_⟩
  · show tcount _ sq2 + _ ≤ _
    omega
  · show (St.setSide _ _ _).net.network = _
    rw [setSide_net]
    exact hn2.trans hn1

/-- Causality along the loop (Hall form): receipts processed from here on are covered by
    receipts already queued plus sends processed from here on -/
theorem loop_causal (args : Args) (c pd : Bool) (T : Int) : ∀ (fuel : Nat) (st : St σ) (iters cnt : Nat),
    (loop ρ args fuel st iters cnt).stream.countP (fun r => recvP c pd T r.ev) ≤
      tcount (recvP c pd T) st.sq +
        (loop ρ args fuel st iters cnt).stream.countP (fun r => sendP c pd T st.net.network.delay r.ev) := by
  refine loop_induct ρ args (P := fun _ st _ _ o => o.stream.countP (fun r => recvP c pd T r.ev) ≤
    tcount (recvP c pd T) st.sq + o.stream.countP (fun r => sendP c pd T st.net.network.delay r.ev)) ?_ ?_ ?_ ?_ ?_
  · intro st _ _; exact Nat.zero_le _
  · intro _ st _ _ _ _; exact Nat.zero_le _
  · intro _ st _ _ _; exact Nat.zero_le _
  · intro _ st _ _ r st' _ hs _
    have h1 := (step_causal ρ c pd T hs).1
    unfold b2n at h1
    simp only [List.countP_cons, List.countP_nil]
    omega
  · intro _ st _ _ r st' o hs _ ih
    obtain ⟨h1, h2⟩ := step_causal ρ c pd T hs
    unfold b2n at h1
    rw [h2] at ih
    simp only [List.countP_cons]
    omega

theorem parseTrace_no_recv (p : SimEvent → Bool) (hp : RecvPred p) (trace : List TraceLine) (delay : Nat) :
    tcount p (parseTrace trace delay) = 0 := by
  unfold parseTrace
  refine List.foldlRecOn (motive := fun (acc : ParseAcc) => tcount p acc.sq = 0) trace _ rfl ?_
  intro acc h l _
  simp only []
  split <;> (simp only []; rw [pushSim_tcount, hp.false_of _ (by simp), h]; rfl)

theorem initState_network {mc ms : List Machine} {sq : SimQueue} {a : Args} {orc : σ} {st : St σ}
    (h : initState ρ mc ms sq a orc = .ok st) : st.net.network = a.network := by
  obtain ⟨t0, c, o1, s, o2, net, -, -, -, hn, rfl⟩ := (initState_ok_iff ρ).1 h
  unfold Bottleneck.new at hn
  simp only [] at hn
  split at hn <;> cases hn
  rfl

end
end Mb.Sim
