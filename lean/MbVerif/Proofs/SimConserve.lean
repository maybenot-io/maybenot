/-
  Conservation of normal packets: per side, (normal packets still waiting in the queues) +
  (normal TunnelSent events processed so far) is constant along a run.
-/
import MbVerif.Proofs.SimRaw
import MbVerif.Proofs.SimQueueCount
import MbVerif.Proofs.SimNet
import MbVerif.Proofs.SimSlots

namespace Mb.Sim
open Mb

structure SimQueue.WF (s : SimQueue) : Prop where
  client : s.client.WF true
  server : s.server.WF false

def SimQueue.pending (s : SimQueue) (c : Bool) : Nat := (s.side c).pending

/-- the contribution of event `e` to side `c`'s waiting normal packets -/
def wSide (c : Bool) (e : SimEvent) : Nat := b2n (e.client == c && wN e)

theorem SimQueue.empty_wf : SimQueue.empty.WF := ⟨EventQueue.empty_wf _, EventQueue.empty_wf _⟩

theorem pushSim_spec (s : SimQueue) (e : SimEvent) (hw : s.WF) :
    (s.pushSim e).WF ∧ ∀ c, (s.pushSim e).pending c = s.pending c + wSide c e := by
  unfold SimQueue.pushSim SimQueue.setSide SimQueue.side
  cases hc : e.client with
  | true =>
    have := EventQueue.push_spec s.client true e hw.client hc
    simp only [if_true]
    refine ⟨⟨this.1, hw.server⟩, ?_⟩
    intro c
    cases c <;> simp [SimQueue.pending, SimQueue.side, wSide, hc, b2n, this.2]
  | false =>
    have := EventQueue.push_spec s.server false e hw.server hc
    simp only [Bool.false_eq_true, if_false]
    refine ⟨⟨hw.client, this.1⟩, ?_⟩
    intro c
    cases c <;> simp [SimQueue.pending, SimQueue.side, wSide, hc, b2n, this.2]

theorem simQueue_pop_spec (s s' : SimQueue) (qi : Queue) (cl : Bool) (ds : Nat) (e : SimEvent) (hw : s.WF)
    (h : s.pop qi cl ds = .ok (some (e, s'))) :
    s'.WF ∧ (∀ c, s.pending c = s'.pending c + wSide c e) ∧ e.client = cl ∧
    (qi = .internal → isTS e = false ∧ isNS e = false) ∧ (qi = .base → isNS e = true) ∧
    (qi = .blocking → isTS e = true ∧ e.bypass = false) ∧ (qi = .bypassable → isTS e = true ∧ e.bypass = true) := by
  obtain ⟨q', hr, rfl⟩ := SimQueue.pop_some h
  cases cl with
  | true =>
    obtain ⟨h1, h2, h3, h4⟩ := EventQueue.pop_spec s.client q' true qi ds e hw.client hr
    refine ⟨⟨h1, hw.server⟩, fun c => ?_, h3, h4⟩
    cases c <;> simp [SimQueue.pending, SimQueue.side, SimQueue.setSide, wSide, h3, b2n, h2]
  | false =>
    obtain ⟨h1, h2, h3, h4⟩ := EventQueue.pop_spec s.server q' false qi ds e hw.server hr
    refine ⟨⟨hw.client, h1⟩, fun c => ?_, h3, h4⟩
    cases c <;> simp [SimQueue.pending, SimQueue.side, SimQueue.setSide, wSide, h3, b2n, h2]

section
variable {σ : Type}

theorem pickQueue_conserve {st st' : St σ} {q : Nat} {qid : Queue} {cl : Bool} {e : SimEvent} (hw : st.sq.WF)
    (h : pickQueue st q qid cl = .ok (e, st')) :
    st'.sq.WF ∧ ∀ c, st.sq.pending c = st'.sq.pending c + wSide c e := by
  obtain ⟨tmp, sq, hr, rfl, rfl⟩ := pickQueue_ok_iff.1 h
  have := simQueue_pop_spec st.sq sq qid cl _ tmp hw hr
  exact ⟨this.1, this.2.1⟩

theorem doInternalTimer_ev {st st' : St σ} {t : Int} {e : SimEvent} (h : doInternalTimer st t = .ok (e, st')) :
    st'.sq = st.sq ∧ wN e = false := by
  obtain ⟨c, i, t', _, rfl, rfl⟩ := doInternalTimer_ok h
  exact ⟨setSide_sq _ _ _, rfl⟩

theorem doScheduledAction_ev {st st' : St σ} {t : Int} {e : SimEvent} (h : doScheduledAction st t = .ok (e, st')) :
    st'.sq = st.sq ∧ wN e = false := by
  obtain ⟨c, i, a, sd, _, rfl, _, _, _, _, _, hev⟩ := doScheduledAction_ok h
  refine ⟨setSide_sq _ _ _, ?_⟩
  rcases hev with ⟨_, _, _, _, _, hm, _⟩ | ⟨_, _, _, _, _, _, hm⟩ <;> simp [wN, isNS, isTS, hm]

theorem wSide_weightless (c : Bool) {e : SimEvent} (h : wN e = false) : wSide c e = 0 := by
  rw [wSide, h, Bool.and_false]; rfl

theorem pushSim_weightless {sq : SimQueue} {ev : SimEvent} (hw : sq.WF) (h : wN ev = false) :
    (sq.pushSim ev).WF ∧ ∀ c, (sq.pushSim ev).pending c = sq.pending c := by
  have := pushSim_spec sq ev hw
  exact ⟨this.1, fun c => by rw [this.2 c, wSide_weightless c h]; rfl⟩

theorem pickTimer_conserve {st st' : St σ} {i : Nat} (hw : st.sq.WF) (h : pickTimer st i = .ok st') :
    st'.sq.WF ∧ ∀ c, st'.sq.pending c = st.sq.pending c := by
  obtain ⟨ev, st1, h1, rfl⟩ := pickTimer_ok_iff.1 h
  obtain ⟨hsq, hn⟩ := doInternalTimer_ev h1
  rw [← hsq] at hw ⊢
  exact pushSim_weightless hw hn

theorem pickAction_conserve {st st' : St σ} {s : Nat} (hw : st.sq.WF) (h : pickAction st s = .ok st') :
    st'.sq.WF ∧ ∀ c, st'.sq.pending c = st.sq.pending c := by
  obtain ⟨ev, st1, h1, rfl⟩ := pickAction_ok_iff.1 h
  obtain ⟨hsq, hn⟩ := doScheduledAction_ev h1
  rw [← hsq] at hw ⊢
  exact pushSim_weightless hw hn

theorem pickAgg_sq {st st' : St σ} (h : pickAgg st = .ok st') : st'.sq = st.sq := by
  obtain ⟨_, net, _, rfl⟩ := pickAgg_ok_iff.1 h
  rfl

theorem pickBlockExp_sq {st st' : St σ} {b : Nat} {c : Bool} {e : SimEvent} (h : pickBlockExp st b c = .ok (e, st')) :
    st'.sq = st.sq := by
  obtain ⟨net, _, _, rfl⟩ := pickBlockExp_ok_iff.1 h
  exact setSide_sq _ _ _

theorem pickNext_conserve : ∀ (fuel : Nat) (st st' : St σ) (e : SimEvent), st.sq.WF →
    pickNext fuel st = some (.ok (some e, st')) →
    st'.sq.WF ∧ ∀ c, st.sq.pending c = st'.sq.pending c + wSide c e := by
  intro fuel st st' e hw h
  refine pickNext_ok_induct (motive := fun st e st' => ∀ e', e = some e' → st.sq.WF →
    st'.sq.WF ∧ ∀ c, st.sq.pending c = st'.sq.pending c + wSide c e') ?_ ?_ ?_ ?_ ?_ ?_ fuel st st' _ h e rfl hw
  · intro st _ e' h; cases h
  · intro st st1 e st' _ ha ih e' he hw
    rw [← pickAgg_sq ha] at hw ⊢
    exact ih e' he hw
  · intro st b c e st' _ hb e' he hw
    cases he
    rw [pickBlockExp_sq hb, pickBlockExp_ev hb]
    exact ⟨hw, fun c => by rw [wSide_weightless c rfl]; rfl⟩
  · intro st q qid c e st' _ hq e' he hw
    cases he
    exact pickQueue_conserve hw hq
  · intro st st1 i e st' _ ht ih e' he hw
    have hc := pickTimer_conserve hw ht
    have := ih e' he hc.1
    exact ⟨this.1, fun c => by rw [← hc.2 c]; exact this.2 c⟩
  · intro st st1 s e st' _ ha ih e' he hw
    have hc := pickAction_conserve hw ha
    have := ih e' he hc.1
    exact ⟨this.1, fun c => by rw [← hc.2 c]; exact this.2 c⟩

/-- the network stack: a NormalSent turns into a waiting normal TunnelSent; nothing else of
    weight is created; a bypass-replace pops and re-queues the same packet -/
theorem simNetworkStack_conserve {next : SimEvent} {sq sq' : SimQueue} {byp : Bool} {net net' : Bottleneck}
    {now : Int} {na : Bool} (hw : sq.WF) (h : simNetworkStack next sq byp net now = .ok (na, sq', net')) :
    sq'.WF ∧ ∀ c, sq'.pending c = sq.pending c + b2n (next.client == c && isNS next) := by
  -- an event that is not a NormalSent adds nothing: what it queues is not a waiting normal packet
  have zero : isNS next = false → ∀ {sq' : SimQueue}, (sq'.WF ∧ ∀ c, sq'.pending c = sq.pending c) →
      sq'.WF ∧ ∀ c, sq'.pending c = sq.pending c + b2n (next.client == c && isNS next) :=
    fun hns _ h => ⟨h.1, fun c => by rw [h.2 c, hns, Bool.and_false]; rfl⟩
  unfold simNetworkStack at h
  split at h
  · -- NormalSent
    rename_i hev
    cases h
    have := pushSim_spec sq ⟨.tunnelSent, next.time, next.client, false, false, false⟩ hw
    refine ⟨this.1, fun c => ?_⟩
    rw [this.2 c]
    simp [wSide, wN, isNS, isTS, hev]
  · -- PaddingSent
    rename_i m hev
    rw [map_ok_iff] at h
    obtain ⟨⟨sq1, net1⟩, h1, h2⟩ := h
    cases h2
    refine zero (by simp [isNS, hev]) ?_
    rcases netPaddingSent_spec h1 with hq | hq | ⟨qid, entry, sq2, hpop, hq⟩ <;> rw [hq]
    · exact pushSim_weightless hw (by simp [wN, isNS, isTS])
    · exact ⟨hw, fun _ => rfl⟩
    · -- bypass-replace: the blocked packet is popped and queued again
      have hpop' : ∃ qi ds, sq.pop qi next.client ds = .ok (some (entry, sq2)) := by
        unfold SimQueue.popBlocking at hpop
        split at hpop <;> exact ⟨_, _, hpop⟩
      obtain ⟨qi, ds, hp⟩ := hpop'
      have hps := simQueue_pop_spec sq sq2 qi next.client ds entry hw hp
      have := pushSim_spec sq2 { entry with bypass := true, replace := false } hps.1
      exact ⟨this.1, fun c => by rw [this.2 c, hps.2.1 c]; rfl⟩
  · -- TunnelSent
    rename_i hev
    rw [map_ok_iff] at h
    obtain ⟨⟨sq1, net1⟩, h1, h2⟩ := h
    cases h2
    obtain ⟨t, hq, _⟩ := netTunnelSent_spec h1
    rw [hq]
    exact zero (by simp [isNS, hev]) (pushSim_weightless hw rfl)
  · -- TunnelRecv
    rename_i hev
    split at h <;> cases h <;> exact zero (by simp [isNS, hev]) (pushSim_weightless hw rfl)
  · rename_i h1 h2 h3 h4
    cases h
    exact zero (by simp only [isNS, beq_eq_false_iff_ne]; exact h1) ⟨hw, fun _ => rfl⟩

theorem applyAction_conserve {sd sd' : Side σ} {sq sq' : SimQueue} {now : Int} {cl : Bool} {a : TAction}
    (hw : sq.WF) (h : applyAction sd sq now cl a = .ok (sd', sq')) :
    sq'.WF ∧ ∀ c, sq'.pending c = sq.pending c := by
  rcases applyAction_queue h with hq | ⟨_, _, m, _, _, hq⟩ <;> rw [hq]
  · exact ⟨hw, fun _ => rfl⟩
  · exact pushSim_weightless hw rfl

theorem applyActions_conserve (acts : List TAction) (sd sd' : Side σ) (sq sq' : SimQueue) (now : Int) (cl : Bool)
    (hw : sq.WF) (h : applyActions sd sq now cl acts = .ok (sd', sq')) :
    sq'.WF ∧ ∀ c, sq'.pending c = sq.pending c :=
  applyActions_inv (R := fun _ q => q.WF ∧ ∀ c, q.pending c = sq.pending c)
    (fun _ _ _ _ _ hr ha =>
      have hc := applyAction_conserve hr.1 ha
      ⟨hc.1, fun c => (hc.2 c).trans (hr.2 c)⟩)
    acts ⟨hw, fun _ => rfl⟩ h

end
/-- is this stream entry a normal packet leaving side `c`? -/
def sentNormal (c : Bool) (r : StepRec) : Bool := r.ev.client == c && isTS r.ev && !r.ev.containsPadding

theorem wSide_split (c : Bool) (e : SimEvent) :
    wSide c e = b2n (e.client == c && isNS e) + b2n (e.client == c && isTS e && !e.containsPadding) := by
  have hx : isNS e = true → isTS e = true → False := by
    unfold isNS isTS
    intro h1 h2
    rw [beq_iff_eq] at h1 h2
    rw [h1] at h2
    cases h2
  unfold wSide wN
  cases (e.client == c) <;> cases hn : isNS e <;> cases ht : isTS e <;> cases e.containsPadding <;>
    first | rfl | exact (hx hn ht).elim

section
variable {σ : Type} (ρ : Oracle σ)

theorem triggerUpdate_conserve {st st' : St σ} {next : SimEvent} {acts : List TAction} (hw : st.sq.WF)
    (h : triggerUpdate ρ st next = .ok (acts, st')) : st'.sq.WF ∧ ∀ c, st'.sq.pending c = st.sq.pending c := by
  obtain ⟨_, _, sd, sq, h1, rfl⟩ := (triggerUpdate_ok_iff ρ).1 h
  exact applyActions_conserve _ _ _ _ _ _ _ hw h1

theorem step_conserve {st st' : St σ} {r : StepRec} (hw : st.sq.WF) (h : step ρ st = .ok (some (r, st'))) :
    st'.sq.WF ∧ ∀ c, st.sq.pending c = st'.sq.pending c + b2n (sentNormal c r) := by
  obtain ⟨st1, sq, net, hp, _, hs, ht⟩ := (step_some_iff ρ).1 h
  have hc1 := pickNext_conserve _ _ _ _ hw hp
  have hc2 := simNetworkStack_conserve hc1.1 hs
  have hc3 := triggerUpdate_conserve ρ (st := { st1 with now := r.ev.time, sq := sq, net := net }) hc2.1 ht
  refine ⟨hc3.1, fun c => ?_⟩
  have e1 := hc1.2 c
  have e2 := hc2.2 c
  have e3 : st'.sq.pending c = sq.pending c := hc3.2 c
  rw [wSide_split] at e1
  simp only [sentNormal]
  omega

theorem countP_cons_b2n {α : Type} (p : α → Bool) (a : α) (l : List α) :
    (a :: l).countP p = l.countP p + b2n (p a) := List.countP_cons

/-- Conservation along the loop: what is processed never exceeds what was waiting, and when
    the loop ends with a final state the difference is what still waits -/
theorem loop_conserve (args : Args) : ∀ (fuel : Nat) (st : St σ) (iters cnt : Nat), st.sq.WF →
    (∀ c, (loop ρ args fuel st iters cnt).stream.countP (sentNormal c) ≤ st.sq.pending c) ∧
    (∀ stf, (loop ρ args fuel st iters cnt).final = some stf →
      stf.sq.WF ∧ ∀ c, st.sq.pending c = stf.sq.pending c + (loop ρ args fuel st iters cnt).stream.countP (sentNormal c)) := by
  intro fuel st iters cnt hw
  obtain ⟨st1, ⟨hw1, h1⟩, hf⟩ := loop_inv_stream ρ args
    (I := fun s acc => s.sq.WF ∧ ∀ c, st.sq.pending c = s.sq.pending c + acc.countP (sentNormal c))
    (fun s acc r s' h hs => by
      have hsc := step_conserve ρ h.1 hs
      refine ⟨hsc.1, fun c => ?_⟩
      rw [List.countP_append, countP_cons_b2n, List.countP_nil, Nat.zero_add, h.2 c, hsc.2 c]
      omega)
    fuel st iters cnt [] ⟨hw, fun _ => rfl⟩
  rw [List.nil_append] at h1
  exact ⟨fun c => by rw [h1 c]; exact Nat.le_add_left _ _, fun stf h => by rw [hf stf h]; exact ⟨hw1, h1⟩⟩

end

/-- number of lines of the trace in direction `c` (`true` = sent by the client) -/
def shareOf (trace : List TraceLine) (c : Bool) : Nat := trace.countP (fun l => l.2 == c)

def pushAll (sq : SimQueue) (l : List SimEvent) : SimQueue := l.foldl SimQueue.pushSim sq

/-- the base event `parse_trace` queues for a line -/
def nsOf (delay : Nat) (l : TraceLine) : SimEvent :=
  if l.2 then ⟨.normalSent, (l.1 : Int), true, false, false, false⟩
  else ⟨.normalSent, (l.1 : Int) - delay, false, false, false, false⟩

theorem parseTrace_sides (trace : List TraceLine) (delay : Nat) :
    (parseTrace trace delay).client = (pushAll SimQueue.empty (trace.map (nsOf delay))).client ∧
    (parseTrace trace delay).server = (pushAll SimQueue.empty (trace.map (nsOf delay))).server := by
  have step : ∀ (acc : ParseAcc) (l : TraceLine), (parseStep delay acc l).sq = acc.sq.pushSim (nsOf delay l) := by
    intro acc l
    unfold parseStep nsOf
    cases l.2 <;> rfl
  have key : ∀ (tr : List TraceLine) (acc : ParseAcc),
      (tr.foldl (parseStep delay) acc).sq = pushAll acc.sq (tr.map (nsOf delay)) := by
    intro tr
    induction tr with
    | nil => intro acc; rfl
    | cons l ls ih => intro acc; rw [List.foldl_cons, ih, step]; rfl
  rw [parseTrace_eq]
  simp only []
  rw [key]
  exact ⟨rfl, rfl⟩

theorem wSide_nsOf (delay : Nat) (l : TraceLine) (c : Bool) : wSide c (nsOf delay l) = b2n (l.2 == c) := by
  unfold nsOf
  cases l.2 <;> cases c <;> rfl

theorem pushAll_nsOf_spec (delay : Nat) : ∀ (tr : List TraceLine) (sq : SimQueue), sq.WF →
    (pushAll sq (tr.map (nsOf delay))).WF ∧
    ∀ c, (pushAll sq (tr.map (nsOf delay))).pending c = sq.pending c + shareOf tr c := by
  intro tr
  induction tr with
  | nil => intro sq hw; exact ⟨hw, fun c => rfl⟩
  | cons l ls ih =>
    intro sq hw
    have hp := pushSim_spec sq (nsOf delay l) hw
    have := ih _ hp.1
    refine ⟨this.1, fun c => (this.2 c).trans ?_⟩
    rw [hp.2 c, wSide_nsOf, show shareOf (l :: ls) c = shareOf ls c + b2n (l.2 == c) from countP_cons_b2n _ _ _]
    omega

theorem parseTrace_spec (trace : List TraceLine) (delay : Nat) :
    (parseTrace trace delay).WF ∧ ∀ c, (parseTrace trace delay).pending c = shareOf trace c := by
  obtain ⟨h1, h2⟩ := parseTrace_sides trace delay
  have := pushAll_nsOf_spec delay trace SimQueue.empty SimQueue.empty_wf
  refine ⟨⟨h1 ▸ this.1.client, h2 ▸ this.1.server⟩, fun c => ?_⟩
  have h := this.2 c
  rw [show SimQueue.empty.pending c = 0 by cases c <;> rfl, Nat.zero_add] at h
  rw [← h]
  cases c
  · exact congrArg EventQueue.pending h2
  · exact congrArg EventQueue.pending h1

theorem noNormal_pending_zero (sq : SimQueue) (hw : sq.WF) (h : sq.noNormalPackets = true) (c : Bool) :
    sq.pending c = 0 := by
  have key : ∀ (q : EventQueue) (c' : Bool), q.WF c' → q.noNormalPackets = true → q.pending = 0 := by
    intro q c' hq hn
    unfold EventQueue.noNormalPackets at hn
    simp only [Bool.and_eq_true] at hn
    obtain ⟨⟨⟨hb, hbl⟩, hby⟩, _⟩ := hn
    have h1 : q.base.data = [] := by
      simpa [Heap.isEmpty] using hb
    have h2 : q.blocking.data.countP wN = 0 := by
      rw [List.countP_eq_zero]
      intro x hx
      have hall := List.all_eq_true.1 hbl x hx
      have hts : isTS x = true := by
        have := List.countP_eq_zero.1 hq.blocking x hx
        simp at this; exact this.1.1
      simp [isTS] at hts
      simp [hts] at hall
    have h3 : q.bypassable.data.countP wN = 0 := by
      rw [List.countP_eq_zero]
      intro x hx
      have hall := List.all_eq_true.1 hby x hx
      have hts : isTS x = true := by
        have := List.countP_eq_zero.1 hq.bypassable x hx
        simp at this; exact this.1.1
      simp [isTS] at hts
      simp [hts] at hall
    simp [EventQueue.pending, h1, h2, h3]
  unfold SimQueue.noNormalPackets at h
  simp only [Bool.and_eq_true] at h
  cases c
  · exact key sq.server false hw.server h.2
  · exact key sq.client true hw.client h.1

section
variable {σ : Type} (ρ : Oracle σ)

theorem initState_sq {mc ms : List Machine} {sq : SimQueue} {a : Args} {orc : σ} {st : St σ}
    (h : initState ρ mc ms sq a orc = .ok st) : st.sq = sq := by
  obtain ⟨_, _, _, _, _, _, _, _, _, _, rfl⟩ := (initState_ok_iff ρ).1 h
  rfl

theorem loop_noNormal (args : Args) : ∀ (fuel : Nat) (st : St σ) (iters cnt : Nat),
    (loop ρ args fuel st iters cnt).stop = .noNormal →
    ∃ stf, (loop ρ args fuel st iters cnt).final = some stf ∧ stf.sq.noNormalPackets = true := by
  intro fuel st iters cnt h
  obtain ⟨stf, k, hf, _, hsc⟩ := loop_stopped ρ args fuel st iters cnt (Or.inr (Or.inr h))
  rw [h] at hsc
  rcases stopCheck_eq_some hsc with ⟨h', _⟩ | ⟨h', _⟩ | ⟨_, _, hn⟩
  · cases h'
  · cases h'
  · exact ⟨stf, hf, hn⟩

end
end Mb.Sim
