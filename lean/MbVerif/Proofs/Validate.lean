/-
  Helper lemmas for C12: what the validation model `Validate.*With c` implies, for an
  arbitrary triple `c` of range tests that is sound on the inputs at hand.
-/
import MbVerif.Validate
import MbVerif.Proofs.SampleState

namespace Mb
namespace Validate
open Fp C12

/-- NaN slips through the comparisons the code used before fix 65165a2 … -/
theorem fracBadCur_nan : fracBadCur .nan = false := rfl
theorem probBadCur_nan : probBadCur .nan = false := rfl
theorem sumBadCur_nan : sumBadCur .nan = false := rfl
/-- … and is caught by the negated-conjunction style -/
theorem fracBadFixed_nan : fracBadFixed .nan = true := rfl
theorem probBadFixed_nan : probBadFixed .nan = true := rfl
theorem sumBadFixed_nan : sumBadFixed .nan = true := rfl

/-- the one lemma about the comparison style (fractions): except on NaN the two styles agree -/
theorem fracBadCur_eq_fixed {x : FV} (h : x ≠ .nan) : fracBadCur x = fracBadFixed x := by
  rcases x with _ | ⟨_ | _⟩ | q
  · exact absurd rfl h
  · rfl
  · rfl
  · simp only [fracBadCur, fracBadFixed, zero, one, gt, ge, lt_fin_fin, le_fin_fin]
    by_cases h1 : q < 0 <;> by_cases h2 : 1 < q <;> simp [h1, h2, not_lt.mp, not_le.mpr]

theorem probBadCur_eq_fixed {x : FV} (h : x ≠ .nan) : probBadCur x = probBadFixed x := by
  rcases x with _ | ⟨_ | _⟩ | q
  · exact absurd rfl h
  · rfl
  · rfl
  · simp only [probBadCur, probBadFixed, zero, one, gt, lt_fin_fin, le_fin_fin]
    by_cases h1 : q ≤ 0 <;> by_cases h2 : 1 < q <;> simp [h1, h2, not_lt.mp, not_le.mp, not_le.mpr, not_lt.mpr]

theorem sumBadCur_eq_fixed {x : FV} (h : x ≠ .nan) : sumBadCur x = sumBadFixed x :=
  probBadCur_eq_fixed h

theorem fracBadFixed_sound {x : FV} (h : fracBadFixed x = false) : Real01 x := by
  rcases x with _ | ⟨_ | _⟩ | q
  · simp [fracBadFixed] at h
  · simp [fracBadFixed, ge, le, zero, one] at h
  · simp [fracBadFixed, ge, le, zero, one] at h
  · simpa [fracBadFixed, ge, zero, one, Real01] using h

theorem probBadFixed_sound {x : FV} (h : probBadFixed x = false) : Prob x := by
  rcases x with _ | ⟨_ | _⟩ | q
  · simp [probBadFixed, gt] at h
  · simp [probBadFixed, gt, lt, le, zero, one] at h
  · simp [probBadFixed, gt, lt, le, zero, one] at h
  · simpa [probBadFixed, gt, zero, one, Prob] using h

theorem fracBadCur_sound {x : FV} (hx : x ≠ .nan) (h : fracBadCur x = false) : Real01 x :=
  fracBadFixed_sound (by rw [← fracBadCur_eq_fixed hx]; exact h)

theorem probBadCur_sound {x : FV} (hx : x ≠ .nan) (h : probBadCur x = false) : Prob x :=
  probBadFixed_sound (by rw [← probBadCur_eq_fixed hx]; exact h)

/-- what a sound triple of range tests guarantees on inputs satisfying `P` -/
structure ChecksSoundOn (P : FV → Prop) (c : Checks) : Prop where
  frac : ∀ x, P x → c.fracBad x = false → Real01 x
  prob : ∀ x, P x → c.probBad x = false → Prob x
  /-- the sum test only ever sees sums of accepted probabilities, which are never NaN -/
  sum : ∀ x, x ≠ .nan → c.sumBad x = false → Prob x

abbrev ChecksSound (c : Checks) : Prop := ChecksSoundOn (fun _ => True) c

theorem checksFixed_sound : ChecksSound checksFixed where
  frac := fun _ _ h => fracBadFixed_sound h
  prob := fun _ _ h => probBadFixed_sound h
  sum := fun _ _ h => probBadFixed_sound h

/-- the tests of the code before fix 65165a2 are sound on everything except NaN -/
theorem checksCur_sound_on_non_nan : ChecksSoundOn (· ≠ .nan) checksCur where
  frac := fun _ hx h => fracBadCur_sound hx h
  prob := fun _ hx h => probBadCur_sound hx h
  sum := fun _ hx h => probBadCur_sound hx h

/-- they are NOT sound: NaN is a counterexample for the fraction and the probability test -/
theorem checksCur_unsound : ¬ ChecksSound checksCur := by
  intro h
  exact h.frac .nan trivial rfl

theorem isFinite_iff {v : FV} : isFinite v = true ↔ C12.Finite v := by
  cases v <;> simp [isFinite, C12.Finite]

theorem gt_zero_iff_pos {v : FV} : gt v zero = true ↔ Pos v := by
  rcases v with _ | ⟨_ | _⟩ | q <;> simp [gt, lt, zero, Pos]

theorem distMinProbability_eq : distMinProbability = .fin C12.minProbability := by
  decide +kernel

theorem poissonMaxLambda_eq : poissonMaxLambda = .fin C12.maxLambda := by
  decide +kernel

theorem slowSafe_of_checks {v : FV}
    (h1 : (!feq v zero && lt v distMinProbability) = false)
    (h2 : ge v zero = true) (h3 : le v one = true) : SlowSafeProb v := by
  rw [distMinProbability_eq] at h1
  rcases v with _ | ⟨_ | _⟩ | q
  · simp [ge] at h2
  · simp [le, one] at h3
  · simp [ge, le, zero] at h2
  · simp only [ge, zero, one, le_fin_fin, decide_eq_true_eq] at h2 h3
    refine ⟨h2, h3, ?_⟩
    by_cases hq : q = 0
    · left; exact hq
    · right
      simp only [feq, zero, hq, decide_false, Bool.not_false, Bool.true_and, lt_fin_fin,
        decide_eq_false_iff_not, not_lt] at h1
      exact h1

/-! `distType` is a chain of guards `if bad then false else …`; each lemma lists the guards that an
accepted parameter set has passed, as the code tests them.  `distType_sound` (the documented
domains) and `C13.ctorOK_of_validate` (the constructor preconditions) both start from these. -/

theorem guard_eq_true {c : Prop} [Decidable c] {x : Bool} :
    (if c then false else x) = true ↔ ¬c ∧ x = true := by
  by_cases h : c <;> simp [h]

/-- `Pareto::new`, `Weibull::new`, `Beta::new`: two parameters, each `> 0` -/
theorem two_guards {x y : Bool}
    (h : (if (!x) = true then false else if (!y) = true then false else true) = true) :
    x = true ∧ y = true := by
  cases x <;> cases y <;> simp at h ⊢

theorem fin_of_not_nan_inf {v : FV} (h1 : isNan v = false) (h2 : isInf v = false) :
    ∃ q, v = .fin q := by
  cases v <;> simp_all [isNan, isInf]

theorem distType_uniform {lo hi : F64} (h : distType (.uniform lo hi) = true) :
    ∃ a b : ℚ, val64 lo = .fin a ∧ val64 hi = .fin b ∧ a ≤ b ∧
      f64.round (b - a) = .fin (rne f64.p f64.emin (b - a)) := by
  simp only [distType, guard_eq_true, Bool.not_eq_true, Bool.or_eq_false_iff, and_true] at h
  obtain ⟨⟨hl, hh⟩, ⟨hl', hh'⟩, hgt, hinf⟩ := h
  obtain ⟨a, ha⟩ := fin_of_not_nan_inf hl hl'
  obtain ⟨b, hb⟩ := fin_of_not_nan_inf hh hh'
  rw [ha, hb, sub_fin_fin] at hinf
  rw [ha, hb] at hgt
  refine ⟨a, b, ha, hb, by simpa [gt] using hgt, ?_⟩
  rcases Fmt.round_cases f64 (b - a) with hr | hr | hr
  · rw [hr] at hinf; exact absurd hinf (by simp [isInf])
  · rw [hr] at hinf; exact absurd hinf (by simp [isInf])
  · exact hr

theorem distType_skewNormal {loc scale shape : F64} (h : distType (.skewNormal loc scale shape) = true) :
    isFinite (val64 scale) = true ∧ gt (val64 scale) zero = true ∧ isFinite (val64 shape) = true := by
  simpa only [distType, guard_eq_true, Bool.not_eq_true, Bool.or_eq_false_iff, Bool.not_eq_false',
    and_true, and_assoc] using h

theorem distType_binomial {trials : Nat} {p : F64} (h : distType (.binomial trials p) = true) :
    (!feq (val64 p) zero && lt (val64 p) distMinProbability) = false ∧
      trials ≤ Gen.BINOMIAL_MAX_TRIALS ∧ ge (val64 p) zero = true ∧ le (val64 p) one = true := by
  simpa only [distType, guard_eq_true, Bool.not_eq_true, Bool.not_eq_false', and_true, not_lt,
    gt_iff_lt] using h

theorem distType_geometric {p : F64} (h : distType (.geometric p) = true) :
    (!feq (val64 p) zero && lt (val64 p) distMinProbability) = false ∧
      isFinite (val64 p) = true ∧ lt (val64 p) zero = false ∧ gt (val64 p) one = false := by
  simpa only [distType, guard_eq_true, Bool.not_eq_true, Bool.or_eq_false_iff, Bool.not_eq_false',
    and_true, and_assoc] using h

theorem distType_poisson {lambda : F64} (h : distType (.poisson lambda) = true) :
    gt (val64 lambda) poissonMaxLambda = false ∧ gt (val64 lambda) zero = true := by
  simpa only [distType, guard_eq_true, Bool.not_eq_true, Bool.not_eq_false', and_true] using h

theorem distType_gamma {scale shape : F64} (h : distType (.gamma scale shape) = true) :
    gt (val64 shape) zero = true ∧ gt (val64 scale) zero = true ∧
      (if feq (val64 shape) one then ge (div f64 one (val64 scale)) zero else true) = true := by
  simpa only [distType, guard_eq_true, Bool.not_eq_true, Bool.not_eq_false'] using h

theorem finPos_of {v : FV} (h1 : isFinite v = true) (h2 : gt v zero = true) : FinPos v := by
  rcases v with _ | _ | q
  · simp [isFinite] at h1
  · simp [isFinite] at h1
  · simpa [gt, zero, FinPos] using h2

theorem distType_sound {d : DistType} (h : distType d = true) : DistParamOK d := by
  cases d with
  | uniform lo hi =>
    obtain ⟨a, b, hl, hh, hab, hs⟩ := distType_uniform h
    simp only [DistParamOK, hl, hh, UniformOK, hs]
    exact ⟨hab, trivial⟩
  | normal mean stdev => exact isFinite_iff.mp h
  | skewNormal loc scale shape =>
    obtain ⟨h1, h2, h3⟩ := distType_skewNormal h
    exact ⟨finPos_of h1 h2, isFinite_iff.mp h3⟩
  | logNormal mu sigma => exact isFinite_iff.mp h
  | binomial trials p =>
    obtain ⟨h1, h2, h3, h4⟩ := distType_binomial h
    exact ⟨slowSafe_of_checks h1 h3 h4, h2⟩
  | geometric p =>
    obtain ⟨h1, h2, h3, h4⟩ := distType_geometric h
    have hn : val64 p ≠ .nan := by intro e; rw [e] at h2; simp [isFinite] at h2
    -- for a non-NaN operand `!(p < 0)` is `p ≥ 0` and `!(p > 1)` is `p ≤ 1`
    have h3' := lt_or_ge_of_ne_nan hn (by simp [zero] : zero ≠ .nan)
    have h4' := lt_or_ge_of_ne_nan (by simp [one] : one ≠ .nan) hn
    rw [h3] at h3'
    rw [show lt one (val64 p) = false from h4] at h4'
    exact slowSafe_of_checks h1 (by simpa [ge] using h3'.symm) (by simpa using h4'.symm)
  | pareto scale shape => exact (two_guards h).imp gt_zero_iff_pos.mp gt_zero_iff_pos.mp
  | poisson lambda =>
    obtain ⟨h1, h2⟩ := distType_poisson h
    rw [poissonMaxLambda_eq] at h1
    simp only [DistParamOK]
    generalize val64 lambda = v at h1 h2 ⊢
    rcases v with _ | ⟨_ | _⟩ | q
    · simp [gt] at h2
    · simp [gt, lt] at h1
    · simp [gt, lt, zero] at h2
    · exact ⟨by simpa [gt, zero] using h2, by simpa [gt] using h1⟩
  | weibull scale shape => exact (two_guards h).imp gt_zero_iff_pos.mp gt_zero_iff_pos.mp
  | gamma scale shape =>
    obtain ⟨h1, h2, _⟩ := distType_gamma h
    exact ⟨gt_zero_iff_pos.mp h2, gt_zero_iff_pos.mp h1⟩
  | beta alpha beta => exact (two_guards h).imp gt_zero_iff_pos.mp gt_zero_iff_pos.mp

theorem dist_sound {d : Dist} (h : dist d = true) : DistOK d := distType_sound h

theorem optDist_sound {d : Option Dist} (h : optDist d = true) : OptDistOK d := by
  cases d with
  | none => trivial
  | some d => exact dist_sound h

theorem action_sound {a : Action} (h : action a = true) : ActionOK a := by
  cases a with
  | cancel t => trivial
  | sendPadding b r tmo lim =>
    simp only [action, Bool.and_eq_true] at h
    exact ⟨dist_sound h.1, optDist_sound h.2⟩
  | blockOutgoing b r tmo du lim =>
    simp only [action, Bool.and_eq_true] at h
    exact ⟨dist_sound h.1.1, dist_sound h.1.2, optDist_sound h.2⟩
  | updateTimer r du lim =>
    simp only [action, Bool.and_eq_true] at h
    exact ⟨dist_sound h.1, optDist_sound h.2⟩

theorem counter_sound {c : Counter} (h : counter c = true) : CounterOK c := optDist_sound h

/-- the running f32 sum from an arbitrary start value -/
def sumFrom (sum : FV) (ts : List Trans) : FV :=
  ts.foldl (fun s t => Fp.add Fp.f32 s (Fp.val32 t.prob)) sum

theorem transLoopWith_spec (c : Checks) (n : Nat) :
    ∀ (ts : List Trans) (seen : List Nat) (sum s : FV),
      transLoopWith c n ts seen sum = some s →
        (∀ t ∈ ts, TargetOK n t.target) ∧ (∀ t ∈ ts, t.target ∉ seen) ∧ (ts.map (·.target)).Nodup ∧
        (∀ t ∈ ts, c.probBad (val32 t.prob) = false) ∧ s = sumFrom sum ts := by
  intro ts
  induction ts with
  | nil =>
    intro seen sum s h
    simp only [transLoopWith, Option.some.injEq] at h
    simp [sumFrom, h]
  | cons t ts ih =>
    intro seen sum s h
    simp only [transLoopWith] at h
    split at h
    · exact absurd h (by simp)
    · rename_i hT
      split at h
      · exact absurd h (by simp)
      · rename_i hS
        split at h
        · exact absurd h (by simp)
        · rename_i hP
          obtain ⟨i1, i2, i3, i4, i5⟩ := ih _ _ _ h
          have hT' : TargetOK n t.target := by
            unfold TargetOK
            simp only [ge_iff_le, Bool.and_eq_true, decide_eq_true_eq, bne_iff_ne, ne_eq, not_and,
              Decidable.not_not] at hT
            by_cases h1 : n ≤ t.target
            · by_cases h2 : t.target = STATE_END
              · right; left; exact h2
              · right; right; exact hT ⟨h1, h2⟩
            · left; omega
          simp only [List.forall_mem_cons, List.map_cons, List.nodup_cons, List.mem_map, not_exists,
            not_and]
          exact ⟨⟨hT', i1⟩, ⟨by simpa using hS, fun t' h' hm => i2 t' h' (List.mem_cons_of_mem _ hm)⟩,
            ⟨fun t' h' he => i2 t' h' (he ▸ List.mem_cons_self), i3⟩, ⟨by simpa using hP, i4⟩,
            by simpa [sumFrom] using i5⟩

/-- the running sum of probabilities in (0,1] is `+inf` or a non-negative real, never NaN -/
theorem sumFrom_ne_nan {ts : List Trans} (hp : ∀ t ∈ ts, Prob (val32 t.prob)) :
    sumFrom zero ts ≠ .nan := by
  rw [sumFrom, ← C06.total_eq_foldl]
  exact C06.good_ne_nan (C06.good_total C06.good_zero hp)

theorem f32sum_eq_sumFrom (ts : List Trans) : f32sum ts = sumFrom (.fin 0) ts := rfl

theorem transVecWith_sound {P : FV → Prop} {c : Checks} (hc : ChecksSoundOn P c) {n : Nat} {ts : List Trans}
    (hP : ∀ t ∈ ts, P (val32 t.prob)) (h : transVecWith c n ts = true) : VecWF n ts := by
  unfold transVecWith at h
  split at h
  · exact absurd h (by simp)
  · rename_i sum hl
    obtain ⟨i1, _, i3, i4, i5⟩ := transLoopWith_spec c n ts [] zero sum hl
    have hprobs : ∀ t ∈ ts, Prob (val32 t.prob) := fun t ht => hc.prob _ (hP t ht) (i4 t ht)
    have hsum : sum = f32sum ts := by rw [i5]; rfl
    have hnn : sum ≠ .nan := i5 ▸ sumFrom_ne_nan hprobs
    have hsb : c.sumBad sum = false := by simpa using h
    have hps : Prob sum := hc.sum sum hnn hsb
    refine ⟨?_, i1, i3, hprobs, ?_⟩
    · intro e
      subst e
      simp only [sumFrom, List.foldl_nil, zero] at i5
      rw [i5] at hps
      exact absurd hps.1 (lt_irrefl 0)
    · rw [← hsum]
      rcases sum with _ | _ | q
      · exact hps.elim
      · exact hps.elim
      · exact hps.2

theorem stateWith_sound {P : FV → Prop} {c : Checks} (hc : ChecksSoundOn P c) {n : Nat} {s : State}
    (hP : ∀ v ∈ s.transitions, ∀ ts, v = some ts → ∀ t ∈ ts, P (val32 t.prob))
    (h : stateWith c n s = true) : StateWF n s := by
  simp only [stateWith, Bool.and_eq_true, List.all_eq_true] at h
  obtain ⟨⟨⟨h1, h2⟩, h3⟩, h4⟩ := h
  refine ⟨?_, ?_, ?_, ?_⟩
  · intro v hv ts e
    subst e
    exact transVecWith_sound hc (hP _ hv ts rfl) (h1 _ hv)
  · intro a e; rw [e] at h2; exact action_sound h2
  · intro a e; rw [e] at h3; exact counter_sound h3
  · intro a e; rw [e] at h4; exact counter_sound h4

/-- the inputs of the three range tests: both machine fractions and every transition probability -/
structure InputsSat (P : FV → Prop) (m : Machine) : Prop where
  paddingFrac : P (val64 m.maxPaddingFrac)
  blockingFrac : P (val64 m.maxBlockingFrac)
  probs : ∀ s ∈ m.states, ∀ v ∈ s.transitions, ∀ ts, v = some ts → ∀ t ∈ ts, P (val32 t.prob)

theorem inputsSat_true (m : Machine) : InputsSat (fun _ => True) m :=
  ⟨trivial, trivial, fun _ _ _ _ _ _ _ _ => trivial⟩

/-- the guards of `Machine::validate` that an accepted machine has passed -/
theorem machineWith_guards {c : Checks} {m : Machine} (h : machineWith c m = true) :
    c.fracBad (val64 m.maxPaddingFrac) = false ∧ c.fracBad (val64 m.maxBlockingFrac) = false ∧
      0 < m.states.length ∧ m.states.length ≤ STATE_MAX ∧
      ∀ s ∈ m.states, stateWith c m.states.length s = true := by
  simpa only [machineWith, guard_eq_true, Bool.not_eq_true, beq_iff_eq, Nat.pos_iff_ne_zero, not_lt,
    gt_iff_lt, List.all_eq_true] using h

/-- core of C12: with range tests that are sound on the machine's inputs, acceptance implies `WF` -/
theorem machineWith_sound {P : FV → Prop} {c : Checks} (hc : ChecksSoundOn P c) {m : Machine}
    (hP : InputsSat P m) (h : machineWith c m = true) : WF m := by
  obtain ⟨hf1, hf2, h0, hmax, hs⟩ := machineWith_guards h
  exact ⟨hc.frac _ hP.paddingFrac hf1, hc.frac _ hP.blockingFrac hf2, h0, hmax,
    fun s hs' => stateWith_sound hc (hP.probs s hs') (hs s hs')⟩

theorem transLoop_cur_eq_fixed (n : Nat) : ∀ (ts : List Trans) (seen : List Nat) (sum : FV),
    (∀ t ∈ ts, val32 t.prob ≠ .nan) →
    transLoopWith checksCur n ts seen sum = transLoopWith checksFixed n ts seen sum := by
  intro ts
  induction ts with
  | nil => intro _ _ _; rfl
  | cons t ts ih =>
    intro seen sum hnn
    have ht : val32 t.prob ≠ .nan := hnn t List.mem_cons_self
    have hp : checksCur.probBad (val32 t.prob) = checksFixed.probBad (val32 t.prob) :=
      probBadCur_eq_fixed ht
    simp only [transLoopWith, hp]
    rw [ih _ _ (fun t' ht' => hnn t' (List.mem_cons_of_mem _ ht'))]

theorem transVec_cur_eq_fixed (n : Nat) (ts : List Trans) (hnn : ∀ t ∈ ts, val32 t.prob ≠ .nan) :
    transVecWith checksCur n ts = transVecWith checksFixed n ts := by
  unfold transVecWith
  rw [transLoop_cur_eq_fixed n ts [] zero hnn]
  cases hl : transLoopWith checksFixed n ts [] zero with
  | none => rfl
  | some sum =>
    -- the loop passed, so every probability is in (0,1] and the sum is not NaN
    obtain ⟨_, _, _, i4, i5⟩ := transLoopWith_spec checksFixed n ts [] zero sum hl
    have hprobs : ∀ t ∈ ts, Prob (val32 t.prob) := fun t ht => probBadFixed_sound (i4 t ht)
    have hsn : sum ≠ .nan := i5 ▸ sumFrom_ne_nan hprobs
    have : checksCur.sumBad sum = checksFixed.sumBad sum := sumBadCur_eq_fixed hsn
    simp only [this]

theorem all_congr_mem {α : Type} {l : List α} {f g : α → Bool} (h : ∀ a ∈ l, f a = g a) :
    l.all f = l.all g := by
  induction l with
  | nil => rfl
  | cons a l ih =>
    simp only [List.all_cons]
    rw [h a List.mem_cons_self, ih (fun b hb => h b (List.mem_cons_of_mem _ hb))]

theorem machine_cur_eq_fixed {m : Machine} (hnn : InputsSat (· ≠ .nan) m) :
    machineWith checksCur m = machineWith checksFixed m := by
  unfold machineWith
  have h1 : checksCur.fracBad (val64 m.maxPaddingFrac) = checksFixed.fracBad (val64 m.maxPaddingFrac) :=
    fracBadCur_eq_fixed hnn.paddingFrac
  have h2 : checksCur.fracBad (val64 m.maxBlockingFrac) = checksFixed.fracBad (val64 m.maxBlockingFrac) :=
    fracBadCur_eq_fixed hnn.blockingFrac
  simp only [h1, h2]
  have hall : m.states.all (stateWith checksCur m.states.length) =
      m.states.all (stateWith checksFixed m.states.length) := by
    apply all_congr_mem
    intro s hs
    unfold stateWith
    congr 3
    apply all_congr_mem
    intro v hv
    cases v with
    | none => rfl
    | some ts => exact transVec_cur_eq_fixed _ ts (hnn.probs s hs _ hv ts rfl)
  rw [hall]

end Validate
end Mb
