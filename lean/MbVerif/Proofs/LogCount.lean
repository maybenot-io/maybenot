/-
  Counting entries of the ghost log (the model's copy of the hook log): how many transition
  invocations one `transition` call can cause. Generic in a weight `μ` on log entries that
  vanishes on everything but `trans` entries.
-/
import MbVerif.Proofs.SafeCall

namespace Mb
variable {σ : Type} (ρ : Oracle σ)

def wsum (μ : LogEntry → Nat) (l : List LogEntry) : Nat := (l.map μ).sum

def TransOnly (μ : LogEntry → Nat) : Prop :=
  ∀ e, (∀ m ev st, e ≠ .trans m ev st) → μ e = 0

theorem wsum_cons (μ : LogEntry → Nat) (e : LogEntry) (l : List LogEntry) : wsum μ (e :: l) = μ e + wsum μ l := by
  simp [wsum]

structure QuietLog (μ : LogEntry → Nat) (s t : Fw σ) : Prop where
  w : wsum μ t.log = wsum μ s.log

theorem QuietLog.refl (μ) (s : Fw σ) : QuietLog μ s s := ⟨rfl⟩
theorem QuietLog.trans {μ} {s t u : Fw σ} (h₁ : QuietLog μ s t) (h₂ : QuietLog μ t u) : QuietLog μ s u :=
  ⟨h₂.w.trans h₁.w⟩

variable {μ : LogEntry → Nat}

theorem quiet_push0 (s : Fw σ) (e : LogEntry) (he : μ e = 0) : QuietLog μ s (s.push e) :=
  ⟨by simp [Fw.push, wsum_cons, he]⟩

theorem quiet_push (hμ : TransOnly μ) (s : Fw σ) (e : LogEntry) (he : ∀ m ev st, e ≠ .trans m ev st) :
    QuietLog μ s (s.push e) := quiet_push0 s e (hμ e he)

theorem quiet_modRt (s : Fw σ) (mi : Nat) (f : Runtime → Runtime) : QuietLog μ s (s.modRt mi f) := ⟨by simp⟩
theorem quiet_withFault (s : Fw σ) (f : Fault) : QuietLog μ s (s.withFault f) := ⟨by simp⟩

theorem TransOnly.distRaw (hμ : TransOnly μ) (b : F64) : μ (.distRaw b) = 0 := hμ _ nofun
theorem TransOnly.limit (hμ : TransOnly μ) (i l : Nat) (d : Bool) : μ (.limit i l d) = 0 := hμ _ nofun

theorem quiet_distSample (hd : ∀ b, μ (.distRaw b) = 0) (d : Dist) (s : Fw σ) :
    QuietLog μ s (distSample ρ d s).2 := by
  unfold distSample
  exact ⟨by simp [Fw.push, wsum_cons, hd]⟩

/-- the pieces of `transition` keep any weight that ignores the raw samples (`hd`) and the limits
    written on entering a state (`hl`) -/
theorem quiet_enterState (hd : ∀ b, μ (.distRaw b) = 0) (hl : ∀ i l, μ (.limit i l false) = 0)
    (mi : Nat) (m : Machine) (cur next : Nat) (s : Fw σ) :
    QuietLog μ s (enterState ρ mi m cur next s) :=
  enterState_rel ρ (QuietLog.refl μ) QuietLog.trans (quiet_distSample ρ hd) mi
    (fun s => quiet_withFault s _) (fun s _ => quiet_modRt s mi _)
    (fun s _ => (quiet_modRt s mi _).trans (quiet_push0 _ _ (hl _ _))) m cur next s

theorem quiet_applyCounter (hd : ∀ b, μ (.distRaw b) = 0) (mi : Nat) :
    (∀ c oldA oldB (s : Fw σ), QuietLog μ s (applyCounterA ρ mi c oldA oldB s).1) ∧
    (∀ c oldA oldB (s : Fw σ), QuietLog μ s (applyCounterB ρ mi c oldA oldB s).1) :=
  applyCounter_rel ρ (QuietLog.refl μ) QuietLog.trans (quiet_distSample ρ hd) mi
    (fun s f _ => quiet_modRt s mi f)

theorem quiet_scheduleAction (hd : ∀ b, μ (.distRaw b) = 0) (mi next : Nat) (s : Fw σ) :
    QuietLog μ s (scheduleAction ρ mi next s) :=
  scheduleAction_rel ρ (QuietLog.refl μ) QuietLog.trans (quiet_distSample ρ hd) mi
    (fun s => quiet_withFault s _) (fun _ _ => ⟨rfl⟩) next s

theorem unset_push (s : Fw σ) (e : LogEntry) (mi : Nat) : unset (s.push e) mi = unset s mi := rfl

theorem unset_withFault (s : Fw σ) (f : Fault) (mi : Nat) : unset (s.withFault f) mi = unset s mi :=
  unset_congr (by simp)

/-- entering a state does not touch the CounterZero guard flags -/
theorem unset_enterState (mi : Nat) (m : Machine) (cur next : Nat) (s : Fw σ) :
    unset (enterState ρ mi m cur next s) mi = unset s mi :=
  enterState_rel ρ (R := fun s t => unset t mi = unset s mi) (fun _ => rfl) (fun h₁ h₂ => h₂.trans h₁)
    (fun d s => unset_congr (by rw [(distSample_spec ρ mi d s).1.rt])) mi
    (fun s => unset_withFault s _ mi) (fun s _ => unset_modRt_keep s mi _ (fun _ => rfl) (fun _ => rfl))
    (fun s _ => unset_modRt_keep s mi _ (fun _ => rfl) (fun _ => rfl)) m cur next s

theorem count_withFault (s : Fw σ) (f : Fault) (mi c : Nat) :
    wsum μ (s.withFault f).log + unset (s.withFault f) mi * c = wsum μ s.log + unset s mi * c := by
  rw [(quiet_withFault s f).w, unset_withFault]

theorem QuietLog.count_le {s t : Fw σ} (q : QuietLog μ s t) {mi : Nat} (hu : unset t mi ≤ unset s mi)
    (c : Nat) : wsum μ t.log + unset t mi * c ≤ wsum μ s.log + unset s mi * c := by
  rw [q.w]; exact Nat.add_le_add_left (Nat.mul_le_mul_right c hu) _

/-- The main counting lemma, in potential form: log weight plus (unset guard flags of the machine)
    x (weight of a CounterZero entry) grows by at most the weight of the transition's own entry. -/
theorem count_main (hμ : TransOnly μ) (c : Nat) (fuel : Nat) :
    (∀ mi (ev : Event) (a : Nat) (s : Fw σ),
      (∀ st, μ (.trans mi ev.toNat st) ≤ a) → (∀ st, μ (.trans mi Event.counterZero.toNat st) ≤ c) →
      wsum μ (transition ρ fuel mi ev s).1.log + unset (transition ρ fuel mi ev s).1 mi * c
        ≤ wsum μ s.log + a + unset s mi * c) ∧
    (∀ mi (s : Fw σ), (∀ st, μ (.trans mi Event.counterZero.toNat st) ≤ c) →
      wsum μ (updateCounter ρ fuel mi s).1.log + unset (updateCounter ρ fuel mi s).1 mi * c
        ≤ wsum μ s.log + unset s mi * c) := by
  have h := transition_induct ρ
    (PT := fun _ mi _ _ => ∀ st, μ (.trans mi Event.counterZero.toNat st) ≤ c)
    (PU := fun _ mi _ => ∀ st, μ (.trans mi Event.counterZero.toNat st) ≤ c)
    (T := fun _ mi ev s s' _ => ∀ a, (∀ st, μ (.trans mi ev.toNat st) ≤ a) →
      wsum μ s'.log + unset s' mi * c ≤ wsum μ s.log + a + unset s mi * c)
    (U := fun _ mi s s' _ _ => wsum μ s'.log + unset s' mi * c ≤ wsum μ s.log + unset s mi * c)
    (fun mi _ s _ a _ => by rw [count_withFault]; omega)
    (fun _ mi _ s _ _ a _ => by rw [count_withFault]; omega) ?_
    (fun mi s _ => Nat.le_of_eq (count_withFault s _ mi c))
    (fun _ mi s _ _ => Nat.le_of_eq (count_withFault s _ mi c)) ?_ fuel
  · exact ⟨fun mi ev a s ha hc => h.1 mi ev s hc a ha, fun mi s hc => h.2 mi s hc⟩
  · intro n mi ev s r m hr hm hc s0
    -- everything after the transition's own entry is paid for by the potential
    have hq : ∀ t : Fw σ, wsum μ t.log + unset t mi * c ≤ wsum μ s0.log + unset s mi * c →
        ∀ a, (∀ st, μ (.trans mi ev.toNat st) ≤ a) →
        wsum μ t.log + unset t mi * c ≤ wsum μ s.log + a + unset s mi * c := by
      intro t ht a ha
      have h0 : wsum μ s0.log = μ (.trans mi ev.toNat r.currentState) + wsum μ s.log := wsum_cons ..
      have := ha r.currentState
      omega
    have hf : ∀ t : Fw σ, wsum μ t.log + unset t mi * c ≤ wsum μ s0.log + unset s mi * c →
        wsum μ (t.withFault .oob).log + unset (t.withFault .oob) mi * c
          ≤ wsum μ s0.log + unset s mi * c := fun t ht => by rw [count_withFault]; exact ht
    have q0 : wsum μ s0.log + unset s0 mi * c ≤ wsum μ s0.log + unset s mi * c := Nat.le_refl _
    refine ⟨fun _ => hq _ q0, fun _ => ⟨fun _ => hq _ (hf _ q0), fun st hst =>
      ⟨fun _ => hq _ (hf _ q0), fun _ => hq _ q0, fun vec hvec => ?_⟩⟩⟩
    intro d s1
    have q1 : QuietLog μ s0 s1 :=
      ⟨by simp [s1, Fw.push, wsum_cons, hμ (.draw _) (fun _ _ _ h => by cases h)]⟩
    refine ⟨fun _ => hq _ (q1.count_le (Nat.le_refl _) c), fun next hss => ?_⟩
    intro s2
    have q2 : QuietLog μ s0 s2 := q1.trans (quiet_push hμ _ _ (fun _ _ _ h => by cases h))
    refine ⟨fun _ => hq _ ((q2.trans (quiet_modRt s2 mi fun r => { r with currentState := STATE_END })).count_le
        (Nat.le_of_eq (unset_modRt_keep s2 mi _ (fun _ => rfl) (fun _ => rfl))) c),
      fun _ _ => hq _ ((q2.trans ⟨rfl⟩).count_le (Nat.le_refl _) c), fun _ _ => ?_⟩
    intro s3
    have q3 : wsum μ s3.log + unset s3 mi * c ≤ wsum μ s0.log + unset s mi * c :=
      (q2.trans (quiet_enterState ρ hμ.distRaw (hμ.limit · · _) mi m r.currentState next s2)).count_le
        (Nat.le_of_eq (unset_enterState ρ mi m r.currentState next s2)) c
    refine ⟨fun _ => hq _ (hf _ q3), fun r1 _ => ⟨fun _ => ?_, fun below _ => ?_⟩⟩
    · refine hq _ ?_
      rw [count_withFault]; exact q3
    intro res ih s5
    have q5 : wsum μ s5.log + unset s5 mi * c ≤ wsum μ s0.log + unset s mi * c := by
      refine Nat.le_trans ?_ (Nat.le_trans (ih hc) q3)
      show wsum μ (if _ then _ else _ : Fw σ).log + unset (if _ then _ else _) mi * c ≤ _
      split
      · rw [(quiet_scheduleAction ρ hμ.distRaw mi next _).w,
          unset_congr (s := res.1) (by rw [scheduleAction_rt])]
      · exact Nat.le_refl _
    exact ⟨fun _ => hq _ (hf _ q5), fun _ _ => hq _ q5⟩
  · intro n mi s r m hr hm hc
    refine ⟨fun _ => Nat.le_of_eq (count_withFault s _ mi c), fun st hst => ?_⟩
    intro ra rb s2
    have hmi : mi < s.rt.length := (List.getElem?_eq_some_iff.mp hr).1
    have hu : unset s2 mi + (if ra.2 || rb.2 then 1 else 0) ≤ unset s mi :=
      unset_applyCounters ρ mi _ _ _ _ s hmi
    have q2 : QuietLog μ s s2 := (((quiet_applyCounter ρ hμ.distRaw mi).1 _ _ _ s).trans
      ((quiet_applyCounter ρ hμ.distRaw mi).2 _ _ _ _)).trans (quiet_push hμ _ _ (fun _ _ _ h => by cases h))
    refine ⟨fun _ => q2.count_le (by omega) c, fun hz => ?_⟩
    intro res ih
    -- a flag was set, which pays for the CounterZero entry of the inner transition
    rw [hz, if_pos rfl] at hu
    have hfin : wsum μ res.1.log + unset res.1 mi * c ≤ wsum μ s.log + unset s mi * c := by
      have hT := ih hc c hc
      rw [q2.w] at hT
      have := Nat.mul_le_mul_right c hu
      rw [Nat.add_mul] at this
      omega
    exact ⟨fun _ => by rw [count_withFault]; exact hfin, fun _ _ => hfin⟩

end Mb
