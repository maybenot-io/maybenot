/-
  C07, the exact count: what one reported completion (PaddingSent / BlockingBegin / TimerBegin
  for a machine) does to the machine's state limit when the machine's current state has no
  transition on the completion event, and what `k` such calls in a row do.
-/
import MbVerif.Proofs.Exhausted
import MbVerif.Proofs.NonInterf
import MbVerif.Proofs.LogCount
import MbVerif.Proofs.SigCount
import MbVerif.Proofs.SigDeliver
import MbVerif.Proofs.SignalRound
import MbVerif.Proofs.TransInduct

namespace Mb.Countdown
variable {σ : Type} (ρ : Oracle σ)

def LogExt (s t : Fw σ) : Prop := ∃ l, t.log = l ++ s.log

theorem LogExt.refl (s : Fw σ) : LogExt s s := Mb.LogExt.refl s

theorem LogExt.trans {s t u : Fw σ} (h₁ : LogExt s t) (h₂ : LogExt t u) : LogExt s u := Mb.LogExt.trans h₁ h₂

theorem LogExt.ofEq {s t : Fw σ} (h : t.log = s.log) : LogExt s t := Mb.LogExt.same h
theorem LogExt.push (s : Fw σ) (e : LogEntry) : LogExt s (s.push e) := ⟨[e], rfl⟩
theorem LogExt.ofReach {k : Nat} {s t : Fw σ} (h : Reach k s t) : LogExt s t := h.logExt

theorem logExt_transition (fuel mi : Nat) (ev : Event) (s : Fw σ) : LogExt s (transition ρ fuel mi ev s).1 :=
  LogExt.ofReach (transition_reach ρ fuel mi ev s)

theorem logExt_decrement (mi : Nat) (s : Fw σ) : LogExt s (decrementLimit ρ mi s) :=
  LogExt.ofReach (decrementLimit_reach ρ mi s)

theorem logExt_signalRound (s : Fw σ) : LogExt s (signalRound ρ s) := (signalRound_run ρ s).logExt

theorem logExt_fold {α : Type} (F : Fw σ → α → Fw σ) (hF : ∀ s j, LogExt s (F s j)) (l : List α) (s : Fw σ) :
    LogExt s (l.foldl F s) := by
  induction l generalizing s with
  | nil => exact LogExt.refl s
  | cons j t ih => exact (hF s j).trans (ih _)

/-- a transition of a machine that exists starts by logging its own delivery: the log afterwards
    is the old log, then `trans mi ev cur`, then whatever the transition caused -/
theorem transition_logFirst (n mi : Nat) (ev : Event) (s : Fw σ) (r : Runtime) (m : Machine)
    (hr : s.rt[mi]? = some r) (hm : s.machines[mi]? = some m) :
    LogExt (s.push (.trans mi ev.toNat r.currentState)) (transition ρ (n + 1) mi ev s).1 :=
  LogExt.ofReach (transition_reach_pushed ρ n mi ev s r m hr hm)

theorem transition_noTrans (mi : Nat) (ev : Event) (s : Fw σ) (r : Runtime) (m : Machine) (st : State)
    (hr : s.rt[mi]? = some r) (hm : s.machines[mi]? = some m) (hne : r.currentState ≠ STATE_END)
    (hst : m.states[r.currentState]? = some st) (htr : st.transitions[ev.toNat]? = some none) :
    transition ρ FUEL mi ev s = (s.push (.trans mi ev.toNat r.currentState), false) := by
  show transition ρ (7 + 1) mi ev s = _
  rw [transition, hr, hm]
  simp only [hne, if_false, hst, htr]

theorem notEnded_push (mi : Nat) (s : Fw σ) (e : LogEntry) (r : Runtime) (hr : s.rt[mi]? = some r)
    (hne : r.currentState ≠ STATE_END) : notEnded (s.push e) mi = true := by
  unfold notEnded
  rw [Fw.push_rt, hr]
  simpa using hne

theorem decrementLimit_keep (mi : Nat) (s : Fw σ) (r : Runtime) (m : Machine) (st : State)
    (hr : s.rt[mi]? = some r) (hm : s.machines[mi]? = some m) (hst : m.states[r.currentState]? = some st)
    (hk : ∀ a, st.action = some a → a.hasLimit = true → 2 ≤ r.stateLimit) :
    decrementLimit ρ mi s =
      (s.modRt mi (fun r' => { r' with stateLimit := r.stateLimit - 1 })).push (.limit mi (r.stateLimit - 1) true) := by
  rw [decrementLimit_some ρ mi s r m hr hm, hst]
  simp only []
  cases hact : st.action with
  | none => rfl
  | some a =>
    refine if_neg fun h => ?_
    simp only [Bool.and_eq_true, decide_eq_true_eq] at h
    have := hk a hact h.2
    omega

theorem decrementLimit_fire (mi : Nat) (s : Fw σ) (r : Runtime) (m : Machine) (st : State) (a : Action)
    (hr : s.rt[mi]? = some r) (hm : s.machines[mi]? = some m) (hst : m.states[r.currentState]? = some st)
    (hact : st.action = some a) (hl : a.hasLimit = true) (h1 : r.stateLimit ≤ 1) (hlen : mi < s.actions.length) :
    decrementLimit ρ mi s =
      (transition ρ FUEL mi .limitReached
        { (s.modRt mi (fun r' => { r' with stateLimit := 0 })).push (.limit mi 0 true) with
          actions := ((s.modRt mi (fun r' => { r' with stateLimit := 0 })).push (.limit mi 0 true)).actions.set mi none }).1 := by
  rw [decrementLimit_some ρ mi s r m hr hm, hst]
  simp only [hact]
  rw [show r.stateLimit - 1 = 0 by omega, if_pos (by simp [hl]), if_neg (by simpa using hlen)]

theorem callStart_rt (s : Fw σ) (t : Int) (mi : Nat) (r : Runtime) (hr : s.rt[mi]? = some r) :
    (s.callStart t).rt[mi]? = some { r with zeroedA := false, zeroedB := false } := by
  simp [Fw.callStart, List.getElem?_map, hr]

theorem modRt_fault_some (s : Fw σ) (mi : Nat) (f : Runtime → Runtime) (r : Runtime) (h : s.rt[mi]? = some r) :
    (s.modRt mi f).fault = s.fault := by
  rw [Fw.modRt_of_some s mi f r h]

theorem set_none_map {α β : Type} (l : List α) (i : Nat) :
    (l.map (fun _ => (none : Option β))).set i none = l.map (fun _ => none) := by
  apply List.ext_getElem?
  intro j
  rw [List.getElem?_set]
  by_cases h : i = j
  · subst h
    by_cases hl : i < l.length <;> simp [hl]
  · simp [h]

/-- `u` is `s` after the start of a call and steps that touched nothing but the runtime of machine
    `mi` (now `r'`), the framework-wide accounting (now `g'`) and the log (`l` was added): every
    slot is empty, every other machine has only had its per-call CounterZero flags reset -/
structure After (mi : Nat) (r' : Runtime) (g' : Globals) (l : List LogEntry) (s u : Fw σ) : Prop where
  rt : u.rt[mi]? = some r'
  rtOther : ∀ j, j ≠ mi → u.rt[j]? = (s.rt[j]?).map (fun r => { r with zeroedA := false, zeroedB := false })
  log : u.log = l ++ s.log
  actions : u.actions = s.actions.map (fun _ => none)
  machines : u.machines = s.machines
  signal : u.signalPending = s.signalPending
  fault : u.fault = s.fault
  rng : u.rng = s.rng
  g : u.g = g'

namespace After
variable {ρ} {mi : Nat} {r' : Runtime} {g' : Globals} {l : List LogEntry} {s u : Fw σ}

theorem callStart (t : Int) {r : Runtime} (hr : s.rt[mi]? = some r) :
    After mi { r with zeroedA := false, zeroedB := false } { s.g with now := t } [] s (s.callStart t) :=
  ⟨callStart_rt s t mi r hr, fun j _ => by simp [Fw.callStart, List.getElem?_map], rfl, rfl, rfl, rfl, rfl, rfl, rfl⟩

theorem setG (h : After mi r' g' l s u) (g'' : Globals) : After mi r' g'' l s { u with g := g'' } :=
  ⟨h.rt, h.rtOther, h.log, h.actions, h.machines, h.signal, h.fault, h.rng, rfl⟩

theorem modRt (h : After mi r' g' l s u) (f : Runtime → Runtime) : After mi (f r') g' l s (u.modRt mi f) :=
  ⟨by rw [Fw.modRt_rt_self, h.rt]; rfl, fun j hj => by rw [Fw.modRt_rt_other _ _ _ _ hj]; exact h.rtOther j hj,
   by rw [Fw.modRt_log]; exact h.log, by rw [Fw.modRt_actions]; exact h.actions,
   by rw [Fw.modRt_machines]; exact h.machines, by rw [Fw.modRt_signal]; exact h.signal,
   by rw [modRt_fault_some u mi f r' h.rt]; exact h.fault, by rw [Fw.modRt_rng]; exact h.rng,
   by rw [Fw.modRt_g]; exact h.g⟩

theorem push (h : After mi r' g' l s u) (e : LogEntry) : After mi r' g' (e :: l) s (u.push e) :=
  ⟨h.rt, h.rtOther, by rw [List.cons_append, ← h.log]; rfl, h.actions, h.machines, h.signal, h.fault, h.rng, h.g⟩

theorem clear (h : After mi r' g' l s u) : After mi r' g' l s { u with actions := u.actions.set mi none } :=
  ⟨h.rt, h.rtOther, h.log, by show u.actions.set mi none = _; rw [h.actions, set_none_map], h.machines, h.signal,
   h.fault, h.rng, h.g⟩

theorem machine (h : After mi r' g' l s u) {m : Machine} (hm : s.machines[mi]? = some m) : u.machines[mi]? = some m := by
  rw [h.machines]; exact hm

end After

theorem After.keep {mi : Nat} {rA : Runtime} {g' : Globals} {s A : Fw σ} {m : Machine} {st : State}
    (hA : After mi rA g' [] s A) (hm : s.machines[mi]? = some m) (hst : m.states[rA.currentState]? = some st)
    (hsig : s.signalPending = none) (hk : ∀ a, st.action = some a → a.hasLimit = true → 2 ≤ rA.stateLimit)
    (e : LogEntry) :
    After mi { rA with stateLimit := rA.stateLimit - 1 } g' [.limit mi (rA.stateLimit - 1) true, e] s
      (signalRound ρ (decrementLimit ρ mi (A.push e))) := by
  have h := ((hA.push e).modRt (fun r' => { r' with stateLimit := rA.stateLimit - 1 })).push
    (.limit mi (rA.stateLimit - 1) true)
  rw [decrementLimit_keep ρ mi (A.push e) rA m st hA.rt (hA.machine hm) hst hk,
    C09.sr_round_none ρ _ (h.signal.trans hsig)]
  exact h

theorem After.fire {mi : Nat} {rA : Runtime} {g' : Globals} {s A : Fw σ} {m : Machine} {st : State} {a : Action}
    (hA : After mi rA g' [] s A) (hm : s.machines[mi]? = some m) (hst : m.states[rA.currentState]? = some st)
    (hact : st.action = some a) (hl : a.hasLimit = true) (h1 : rA.stateLimit ≤ 1) (hlen : mi < s.actions.length)
    (e : LogEntry) :
    ∃ X : Fw σ, decrementLimit ρ mi (A.push e) = (transition ρ FUEL mi .limitReached X).1 ∧
      After mi { rA with stateLimit := 0 } g' [.limit mi 0 true, e] s X := by
  refine ⟨_, decrementLimit_fire ρ mi (A.push e) rA m st a hA.rt (hA.machine hm) hst hact hl h1
    (by rw [Fw.push_actions, hA.actions, List.length_map]; exact hlen), ?_⟩
  exact (((hA.push e).modRt (fun r' => { r' with stateLimit := 0 })).push (.limit mi 0 true)).clear

/-- A counted completion that does not use the limit up: the complete effect of the call on
    the framework. `r` is the machine's runtime before the call, `r'` after it, `ev` the internal
    event delivered, `g'` the framework-wide accounting after the call. -/
structure CallKeep (mi : Nat) (ev : Event) (r r' : Runtime) (g' : Globals) (s u : Fw σ) : Prop where
  /-- the machine's runtime afterwards -/
  rt : u.rt[mi]? = some r'
  /-- every other machine: only the per-call CounterZero flags are reset -/
  rtOther : ∀ j, j ≠ mi → u.rt[j]? = (s.rt[j]?).map (fun r => { r with zeroedA := false, zeroedB := false })
  /-- exactly two log entries: the delivery of the event and the decrement -/
  log : u.log = .limit mi (r.stateLimit - 1) true :: .trans mi ev.toNat r.currentState :: s.log
  /-- no action is returned, for any machine -/
  actions : u.actions = s.actions.map (fun _ => none)
  machines : u.machines = s.machines
  signal : u.signalPending = none
  fault : u.fault = s.fault
  rng : u.rng = s.rng
  g : u.g = g'

theorem CallKeep.slot {mi : Nat} {ev : Event} {r r' : Runtime} {g' : Globals} {s u : Fw σ}
    (h : CallKeep mi ev r r' g' s u) (hlen : mi < s.actions.length) : u.actions[mi]? = some none := by
  rw [h.actions]; simp [hlen]

theorem toNat_limitReached (ev : Event) : ev.toNat = Gen.EV_LimitReached ↔ ev = .limitReached := by
  cases ev <;> decide

theorem CallKeep.noLimitReached {mi : Nat} {ev : Event} {r r' : Runtime} {g' : Globals} {s u : Fw σ}
    (h : CallKeep mi ev r r' g' s u) (hev : ev ≠ .limitReached) :
    ∃ l, u.log = l ++ s.log ∧ ∀ st', LogEntry.trans mi Event.limitReached.toNat st' ∉ l := by
  refine ⟨[.limit mi (r.stateLimit - 1) true, .trans mi ev.toNat r.currentState], by rw [h.log]; rfl, fun st' hmem => ?_⟩
  simp only [List.mem_cons, List.mem_nil_iff, or_false, reduceCtorEq, false_or, LogEntry.trans.injEq] at hmem
  exact hev ((toNat_limitReached ev).mp hmem.2.1.symm)

/-- The completion that uses the limit up (the state's action has a limit and the limit is
    at most 1 when the completion is reported): after the delivery of the completion event and
    the decrement to 0 the framework is some `X` in which the machine's runtime is `r0` (limit 0),
    every slot is empty and the log holds exactly the delivery and the decrement; LimitReached is
    delivered to the machine in `X` at once (and then the signal round runs). In the log of the
    call the LimitReached delivery, in the machine's unchanged state, directly follows the
    decrement to 0 (the log is newest first). -/
structure CallFire (mi : Nat) (ev : Event) (r r0 : Runtime) (g' : Globals) (s u : Fw σ) : Prop where
  deliver : ∃ X : Fw σ, u = signalRound ρ (transition ρ FUEL mi .limitReached X).1 ∧
    X.rt[mi]? = some r0 ∧
    (∀ j, j ≠ mi → X.rt[j]? = (s.rt[j]?).map (fun r => { r with zeroedA := false, zeroedB := false })) ∧
    X.actions = s.actions.map (fun _ => none) ∧ X.machines = s.machines ∧ X.signalPending = none ∧
    X.fault = s.fault ∧ X.rng = s.rng ∧ X.g = g' ∧
    X.log = .limit mi 0 true :: .trans mi ev.toNat r.currentState :: s.log
  log : ∃ l, u.log = l ++ .trans mi Event.limitReached.toNat r.currentState :: .limit mi 0 true ::
    .trans mi ev.toNat r.currentState :: s.log

/-- `E` reports a completion that is delivered, as the internal event `ev`, to machine `mi` only;
    `upd` and `G` are the accounting it causes in the machine's runtime and framework-wide. When
    the machine's state has no transition on `ev`, the event comes to the logged delivery followed
    by the decrement. -/
def Solo (mi : Nat) (E : TEvent) (ev : Event) (upd : RtAcct → RtAcct) (G : Int → Globals → Globals) : Prop :=
  ∀ (t : Int) (s : Fw σ) (r : Runtime) (m : Machine) (st : State),
    s.rt[mi]? = some r → s.machines[mi]? = some m → r.currentState ≠ STATE_END →
    m.states[r.currentState]? = some st → st.transitions[ev.toNat]? = some none →
    ∃ A, After mi { r with zeroedA := false, zeroedB := false, acct := upd r.acct } (G t s.g) [] s A ∧
      processEvent ρ E (s.callStart t) = decrementLimit ρ mi (A.push (.trans mi ev.toNat r.currentState))

theorem lt_length_of_getElem?_some {α : Type} {l : List α} {i : Nat} {x : α} (h : l[i]? = some x) : i < l.length :=
  (List.getElem?_eq_some_iff.mp h).1

theorem solo_paddingSent (mi : Nat) :
    Solo ρ mi (.paddingSent mi) .paddingSent (fun a => { a with paddingSent := a.paddingSent + 1 })
      (fun t g => { g with now := t, paddingSent := g.paddingSent + 1 }) := by
  intro t s r m st hr hm hne hst htr
  have hA := ((After.callStart t hr).setG { (s.callStart t).g with paddingSent := (s.callStart t).g.paddingSent + 1 }).modRt
    (fun r => { r with acct := { r.acct with paddingSent := r.acct.paddingSent + 1 } })
  refine ⟨_, hA, ?_⟩
  simp only [processEvent]
  rw [if_neg (Nat.not_le.mpr (lt_length_of_getElem?_some (callStart_rt s t mi r hr))),
    transition_noTrans ρ mi .paddingSent _ _ m st hA.rt (hA.machine hm) hne hst htr]
  simp only [Bool.not_false, Bool.true_and]
  rw [if_pos (notEnded_push mi _ _ _ hA.rt hne)]

theorem solo_timerBegin (mi : Nat) :
    Solo ρ mi (.timerBegin mi) .timerBegin id (fun t g => { g with now := t }) := by
  intro t s r m st hr hm hne hst htr
  have hA := After.callStart t hr
  refine ⟨_, hA, ?_⟩
  simp only [processEvent]
  rw [if_neg (Nat.not_le.mpr (lt_length_of_getElem?_some hA.rt)),
    transition_noTrans ρ mi .timerBegin _ _ m st hA.rt (hA.machine hm) hne hst htr]
  simp only [Bool.not_false, Bool.true_and]
  rw [if_pos (notEnded_push mi _ _ _ hA.rt hne)]

section
variable {ρ} {mi : Nat} {E : TEvent} {ev : Event} {upd : RtAcct → RtAcct} {G : Int → Globals → Globals}

theorem Solo.keep (hE : Solo ρ mi E ev upd G) (t : Int) (s : Fw σ) (r : Runtime) (m : Machine) (st : State)
    (hr : s.rt[mi]? = some r) (hm : s.machines[mi]? = some m) (hne : r.currentState ≠ STATE_END)
    (hst : m.states[r.currentState]? = some st) (htr : st.transitions[ev.toNat]? = some none)
    (hsig : s.signalPending = none)
    (hk : ∀ a, st.action = some a → a.hasLimit = true → 2 ≤ r.stateLimit) :
    CallKeep mi ev r
      { r with stateLimit := r.stateLimit - 1, zeroedA := false, zeroedB := false, acct := upd r.acct }
      (G t s.g) s (triggerEvents ρ [E] t s) := by
  obtain ⟨A, hA, hp⟩ := hE t s r m st hr hm hne hst htr
  have h := hA.keep ρ hm hst hsig hk (.trans mi ev.toNat r.currentState)
  rw [← hp] at h
  exact ⟨h.rt, h.rtOther, h.log, h.actions, h.machines, h.signal.trans hsig, h.fault, h.rng, h.g⟩

theorem Solo.fire (hE : Solo ρ mi E ev upd G) (t : Int) (s : Fw σ) (r : Runtime) (m : Machine) (st : State) (a : Action)
    (hr : s.rt[mi]? = some r) (hm : s.machines[mi]? = some m) (hne : r.currentState ≠ STATE_END)
    (hst : m.states[r.currentState]? = some st) (htr : st.transitions[ev.toNat]? = some none)
    (hsig : s.signalPending = none) (hlen : mi < s.actions.length)
    (hact : st.action = some a) (hl : a.hasLimit = true) (h1 : r.stateLimit ≤ 1) :
    CallFire ρ mi ev r
      { r with stateLimit := 0, zeroedA := false, zeroedB := false, acct := upd r.acct }
      (G t s.g) s (triggerEvents ρ [E] t s) := by
  obtain ⟨A, hA, hp⟩ := hE t s r m st hr hm hne hst htr
  obtain ⟨X, hX, h⟩ := hA.fire ρ hm hst hact hl h1 hlen (.trans mi ev.toNat r.currentState)
  have hu : triggerEvents ρ [E] t s = signalRound ρ (transition ρ FUEL mi .limitReached X).1 := by
    rw [← hX, ← hp]; rfl
  refine ⟨⟨X, hu, h.rt, h.rtOther, h.actions, h.machines, h.signal.trans hsig, h.fault, h.rng, h.g, h.log⟩, ?_⟩
  obtain ⟨l, hl⟩ := (transition_logFirst ρ 7 mi .limitReached X _ m h.rt (h.machine hm)).trans (logExt_signalRound ρ _)
  exact ⟨l, by rw [hu, FUEL_succ, hl, Fw.push, h.log]; rfl⟩

end

/-- what `k` counted completions in a row (one per call), none of which uses the limit up, do -/
structure Counted (mi : Nat) (r' : Runtime) (s u : Fw σ) : Prop where
  rt : u.rt[mi]? = some r'
  machines : u.machines = s.machines
  signal : u.signalPending = s.signalPending
  actLen : u.actions.length = s.actions.length
  fault : u.fault = s.fault
  rng : u.rng = s.rng
  /-- LimitReached was never delivered to the machine, and its limit was never resampled -/
  log : ∃ l, u.log = l ++ s.log ∧ (∀ st', LogEntry.trans mi Event.limitReached.toNat st' ∉ l) ∧
    (∀ x, LogEntry.limit mi x false ∉ l)

theorem runCalls_concat (s : Fw σ) (h : List Call) (c : Call) :
    runCalls ρ s (h ++ [c]) = triggerEvents ρ c.1 c.2 (runCalls ρ s h) := by
  simp [runCalls, List.foldl_append]

section
variable {ρ} {mi : Nat} {E : TEvent} {ev : Event} {upd : RtAcct → RtAcct} {G : Int → Globals → Globals}

/-- Countdown: `k = ts.length` calls in a row, each reporting one completion `E` for machine
    `mi` whose current state has no transition on the delivered event. If the state's action has a
    limit, `k` is at most the limit `L = r.stateLimit` minus one (so that no call uses it up); if
    it has none, `k` is arbitrary. Then the machine is still in its state, its limit is `L - k`,
    the accounting `upd` was applied `k` times, LimitReached was never delivered to it and its
    limit was never resampled; and (if `k > 0`) every slot is empty. -/
theorem Solo.countdown (hE : Solo ρ mi E ev upd G) (hev : ev ≠ .limitReached) (m : Machine) (st : State)
    (ts : List Int) (s : Fw σ) (r : Runtime)
    (hr : s.rt[mi]? = some r) (hm : s.machines[mi]? = some m) (hne : r.currentState ≠ STATE_END)
    (hst : m.states[r.currentState]? = some st) (htr : st.transitions[ev.toNat]? = some none)
    (hsig : s.signalPending = none)
    (hk : ∀ a, st.action = some a → a.hasLimit = true → ts.length ≤ r.stateLimit - 1) :
    Counted mi
      { r with stateLimit := r.stateLimit - ts.length, zeroedA := r.zeroedA && ts.isEmpty,
               zeroedB := r.zeroedB && ts.isEmpty, acct := upd^[ts.length] r.acct }
      s (runCalls ρ s (ts.map (fun t => ([E], t)))) ∧
    (ts ≠ [] → (runCalls ρ s (ts.map (fun t => ([E], t)))).actions = s.actions.map (fun _ => none)) := by
  induction ts generalizing s r with
  | nil =>
    refine ⟨⟨?_, rfl, rfl, rfl, rfl, rfl, ⟨[], rfl, fun _ => List.not_mem_nil, fun _ => List.not_mem_nil⟩⟩, fun h => absurd rfl h⟩
    simp [runCalls, hr]
  | cons t ts ih =>
    simp only [List.length_cons] at hk
    have hc := hE.keep t s r m st hr hm hne hst htr hsig (fun a ha hl => by have := hk a ha hl; omega)
    obtain ⟨ih1, ih2⟩ := ih (triggerEvents ρ [E] t s) _ hc.rt (by rw [hc.machines]; exact hm) hne hst hc.signal
      (fun a ha hl => by have := hk a ha hl; show ts.length ≤ r.stateLimit - 1 - 1; omega)
    rw [List.map_cons, runCalls_cons]
    obtain ⟨l1, hl1, hn1, hx1⟩ := ih1.log
    refine ⟨⟨?_, ih1.machines.trans hc.machines, by rw [ih1.signal, hc.signal, hsig], ?_, ih1.fault.trans hc.fault,
      ih1.rng.trans hc.rng,
      ⟨l1 ++ [.limit mi (r.stateLimit - 1) true, .trans mi ev.toNat r.currentState],
        by rw [hl1, hc.log, List.append_assoc]; rfl, ?_, ?_⟩⟩, fun _ => ?_⟩
    · rw [ih1.rt]
      simp only [List.length_cons, Function.iterate_succ, Function.comp_apply, List.isEmpty_cons, Bool.and_false,
        Bool.false_and, Nat.sub_sub, Nat.add_comm 1]
    · rw [ih1.actLen, hc.actions, List.length_map]
    · intro st' hmem
      rcases List.mem_append.mp hmem with h | h
      · exact hn1 st' h
      · simp only [List.mem_cons, List.mem_nil_iff, or_false, reduceCtorEq, false_or, LogEntry.trans.injEq] at h
        exact hev ((toNat_limitReached ev).mp h.2.1.symm)
    · intro x hmem
      rcases List.mem_append.mp hmem with h | h
      · exact hx1 x h
      · simp at h
    · cases ts with
      | nil => exact hc.actions
      | cons t' ts' => rw [ih2 (List.cons_ne_nil _ _), hc.actions, List.map_map]; rfl

/-- The `L`-th completion: after `L - 1` counted completions (`L` the sampled limit of a state
    whose action has a limit; also `L = 0` with no previous completion), the next one uses the
    limit up and LimitReached is delivered in that call. -/
theorem Solo.countdown_fire (hE : Solo ρ mi E ev upd G) (hev : ev ≠ .limitReached) (m : Machine) (st : State)
    (a : Action) (ts : List Int) (t : Int) (s : Fw σ) (r : Runtime)
    (hr : s.rt[mi]? = some r) (hm : s.machines[mi]? = some m) (hne : r.currentState ≠ STATE_END)
    (hst : m.states[r.currentState]? = some st) (htr : st.transitions[ev.toNat]? = some none)
    (hsig : s.signalPending = none) (hlen : mi < s.actions.length)
    (hact : st.action = some a) (hl : a.hasLimit = true) (hL : ts.length = r.stateLimit - 1) :
    CallFire ρ mi ev
      { r with stateLimit := r.stateLimit - ts.length, zeroedA := r.zeroedA && ts.isEmpty,
               zeroedB := r.zeroedB && ts.isEmpty, acct := upd^[ts.length] r.acct }
      { r with stateLimit := 0, zeroedA := false, zeroedB := false, acct := upd (upd^[ts.length] r.acct) }
      (G t (runCalls ρ s (ts.map (fun t => ([E], t)))).g)
      (runCalls ρ s (ts.map (fun t => ([E], t))))
      (triggerEvents ρ [E] t (runCalls ρ s (ts.map (fun t => ([E], t))))) := by
  obtain ⟨hc, _⟩ := hE.countdown hev m st ts s r hr hm hne hst htr hsig (fun _ _ _ => Nat.le_of_eq hL)
  exact hE.fire t _ _ m st a hc.rt (by rw [hc.machines]; exact hm) hne hst htr (hc.signal.trans hsig)
    (by rw [hc.actLen]; exact hlen) hact hl (by show r.stateLimit - ts.length ≤ 1; omega)

end

theorem iterate_paddingSent (k : Nat) (a : RtAcct) :
    (fun a : RtAcct => { a with paddingSent := a.paddingSent + 1 })^[k] a = { a with paddingSent := a.paddingSent + k } := by
  induction k generalizing a with
  | zero => rfl
  | succ k ih =>
    rw [Function.iterate_succ, Function.comp_apply, ih]
    simp only [Nat.add_assoc, Nat.add_comm 1]

/-- weight 1 on the LimitReached deliveries to machine `mi` -/
def μLR (mi : Nat) : LogEntry → Nat
  | .trans m ev _ => if m = mi ∧ ev = Gen.EV_LimitReached then 1 else 0
  | _ => 0

theorem μLR_transOnly (mi : Nat) : TransOnly (μLR mi) := by
  intro e he
  cases e with
  | trans m ev st => exact absurd rfl (he m ev st)
  | _ => rfl

/-- LimitReached events delivered to machine `mi` according to the log -/
def lrOf (mi : Nat) (s : Fw σ) : Nat := wsum (μLR mi) s.log

theorem lr_transition (mi j : Nat) (ev : Event) (s : Fw σ) :
    lrOf mi (transition ρ FUEL j ev s).1 ≤ lrOf mi s + (if j = mi ∧ ev = .limitReached then 1 else 0) := by
  have := (count_main ρ (μLR_transOnly mi) 0 FUEL).1 j ev (if j = mi ∧ ev = .limitReached then 1 else 0) s
    (fun st => by
      simp only [μLR, toNat_limitReached]
      split <;> simp_all)
    (fun st => by
      simp only [μLR]
      have : ¬ (Event.counterZero.toNat = Gen.EV_LimitReached) := by decide
      simp [this])
  unfold lrOf; omega

theorem lr_same {mi : Nat} {s t : Fw σ} (h : t.log = s.log) : lrOf mi t = lrOf mi s := by
  unfold lrOf; rw [h]

theorem lr_push (mi : Nat) (s : Fw σ) (e : LogEntry) (he : μLR mi e = 0) : lrOf mi (s.push e) = lrOf mi s := by
  simp [lrOf, Fw.push, wsum_cons, he]

theorem lr_push_ne (mi : Nat) (s : Fw σ) (j ev cur : Nat) (hev : ev ≠ Gen.EV_LimitReached) :
    lrOf mi (s.push (.trans j ev cur)) = lrOf mi s :=
  lr_push mi s _ (if_neg fun h => hev h.2)

theorem lr_decrement_other (mi j : Nat) (s : Fw σ) (hj : j ≠ mi) : lrOf mi (decrementLimit ρ j s) ≤ lrOf mi s :=
  decrementLimit_rel ρ (Q := fun a b => lrOf mi b ≤ lrOf mi a) j (fun h₁ h₂ => Nat.le_trans h₂ h₁)
    (fun s => Nat.le_of_eq (lr_same (by simp)))
    (fun s l => Nat.le_of_eq ((lr_push mi _ _ rfl).trans (lr_same (by simp))))
    (fun s _ => Nat.le_refl _)
    (fun s => by have := lr_transition ρ mi j .limitReached s; rwa [if_neg (fun h => hj h.1)] at this) s

theorem noLR_of_le {mi : Nat} {s u : Fw σ} {l : List LogEntry} (hl : u.log = l ++ s.log) (hle : lrOf mi u ≤ lrOf mi s) :
    ∀ st', LogEntry.trans mi Event.limitReached.toNat st' ∉ l := by
  intro st' hmem
  unfold lrOf at hle
  rw [hl, wsum_append] at hle
  have h0 : wsum (μLR mi) l = 0 := by omega
  have : μLR mi (.trans mi Event.limitReached.toNat st') ≤ wsum (μLR mi) l := Mb.wsum_mem_le _ _ _ hmem
  rw [h0] at this
  simp [μLR] at this
  exact this (by decide)

/-- `t` agrees with `s` on everything that belongs to machine `mi` (the machine, its runtime, its
    slot), its log extends that of `s`, and LimitReached was not delivered to `mi` in between -/
structure Quiet (mi : Nat) (s t : Fw σ) : Prop where
  m : t.machines[mi]? = s.machines[mi]?
  rt : t.rt[mi]? = s.rt[mi]?
  act : t.actions[mi]? = s.actions[mi]?
  lr : lrOf mi t ≤ lrOf mi s
  ext : LogExt s t

theorem Quiet.refl (mi : Nat) (s : Fw σ) : Quiet mi s s := ⟨rfl, rfl, rfl, Nat.le_refl _, LogExt.refl _⟩

theorem Quiet.trans {mi : Nat} {s t u : Fw σ} (h₁ : Quiet mi s t) (h₂ : Quiet mi t u) : Quiet mi s u :=
  ⟨h₂.m.trans h₁.m, h₂.rt.trans h₁.rt, h₂.act.trans h₁.act, Nat.le_trans h₂.lr h₁.lr, h₁.ext.trans h₂.ext⟩

theorem Quiet.ofSame {mi : Nat} {s t : Fw σ} (h : Same mi s t) (hlr : lrOf mi t ≤ lrOf mi s) (hext : LogExt s t) :
    Quiet mi s t := ⟨h.m, h.rt, h.act, hlr, hext⟩

theorem Quiet.sameLog {mi : Nat} {s t : Fw σ} (h : Same mi s t) (hl : t.log = s.log) : Quiet mi s t :=
  Quiet.ofSame h (Nat.le_of_eq (lr_same hl)) (LogExt.ofEq hl)

theorem Quiet.setG (mi : Nat) (s : Fw σ) (g' : Globals) : Quiet mi s { s with g := g' } :=
  ⟨rfl, rfl, rfl, Nat.le_refl _, LogExt.refl _⟩

theorem Quiet.modRt_other (mi j : Nat) (s : Fw σ) (f : Runtime → Runtime) (hj : j ≠ mi) : Quiet mi s (s.modRt j f) :=
  ⟨by simp, Fw.modRt_rt_other s j mi f (Ne.symm hj), by simp, Nat.le_of_eq (lr_same (by simp)), LogExt.ofEq (by simp)⟩

theorem quiet_transition_other (mi j : Nat) (ev : Event) (s : Fw σ) (hj : j ≠ mi) :
    Quiet mi s (transition ρ FUEL j ev s).1 := by
  refine Quiet.ofSame (Same.ofFrame (transition_reach ρ FUEL j ev s).frame (Ne.symm hj)) ?_ (logExt_transition ρ _ _ _ _)
  have := lr_transition ρ mi j ev s
  simpa [hj] using this

theorem quiet_decrement_other (mi j : Nat) (s : Fw σ) (hj : j ≠ mi) : Quiet mi s (decrementLimit ρ j s) :=
  Quiet.ofSame (Same.ofFrame (decrementLimit_reach ρ j s).frame (Ne.symm hj)) (lr_decrement_other ρ mi j s hj)
    (logExt_decrement ρ _ _)

theorem quiet_transition_noVec (mi : Nat) (ev : Event) (hev : ev ≠ .limitReached) (s : Fw σ) (r : Runtime) (m : Machine)
    (hr : s.rt[mi]? = some r) (hm : s.machines[mi]? = some m)
    (hnv : ∀ st vec, m.states[r.currentState]? = some st → st.transitions[ev.toNat]? ≠ some (some vec)) :
    Quiet mi s (transition ρ FUEL mi ev s).1 := by
  have hp : Quiet mi s (s.push (.trans mi ev.toNat r.currentState)) :=
    ⟨rfl, rfl, rfl, Nat.le_of_eq (lr_push_ne mi s _ _ _ ((toNat_limitReached ev).not.mpr hev)), LogExt.push _ _⟩
  rcases transition_noVec ρ 7 mi ev s r m hr hm hnv with h | h <;> rw [FUEL_succ, h]
  · exact hp
  · exact hp.trans (Quiet.sameLog (Same.withFault _ _ _) (Fw.withFault_log _ _))

def InState (mi : Nat) (m : Machine) (cur : Nat) (s : Fw σ) : Prop :=
  s.machines[mi]? = some m ∧ ∃ r, s.rt[mi]? = some r ∧ r.currentState = cur

theorem InState.same {mi : Nat} {m : Machine} {cur : Nat} {s t : Fw σ} (h : InState mi m cur s) (hs : Quiet mi s t) :
    InState mi m cur t := by
  obtain ⟨h1, r, h2, h3⟩ := h
  exact ⟨by rw [hs.m]; exact h1, r, by rw [hs.rt]; exact h2, h3⟩

theorem fold_quiet {mi : Nat} {m : Machine} {cur : Nat} (F : Fw σ → Nat → Fw σ)
    (hF : ∀ s j, InState mi m cur s → Quiet mi s (F s j)) (l : List Nat) (s : Fw σ) (hs : InState mi m cur s) :
    Quiet mi s (l.foldl F s) :=
  foldl_rel (R := fun a b => InState mi m cur a → Quiet mi a b) (fun a _ => Quiet.refl _ a)
    (fun h₁ h₂ ha => (h₁ ha).trans (h₂ (ha.same (h₁ ha)))) F l (fun s j _ => hF s j) s hs

theorem signalRound_quiet (mi : Nat) (m : Machine) (cur : Nat)
    (hns : ∀ st vec, m.states[cur]? = some st → st.transitions[Event.signal.toNat]? ≠ some (some vec))
    (s : Fw σ) (hs : InState mi m cur s) : Quiet mi s (signalRound ρ s) := by
  refine signalRound_rel ρ (R := fun a b => InState mi m cur a → Quiet mi a b) (fun a _ => Quiet.refl _ a)
    (fun h₁ h₂ ha => (h₁ ha).trans (h₂ (ha.same (h₁ ha)))) (fun a p _ => Quiet.sameLog (Same.signal _ _ _) rfl)
    (fun a j ha => ?_) s hs
  by_cases hj : j = mi
  · subst hj
    obtain ⟨h1, r, h2, h3⟩ := ha
    exact quiet_transition_noVec ρ j .signal (by decide) a r m h2 h1 (by rw [h3]; exact hns)
  · exact quiet_transition_other ρ mi j .signal a hj

theorem quiet_transDec_other (mi j : Nat) (ev : Event) (s : Fw σ) (hj : j ≠ mi) (c : Fw σ × Bool → Bool) :
    Quiet mi s (if c (transition ρ FUEL j ev s) = true then decrementLimit ρ j (transition ρ FUEL j ev s).1
                else (transition ρ FUEL j ev s).1) := by
  split
  · exact (quiet_transition_other ρ mi j ev s hj).trans (quiet_decrement_other ρ mi j _ hj)
  · exact quiet_transition_other ρ mi j ev s hj

/-- the three completion events, reported for machine `j` -/
inductive CompletionFor (j : Nat) : TEvent → Prop
  | paddingSent : CompletionFor j (.paddingSent j)
  | blockingBegin : CompletionFor j (.blockingBegin j)
  | timerBegin : CompletionFor j (.timerBegin j)

theorem processEvent_other_quiet (mi j : Nat) (hj : j ≠ mi) (m : Machine) (cur : Nat) (E : TEvent)
    (hE : CompletionFor j E)
    (hbb : E = .blockingBegin j →
      ∀ st vec, m.states[cur]? = some st → st.transitions[Event.blockingBegin.toNat]? ≠ some (some vec))
    (s : Fw σ) (hs : InState mi m cur s) : Quiet mi s (processEvent ρ E s) := by
  cases hE with
  | paddingSent =>
    simp only [processEvent]
    refine (Quiet.setG mi s { s.g with paddingSent := s.g.paddingSent + 1 }).trans ?_
    split
    · exact Quiet.refl _ _
    · exact (Quiet.modRt_other mi j _ _ hj).trans
        (quiet_transDec_other ρ mi j .paddingSent _ hj (fun p => !p.2 && notEnded p.1 j))
  | timerBegin =>
    simp only [processEvent]
    split
    · exact Quiet.refl _ _
    · exact quiet_transDec_other ρ mi j .timerBegin _ hj (fun p => !p.2 && notEnded p.1 j)
  | blockingBegin =>
    simp only [processEvent]
    have h1 : Quiet mi s (if !s.g.blockingActive then
        { s with g := { s.g with blockingActive := true, blockingStarted := s.g.now } } else s) := by
      split
      · exact Quiet.setG mi s _
      · exact Quiet.refl _ _
    refine h1.trans (fold_quiet _ (fun a k ha => ?_) _ _ (hs.same h1))
    by_cases hk : k = mi
    · subst hk
      obtain ⟨ha1, r, ha2, ha3⟩ := ha
      have hb : (k == j) = false := by simpa using (Ne.symm hj)
      have hq := quiet_transition_noVec ρ k .blockingBegin (by decide) a r m ha2 ha1 (by rw [ha3]; exact hbb rfl)
      show Quiet k a (if (fun p : Fw σ × Bool => !p.2 && notEnded p.1 k && k == j) (transition ρ FUEL k .blockingBegin a) = true
        then decrementLimit ρ k (transition ρ FUEL k .blockingBegin a).1 else (transition ρ FUEL k .blockingBegin a).1)
      simp only [hb, Bool.and_false, Bool.false_eq_true, if_false]
      exact hq
    · exact quiet_transDec_other ρ mi k .blockingBegin a hk (fun p => !p.2 && notEnded p.1 k && k == j)

/-- a loop over distinct machines in which only the visit of `mi` turns `Pre` into `Post` -/
theorem fold_visit_once {Pre Post : Fw σ → Prop} (F : Fw σ → Nat → Fw σ) (mi : Nat)
    (hPre : ∀ s j, j ≠ mi → Pre s → Pre (F s j))
    (hPost : ∀ s j, j ≠ mi → Post s → Post (F s j))
    (hself : ∀ s, Pre s → Post (F s mi))
    (l : List Nat) (hnd : l.Nodup) (hmem : mi ∈ l) (s : Fw σ) (hs : Pre s) : Post (l.foldl F s) := by
  have hrest : ∀ (l : List Nat), mi ∉ l → ∀ s, Post s → Post (l.foldl F s) := by
    intro l
    induction l with
    | nil => intro _ s hs; exact hs
    | cons a l ih =>
      intro hni s hs
      simp only [List.mem_cons, not_or] at hni
      exact ih hni.2 _ (hPost s a (fun h => hni.1 h.symm) hs)
  induction l generalizing s with
  | nil => cases hmem
  | cons a l ih =>
    simp only [List.nodup_cons] at hnd
    simp only [List.foldl_cons]
    by_cases ha : a = mi
    · subst ha
      exact hrest l hnd.1 _ (hself s hs)
    · have : mi ∈ l := by
        rcases List.mem_cons.mp hmem with h | h
        · exact absurd h.symm ha
        · exact h
      exact ih hnd.2 this _ (hPre s a ha hs)

/-- The loop of a BlockingBegin reported for `mi`, when `mi`'s state has no transition on
    BlockingBegin: the machines visited before `mi` leave it alone (`a` is the framework they
    produce), its own visit is the logged delivery and the decrement, and the machines visited
    afterwards leave it alone again -/
theorem blockingBegin_self (mi : Nat) (s : Fw σ) (r : Runtime) (m : Machine) (st : State)
    (hr : s.rt[mi]? = some r) (hm : s.machines[mi]? = some m) (hne : r.currentState ≠ STATE_END)
    (hst : m.states[r.currentState]? = some st) (htr : st.transitions[Event.blockingBegin.toNat]? = some none) :
    ∃ a, Quiet mi s a ∧
      Quiet mi (decrementLimit ρ mi (a.push (.trans mi Event.blockingBegin.toNat r.currentState)))
        (processEvent ρ (.blockingBegin mi) s) := by
  simp only [processEvent]
  generalize hb : (if !s.g.blockingActive then
      ({ s with g := { s.g with blockingActive := true, blockingStarted := s.g.now } } : Fw σ) else s) = b
  have hqb : Quiet mi s b := by
    subst hb; split
    · exact Quiet.setG mi _ _
    · exact Quiet.refl _ _
  have hmi : mi < b.rt.length := lt_length_of_getElem?_some (hqb.rt.trans hr)
  refine fold_visit_once (Pre := Quiet mi s)
    (Post := fun x => ∃ a, Quiet mi s a ∧
      Quiet mi (decrementLimit ρ mi (a.push (.trans mi Event.blockingBegin.toNat r.currentState))) x) _ mi
    (fun a k hk ha => ha.trans (quiet_transDec_other ρ mi k .blockingBegin a hk (fun p => !p.2 && notEnded p.1 k && k == mi)))
    (fun x k hk ⟨a, h1, h2⟩ =>
      ⟨a, h1, h2.trans (quiet_transDec_other ρ mi k .blockingBegin x hk (fun p => !p.2 && notEnded p.1 k && k == mi))⟩)
    (fun a ha => ⟨a, ha, ?_⟩) _ List.nodup_range (List.mem_range.mpr hmi) b hqb
  have hra : a.rt[mi]? = some r := ha.rt.trans hr
  simp only [transition_noTrans ρ mi .blockingBegin a r m st hra (ha.m.trans hm) hne hst htr,
    notEnded_push mi a _ r hra hne, beq_self_eq_true, Bool.not_false, Bool.and_self, if_true]
  exact Quiet.refl _ _

theorem decrement_fire_log (mi : Nat) (e : LogEntry) (A : Fw σ) (rA : Runtime) (m : Machine) (st : State) (a : Action)
    (hrA : A.rt[mi]? = some rA) (hm : A.machines[mi]? = some m) (hst : m.states[rA.currentState]? = some st)
    (hact : st.action = some a) (hl : a.hasLimit = true) (h1 : rA.stateLimit ≤ 1) (hlen : mi < A.actions.length) :
    ∃ l, (decrementLimit ρ mi (A.push e)).log =
      l ++ .trans mi Event.limitReached.toNat rA.currentState :: .limit mi 0 true :: e :: A.log := by
  obtain ⟨X, hX, hrX, hmX, hlX⟩ : ∃ X, decrementLimit ρ mi (A.push e) = (transition ρ FUEL mi .limitReached X).1 ∧
      X.rt[mi]? = some { rA with stateLimit := 0 } ∧ X.machines[mi]? = some m ∧ X.log = .limit mi 0 true :: e :: A.log :=
    ⟨_, decrementLimit_fire ρ mi (A.push e) rA m st a hrA hm hst hact hl h1 hlen,
      by show ((A.push e).modRt mi _).rt[mi]? = _; rw [Fw.modRt_rt_self, Fw.push_rt, hrA]; rfl,
      by show ((A.push e).modRt mi _).machines[mi]? = _; rw [Fw.modRt_machines]; exact hm,
      by show .limit mi 0 true :: ((A.push e).modRt mi _).log = _; rw [Fw.modRt_log]; rfl⟩
  obtain ⟨l, hl⟩ := transition_logFirst ρ 7 mi .limitReached X _ m hrX hmX
  exact ⟨l, by rw [hX, FUEL_succ, hl, Fw.push, hlX]⟩

/-- the weight vanishes on everything but decrement entries (`limit _ _ true`) -/
def DecOnly (μ : LogEntry → Nat) : Prop := ∀ e, (∀ i x, e ≠ .limit i x true) → μ e = 0

/-- weight 1 on the decrements of machine `mi`'s limit -/
def μDec (mi : Nat) : LogEntry → Nat
  | .limit m _ d => if m = mi ∧ d = true then 1 else 0
  | _ => 0

theorem μDec_decOnly (mi : Nat) : DecOnly (μDec mi) := by
  intro e he
  cases e with
  | limit m x d =>
    cases d with
    | true => exact absurd rfl (he m x)
    | false => simp [μDec]
  | _ => rfl

/-- decrements of machine `mi`'s limit according to the log -/
def decOf (mi : Nat) (s : Fw σ) : Nat := wsum (μDec mi) s.log

section
variable {μ : LogEntry → Nat}

theorem dq_push (hμ : DecOnly μ) (s : Fw σ) (e : LogEntry) (he : ∀ i x, e ≠ .limit i x true) :
    QuietLog μ s (s.push e) := ⟨by simp [Fw.push, wsum_cons, hμ e he]⟩

theorem DecOnly.distRaw (hμ : DecOnly μ) (b : F64) : μ (.distRaw b) = 0 := hμ _ nofun
theorem DecOnly.limitFalse (hμ : DecOnly μ) (i l : Nat) : μ (.limit i l false) = 0 := hμ _ nofun

/-- no transition (with all its CounterZero follow-ups) ever logs a decrement -/
theorem dq_main (hμ : DecOnly μ) (fuel : Nat) :
    (∀ mi ev (s : Fw σ), QuietLog μ s (transition ρ fuel mi ev s).1) ∧
    (∀ mi (s : Fw σ), QuietLog μ s (updateCounter ρ fuel mi s).1) := by
  have hf : ∀ (s : Fw σ) f, QuietLog μ s (s.withFault f) := fun s f => quiet_withFault s f
  have h := transition_induct ρ (PT := fun _ _ _ _ => True) (PU := fun _ _ _ => True)
    (T := fun _ _ _ s s' _ => QuietLog μ s s') (U := fun _ _ s s' _ _ => QuietLog μ s s')
    (fun _ _ s _ => hf s _) (fun _ _ _ s _ _ => hf s _) ?_ (fun _ s _ => hf s _) (fun _ _ s _ _ => hf s _) ?_ fuel
  · exact ⟨fun mi ev s => h.1 mi ev s trivial, fun mi s => h.2 mi s trivial⟩
  · intro n mi ev s r m _ _ _ s0
    have h0 : QuietLog μ s s0 := dq_push hμ _ _ nofun
    refine ⟨fun _ => h0, fun _ => ⟨fun _ => h0.trans (hf _ _), fun st _ =>
      ⟨fun _ => h0.trans (hf _ _), fun _ => h0, fun vec _ => ?_⟩⟩⟩
    intro d s1
    have h1 : QuietLog μ s s1 := h0.trans (QuietLog.trans (t := { s0 with rng := d.2 }) ⟨rfl⟩ (dq_push hμ _ _ nofun))
    refine ⟨fun _ => h1, fun next _ => ?_⟩
    intro s2
    have h2 : QuietLog μ s s2 := h1.trans (dq_push hμ _ _ nofun)
    refine ⟨fun _ => h2.trans (quiet_modRt _ _ _), fun _ _ => h2.trans ⟨rfl⟩, fun _ _ => ?_⟩
    intro s3
    have h3 : QuietLog μ s s3 := h2.trans (quiet_enterState ρ hμ.distRaw hμ.limitFalse mi m r.currentState next s2)
    refine ⟨fun _ => h3.trans (hf _ _), fun r1 _ => ⟨fun _ => h3.trans (hf _ _), fun below _ => ?_⟩⟩
    intro res ih s5
    have h5 : QuietLog μ s s5 := by
      show QuietLog μ s (if _ then _ else _)
      split
      · exact (h3.trans (ih trivial)).trans (quiet_scheduleAction ρ hμ.distRaw mi next _)
      · exact h3.trans (ih trivial)
    exact ⟨fun _ => h5.trans (hf _ _), fun _ _ => h5⟩
  · intro n mi s r m _ _ _
    refine ⟨fun _ => hf s _, fun st _ => ?_⟩
    intro ra rb s2
    have h2 : QuietLog μ s s2 :=
      (((quiet_applyCounter ρ hμ.distRaw mi).1 st.counterA r.counterA r.counterB s).trans
        ((quiet_applyCounter ρ hμ.distRaw mi).2 st.counterB r.counterA r.counterB ra.1)).trans (dq_push hμ _ _ nofun)
    refine ⟨fun _ => h2, fun _ => ?_⟩
    intro res ih
    exact ⟨fun _ => (h2.trans (ih trivial)).trans (hf _ _), fun _ _ => h2.trans (ih trivial)⟩

end

theorem dec_transition (mi j : Nat) (ev : Event) (s : Fw σ) : decOf mi (transition ρ FUEL j ev s).1 = decOf mi s :=
  ((dq_main ρ (μDec_decOnly mi) FUEL).1 j ev s).w

theorem dec_same {mi : Nat} {s t : Fw σ} (h : t.log = s.log) : decOf mi t = decOf mi s := by
  unfold decOf; rw [h]

theorem dec_decrement (mi j : Nat) (s : Fw σ) :
    decOf mi (decrementLimit ρ j s) ≤ decOf mi s + (if j = mi then 1 else 0) := by
  rcases decrementLimit_cases ρ j s with e | ⟨r, _, hs1⟩
  · rw [e]; exact Nat.le_trans (Nat.le_of_eq (dec_same (by simp))) (Nat.le_add_right _ _)
  · have h1 : decOf mi ((s.modRt j (fun r' => { r' with stateLimit := r.stateLimit - 1 })).push
        (.limit j (r.stateLimit - 1) true)) = decOf mi s + (if j = mi then 1 else 0) := by
      simp [decOf, Fw.push, wsum_cons, μDec]; omega
    rcases hs1 _ rfl with e | e | ⟨_, e⟩ <;> rw [e]
    · exact Nat.le_of_eq ((dec_same (by simp)).trans h1)
    · exact Nat.le_of_eq h1
    · rw [dec_transition]; exact Nat.le_of_eq h1

/-- is this event a completion reported for machine `mi` -/
def TEvent.completes (mi : Nat) : TEvent → Bool
  | .paddingSent m => m == mi
  | .blockingBegin m => m == mi
  | .timerBegin m => m == mi
  | _ => false

/-- can the event, delivered to machine `k`, lead to a decrement of `k`'s limit -/
def mayDecrement (e : TEvent) (k : Nat) : Bool :=
  match e with
  | .paddingSent _ | .timerBegin _ => true
  | .blockingBegin m => k == m
  | _ => false

theorem mayDecrement_of_evDec {e : TEvent} {k : Nat} {p : Fw σ × Bool} (h : evDec e k p = true) :
    mayDecrement e k = true := by
  cases e with
  | paddingSent _ | timerBegin _ => rfl
  | blockingBegin m =>
    simp only [evDec, Bool.and_eq_true] at h
    exact h.2
  | _ => cases h

/-- An event decrements `mi`'s limit at most once, and only if it is a completion for `mi`. -/
theorem dec_processEvent (mi : Nat) (e : TEvent) (s : Fw σ) :
    decOf mi (processEvent ρ e s) ≤ decOf mi s + (if TEvent.completes mi e then 1 else 0) := by
  have hstep : ∀ (a : Fw σ) (k : Nat), decOf mi (evStep ρ e (e.blocked s.g) a k) ≤
      decOf mi a + (if k = mi ∧ mayDecrement e k = true then 1 else 0) := by
    intro a k
    have hT : decOf mi (transition ρ FUEL k e.kind (evAcct e (e.blocked s.g) k a)).1 = decOf mi a :=
      (dec_transition ρ mi k _ _).trans (dec_same (evAcct_frame e _ k a).1)
    unfold evStep
    simp only []
    split
    · next hd =>
      have hm := mayDecrement_of_evDec hd
      have := dec_decrement ρ mi k (transition ρ FUEL k e.kind (evAcct e (e.blocked s.g) k a)).1
      simp only [hm, and_true]
      omega
    · omega
  -- over the machines the event is delivered to, at most one visit can decrement `mi`'s limit
  rw [processEvent_eq]
  refine Nat.le_trans (wsum_foldl (μ := μDec mi) _ _ hstep _ _) ?_
  rw [show wsum (μDec mi) (evGlobal e s).log = decOf mi s from congrArg _ (evGlobal_frame e s).1]
  refine Nat.add_le_add_left ?_ _
  generalize (evGlobal e s).rt.length = n
  have hzero : ∀ l : List Nat, (l.map (fun k => if k = mi ∧ false = true then 1 else 0)).sum = 0 := by
    intro l; simp
  have hone : ∀ x, ((if x ≥ n then [] else [x]).map (fun k => if k = mi ∧ true = true then 1 else 0)).sum ≤
      (if (x == mi) = true then 1 else 0) := by
    intro x; split <;> simp
  cases e with
  | paddingSent x => exact hone x
  | timerBegin x => exact hone x
  | blockingBegin m =>
    simp only [TEvent.targets, mayDecrement, TEvent.completes, beq_iff_eq]
    by_cases hm : m = mi
    · subst hm
      simp only [and_self, if_true]
      exact Nat.le_trans (sum_indicator_nodup m _ (List.nodup_range (n := n)))
        (ite_ind (· ≤ 1) (fun _ => Nat.le_refl 1) (fun _ => Nat.zero_le 1))
    · rw [if_neg hm]
      exact Nat.le_of_eq (List.sum_eq_zero (by simp; omega))
  | _ => exact Nat.le_trans (Nat.le_of_eq (hzero _)) (Nat.zero_le _)

theorem dec_signalRound (mi : Nat) (s : Fw σ) : decOf mi (signalRound ρ s) = decOf mi s :=
  signalRound_rel ρ (R := fun a b => decOf mi b = decOf mi a) (fun _ => rfl) (fun h₁ h₂ => h₂.trans h₁)
    (fun _ _ => rfl) (fun a j => dec_transition ρ mi j .signal a) s

/-- One call decrements `mi`'s limit at most as often as the call reports completions for `mi` -/
theorem dec_triggerEvents (mi : Nat) (es : List TEvent) (t : Int) (s : Fw σ) :
    decOf mi (triggerEvents ρ es t s) ≤ decOf mi s + es.countP (TEvent.completes mi) := by
  unfold triggerEvents
  rw [dec_signalRound]
  have h0 : decOf mi (s.callStart t) = decOf mi s := rfl
  rw [← h0]
  generalize s.callStart t = a
  induction es generalizing a with
  | nil => simp
  | cons e es ih =>
    simp only [List.foldl_cons, List.countP_cons]
    have h1 := dec_processEvent ρ mi e a
    have h2 := ih (processEvent ρ e a)
    omega

theorem dec_runCalls (mi : Nat) (h : List Call) (s : Fw σ) :
    decOf mi (runCalls ρ s h) ≤ decOf mi s + (h.map (fun c => c.1.countP (TEvent.completes mi))).sum := by
  unfold runCalls
  induction h generalizing s with
  | nil => simp
  | cons c cs ih =>
    simp only [List.foldl_cons, List.map_cons, List.sum_cons]
    have h1 := dec_triggerEvents ρ mi c.1 c.2 s
    have h2 := ih (triggerEvents ρ c.1 c.2 s)
    omega

/-- is this log entry a decrement of machine `mi`'s limit -/
def isDecrementOf (mi : Nat) : LogEntry → Bool
  | .limit m _ d => m == mi && d
  | _ => false

theorem wsum_μDec (mi : Nat) (l : List LogEntry) : wsum (μDec mi) l = l.countP (isDecrementOf mi) := by
  induction l with
  | nil => rfl
  | cons e l ih =>
    rw [wsum_cons, List.countP_cons, ih]
    cases e with
    | limit m x d => cases d <;> by_cases hm : m = mi <;> (simp [μDec, isDecrementOf, hm]; try omega)
    | _ => simp [μDec, isDecrementOf]

theorem decOf_ext {mi : Nat} {s u : Fw σ} {l : List LogEntry} (hl : u.log = l ++ s.log) :
    decOf mi u = l.countP (isDecrementOf mi) + decOf mi s := by
  unfold decOf
  rw [hl, wsum_append, wsum_μDec]

end Mb.Countdown
