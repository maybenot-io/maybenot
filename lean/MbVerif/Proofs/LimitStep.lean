/-
  C07, the "changed" result of `transition` read off the log: the log segment of a transition for
  machine `mi` (after the delivery entry) consists of entries of `mi` only — draws, sampled states,
  limit assignments, counter updates and CounterZero deliveries, never a decrement — and folding
  the monitor's `changedState` over it yields exactly the Boolean `StateChange::Changed` that
  `transition` returns, while tracking the machine's current state. (By `transition_induct`; an
  exhausted fuel or a failed lookup is a fault, and everything is stated for executions that end
  without a fault.)
-/
import MbVerif.Proofs.LimitLog

namespace Mb
namespace LL
open C07 (isRegular)

/-- the step of `C07.changedState` -/
def csStep (mi : Nat) (acc : Nat × Bool) (e : LogEntry) : Nat × Bool :=
  match e with
  | .sampled m _ next =>
    if m == mi && (next == STATE_END || (isRegular next && next != acc.1)) then (next, true) else acc
  | _ => acc

theorem changedState_eq (mi st0 : Nat) (log : List LogEntry) :
    C07.changedState mi st0 log = (log.foldl (csStep mi) (st0, false)).2 := by
  unfold C07.changedState
  congr 2

/-- what a transition of machine `mi` logs after the delivery entry -/
def ok (mi : Nat) : LogEntry → Prop
  | .trans m ev _ => m = mi ∧ ev = Gen.EV_CounterZero
  | .sampled m _ _ => m = mi
  | .limit m _ d => m = mi ∧ d = false
  | .counter m .. => m = mi
  | _ => True

theorem csStep_noSampled (mi : Nat) (acc : Nat × Bool) (e : LogEntry) (h : ∀ m ev nx, e ≠ .sampled m ev nx) :
    csStep mi acc e = acc := by
  cases e with
  | sampled m ev nx => exact absurd rfl (h m ev nx)
  | _ => rfl

theorem csFold_noSampled (mi : Nat) (c : List LogEntry) (acc : Nat × Bool)
    (h : ∀ e ∈ c, ∀ m ev nx, e ≠ .sampled m ev nx) : c.foldl (csStep mi) acc = acc := by
  induction c generalizing acc with
  | nil => rfl
  | cons e c ih =>
    rw [List.foldl_cons, csStep_noSampled mi acc e (h e (by simp))]
    exact ih acc (fun e' he' => h e' (by simp [he']))

theorem csStep_other (mi j : Nat) (hj : j ≠ mi) (acc : Nat × Bool) (ev nx : Nat) :
    csStep mi acc (.sampled j ev nx) = acc := by
  have : (j == mi) = false := by simpa using hj
  simp [csStep, this]

theorem regular_ne_end {next : Nat} (h : isRegular next = true) : (next == STATE_END) = false := by
  unfold isRegular at h
  simp only [Bool.and_eq_true, bne_iff_ne, ne_eq] at h
  simpa using h.1

theorem csStep_regular (mi ev next : Nat) (acc : Nat × Bool) (hreg : isRegular next = true) :
    csStep mi acc (.sampled mi ev next) = if next != acc.1 then (next, true) else acc := by
  simp [csStep, regular_ne_end hreg, hreg]

variable {σ : Type} (ρ : Oracle σ)

/-- the segment consists of entries of `mi` (no decrement, no delivery but CounterZero), and folding
    `changedState` over it from the machine's state in `s` gives its state in `t` and raises the flag
    exactly if `chg` -/
def Tr (mi : Nat) (chg : Bool) : Fw σ → Fw σ → Prop :=
  Seg fun s t c => (∀ e ∈ c, ok mi e) ∧
    ∀ r, s.rt[mi]? = some r → ∃ r', t.rt[mi]? = some r' ∧
      (∀ b, c.foldl (csStep mi) (r.currentState, b) = (r'.currentState, b || chg)) ∧
      (chg = false → r'.currentState = r.currentState)

variable {mi : Nat}

theorem Tr.refl (s : Fw σ) : Tr mi false s s :=
  Seg.refl ⟨by simp, fun r hr => ⟨r, hr, fun b => by simp, fun _ => rfl⟩⟩

theorem Tr.trans {x y : Bool} {s t u : Fw σ} (h₁ : Tr mi x s t) (h₂ : Tr mi y t u) : Tr mi (x || y) s u := by
  refine Seg.trans (fun c1 c2 p1 p2 => ⟨fun e he => ?_, fun r hr => ?_⟩) h₁ h₂
  · rcases List.mem_append.1 he with h | h
    · exact p1.1 e h
    · exact p2.1 e h
  · obtain ⟨r1, hr1, f1, k1⟩ := p1.2 r hr
    obtain ⟨r2, hr2, f2, k2⟩ := p2.2 r1 hr1
    refine ⟨r2, hr2, fun b => ?_, fun hxy => ?_⟩
    · rw [List.foldl_append, f1, f2, Bool.or_assoc]
    · rw [Bool.or_eq_false_iff] at hxy
      rw [k2 hxy.2, k1 hxy.1]

theorem Tr.vac {chg : Bool} {s t : Fw σ} (h : t.fault ≠ none) : Tr mi chg s t := fun ht => absurd ht h

theorem Tr.fault {chg : Bool} {s s' : Fw σ} (f : Fault) : Tr mi chg s (s'.withFault f) :=
  Tr.vac (withFault_fault_ne s' f)

theorem Tr.congr {x y : Bool} {s t : Fw σ} (h : x = y) (hT : Tr mi x s t) : Tr mi y s t := h ▸ hT

theorem Tr.keep {s t : Fw σ} (hf : t.fault = none → s.fault = none) (hl : t.log = s.log)
    (hk : (t.rt[mi]?).map (·.currentState) = (s.rt[mi]?).map (·.currentState)) : Tr mi false s t := by
  intro ht
  refine ⟨hf ht, [], by simp [hl], by simp, fun r hr => ?_⟩
  rw [hr] at hk
  cases h : t.rt[mi]? with
  | none => rw [h] at hk; simp at hk
  | some r' =>
    rw [h] at hk
    simp only [Option.map_some, Option.some.injEq] at hk
    exact ⟨r', rfl, fun b => by simp [hk], fun _ => hk⟩

theorem Tr.same {s t : Fw σ} (hf : t.fault = s.fault) (hl : t.log = s.log) (hrt : t.rt = s.rt) : Tr mi false s t :=
  Tr.keep (fun h => by rw [← hf]; exact h) hl (by rw [hrt])

theorem Tr.modRt (s : Fw σ) (j : Nat) (g : Runtime → Runtime) (hg : ∀ r, (g r).currentState = r.currentState) :
    Tr mi false s (s.modRt j g) := by
  refine Tr.keep (fun h => (modRt_fault s j g h).1) (by simp) ?_
  by_cases hj : mi = j
  · subst hj
    rw [Fw.modRt_rt_self]
    cases s.rt[mi]? <;> simp [hg]
  · rw [Fw.modRt_rt_other s j mi g hj]

theorem Tr.logs {s t : Fw σ} (c : List LogEntry) (hok : ∀ e ∈ c, ok mi e)
    (hns : ∀ e ∈ c, ∀ m ev nx, e ≠ .sampled m ev nx) (hf : t.fault = s.fault)
    (hl : t.log = c.reverse ++ s.log) (hrt : t.rt = s.rt) : Tr mi false s t := by
  intro ht
  refine ⟨by rw [← hf]; exact ht, c, hl, hok, fun r hr => ⟨r, by rw [hrt]; exact hr, fun b => ?_, fun _ => rfl⟩⟩
  rw [csFold_noSampled mi c _ hns]; simp

theorem Tr.push (s : Fw σ) (e : LogEntry) (hok : ok mi e) (hns : ∀ m ev nx, e ≠ .sampled m ev nx) :
    Tr mi false s (s.push e) :=
  Tr.logs [e] (fun _ h => List.mem_singleton.1 h ▸ hok) (fun _ h => List.mem_singleton.1 h ▸ hns) rfl rfl rfl

theorem Tr.sample (d : Dist) (s : Fw σ) : Tr mi false s (distSample ρ d s).2 :=
  Tr.logs [.distRaw _] (fun _ h => List.mem_singleton.1 h ▸ trivial)
    (fun _ h => List.mem_singleton.1 h ▸ fun _ _ _ h => by cases h) rfl rfl rfl

theorem Tr.minor : Minor ρ mi (Tr (σ := σ) mi false) where
  refl := Tr.refl
  trans h₁ h₂ := h₁.trans h₂
  fault _ _ := Tr.fault _
  sample := Tr.sample ρ
  slots _ _ := Tr.same rfl rfl rfl
  counters s g hg := Tr.modRt s mi g (fun r => congrArg Prod.snd (hg r))

theorem t_resample {s t : Fw σ} {ev next v : Nat} {r : Runtime} (d : List LogEntry)
    (hd : d = [] ∨ ∃ b, d = [.distRaw b])
    (hr : s.rt[mi]? = some r) (hne : r.currentState ≠ next) (hreg : isRegular next = true)
    (hW : Wrote mi { r with currentState := next, stateLimit := v } (.limit mi v false :: d.reverse)
      (s.push (.sampled mi ev next)) t) : Tr mi true s t := by
  intro ht
  refine ⟨hW.fault.symm.trans ht, .sampled mi ev next :: d ++ [.limit mi v false], by simp [hW.log, Fw.push], ?_,
    fun r0 hr0 => ?_⟩
  · intro e he
    rw [List.mem_append, List.mem_cons, List.mem_singleton] at he
    rcases he with (rfl | he) | rfl
    · exact rfl
    · rcases hd with rfl | ⟨b, rfl⟩
      · cases he
      · rw [List.mem_singleton.1 he]; trivial
    · exact ⟨rfl, rfl⟩
  · rw [hr] at hr0; cases hr0
    refine ⟨_, hW.rt, fun b => ?_, fun h => by cases h⟩
    have h1 : (next != r.currentState) = true := bne_iff_ne.2 (Ne.symm hne)
    rw [List.cons_append, List.foldl_cons, csStep_regular mi ev next _ hreg, if_pos h1, List.foldl_append,
      csFold_noSampled mi d _ (fun e he => ?_), Bool.or_true]
    · rfl
    · rcases hd with rfl | ⟨b', rfl⟩
      · cases he
      · rw [List.mem_singleton.1 he]; intro _ _ _ h; cases h

/-- the sampled entry of a regular target together with the state-change block of `transition`:
    the flag is raised iff the target differs from the current state; afterwards the machine is in
    the target state -/
theorem t_sampledEnter (ev next : Nat) (m : Machine) (r : Runtime) (s : Fw σ)
    (hr : s.rt[mi]? = some r) (hreg : isRegular next = true) :
    Tr mi (decide (r.currentState ≠ next)) s (enterState ρ mi m r.currentState next (s.push (.sampled mi ev next))) ∧
    ((enterState ρ mi m r.currentState next (s.push (.sampled mi ev next))).fault = none →
      ∃ r', (enterState ρ mi m r.currentState next (s.push (.sampled mi ev next))).rt[mi]? = some r' ∧
        r'.currentState = next) := by
  by_cases hne : r.currentState = next
  · subst hne
    rw [enterState_self, decide_eq_false (fun h => h rfl)]
    refine ⟨fun ht => ⟨ht, [.sampled mi ev _], rfl, fun e he => List.mem_singleton.1 he ▸ rfl, fun r0 hr0 => ?_⟩,
      fun _ => ⟨r, hr, rfl⟩⟩
    rw [hr] at hr0; cases hr0
    refine ⟨r, hr, fun b => ?_, fun _ => rfl⟩
    rw [List.foldl_cons, csStep_regular mi ev _ _ hreg, if_neg (by simp), Bool.or_false]
    rfl
  · rw [decide_eq_true hne]
    rcases enterState_ne ρ hne mi m (s := s.push (.sampled mi ev next)) hr with hf | ⟨d, v, hd, hW⟩
    · exact ⟨Tr.vac hf, fun h => absurd h hf⟩
    · exact ⟨t_resample d hd hr hne hreg hW, fun _ => ⟨_, hW.rt, rfl⟩⟩

theorem t_sampledEnd (ev : Nat) (r : Runtime) (s : Fw σ) (hr : s.rt[mi]? = some r) :
    Tr mi true s ((s.push (.sampled mi ev STATE_END)).modRt mi (fun r => { r with currentState := STATE_END })) := by
  have hW := Wrote.modRt (s := s.push (.sampled mi ev STATE_END)) hr (fun r => { r with currentState := STATE_END })
  intro ht
  refine ⟨hW.fault.symm.trans ht, [.sampled mi ev STATE_END], hW.log, fun e he => List.mem_singleton.1 he ▸ rfl,
    fun r0 hr0 => ?_⟩
  rw [hr] at hr0; cases hr0
  exact ⟨_, hW.rt, fun b => by simp [csStep], fun h => by cases h⟩

theorem t_sampledSignal (ev : Nat) (s : Fw σ) : Tr mi false s (signalFrom mi (s.push (.sampled mi ev STATE_SIGNAL))) :=
  fun ht => ⟨ht, [.sampled mi ev STATE_SIGNAL], rfl, fun e he => List.mem_singleton.1 he ▸ rfl, fun r0 hr0 =>
    ⟨r0, hr0, fun b => by simp [csStep, show isRegular STATE_SIGNAL = false from rfl,
      show (STATE_SIGNAL == STATE_END) = false from rfl], fun _ => rfl⟩⟩

/-- the flag of a transition whose state-change block left the machine in `next` -/
theorem Tr.entered {c : Bool} {s1 s3 s5 : Fw σ} {r r2 : Runtime} {next : Nat}
    (qE : Tr mi (decide (r.currentState ≠ next)) s1 s3)
    (hE : s3.fault = none → ∃ r', s3.rt[mi]? = some r' ∧ r'.currentState = next)
    (q : Tr mi c s3 s5) (hr5 : s5.rt[mi]? = some r2) :
    Tr mi (!(r.currentState == r2.currentState && !c)) s1 s5 := by
  intro ht
  refine (qE.trans q).congr ?_ ht
  cases c with
  | true => simp
  | false =>
    -- the inner steps did not change the state, so the machine is still in `next`
    obtain ⟨h3, _, _, _, p⟩ := q ht
    obtain ⟨r3, hr3, hn⟩ := hE h3
    obtain ⟨r', hr', _, k⟩ := p r3 hr3
    rw [hr5] at hr'; cases hr'
    rw [k rfl, hn]
    by_cases hc : r.currentState = next <;> simp [hc]

/-- the segment of a transition after the delivery entry, and that of `update_counter`, with the flag
    `StateChange::Changed` they return (an exhausted fuel or a failed lookup is a fault) -/
theorem main2 (fuel : Nat) :
    (∀ mi (ev : Event) (s : Fw σ), AfterEntry (Tr mi (transition ρ fuel mi ev s).2) mi ev s (transition ρ fuel mi ev s).1) ∧
    (∀ mi (s : Fw σ), Tr mi (updateCounter ρ fuel mi s).2.2 s (updateCounter ρ fuel mi s).1) := by
  have h := transition_induct ρ (PT := fun _ _ _ _ => True) (PU := fun _ _ _ => True)
    (T := fun _ mi ev s s' chg => AfterEntry (Tr mi chg) mi ev s s') (U := fun _ mi s s' _ chg => Tr mi chg s s')
    (fun _ _ s _ => AfterEntry.fault s _) (fun _ _ _ s _ _ => AfterEntry.fault s _)
    ?step (fun _ _ _ => Tr.fault _) (fun _ _ _ _ _ => Tr.fault _) ?ucStep fuel
  · exact ⟨fun mi ev s => h.1 mi ev s trivial, fun mi s => h.2 mi s trivial⟩
  · intro n mi ev s r m hr _ _ s0
    refine ⟨fun _ => .ok hr (Tr.refl _), fun _ => ⟨fun _ => .fault _ _, fun st _ =>
      ⟨fun _ => .fault _ _, fun _ => .ok hr (Tr.refl _), fun vec _ => ?_⟩⟩⟩
    intro d s1
    have q1 : Tr mi false s0 s1 := Tr.logs [.draw d.1] (fun _ h => List.mem_singleton.1 h ▸ trivial)
      (fun _ h => List.mem_singleton.1 h ▸ fun _ _ _ h => by cases h) rfl rfl rfl
    have hr1 : s1.rt[mi]? = some r := hr
    refine ⟨fun _ => .ok hr q1, fun next _ => ?_⟩
    intro s2
    refine ⟨fun hE => .ok hr (q1.trans ?_), fun _ hS => .ok hr (q1.trans ?_), fun hE hS => ?_⟩
    · subst hE; exact t_sampledEnd ev.toNat r s1 hr1
    · subst hS; exact t_sampledSignal ev.toNat s1
    · intro s3
      obtain ⟨qE, hE2⟩ := t_sampledEnter ρ (mi := mi) ev.toNat next m r s1 hr1 (isRegular_of hE hS)
      refine ⟨fun _ => .fault _ _, fun r1 _ => ⟨fun _ => .fault _ _, fun below _ => ?_⟩⟩
      intro res hU s5
      have q : Tr mi res.2.2 s3 s5 := ((hU trivial).trans ((Tr.minor ρ).scheduleIf _ next res.1)).congr (Bool.or_false _)
      exact ⟨fun _ => .fault _ _, fun r2 hr5 => .ok hr (q1.trans (Tr.entered qE hE2 q hr5))⟩
  · intro n mi s r m _ _ _
    refine ⟨fun _ => Tr.fault _, fun st _ => ?_⟩
    intro ra rb s2
    have q2 : Tr mi false s s2 := (((Tr.minor ρ).applyCounter.1 st.counterA r.counterA r.counterB s).trans
      ((Tr.minor ρ).applyCounter.2 st.counterB r.counterA r.counterB ra.1)).trans
      (Tr.push _ _ rfl (fun _ _ _ h => by cases h))
    refine ⟨fun _ => q2, fun _ => ?_⟩
    intro res hT
    refine ⟨fun _ => Tr.fault _, fun a _ ht => ?_⟩
    obtain ⟨r2, _, qT⟩ := hT trivial ht
    exact (q2.trans ((Tr.push s2 (.trans mi Event.counterZero.toNat r2.currentState) ⟨rfl, rfl⟩
      (fun _ _ _ h => by cases h)).trans qT)) ht

end LL
end Mb
