/-
  Walkers over the structure of `trigger_events`: a relation that is reflexive, transitive and
  contains the building blocks (a transition for any machine, a limit decrement for a machine that
  has not ended, accounting updates, faults, signal-slot resets, call start) relates a state to
  the state after a whole call. Instantiated with implications between per-machine predicates
  (END absorption, slot invariants) and with bounds on log weights.
-/
import MbVerif.Proofs.ReachMain

namespace Mb
variable {σ : Type} (ρ : Oracle σ)

/-- the part of a walker that concerns transitions only (no accounting updates) -/
structure WalkCore (R : Fw σ → Fw σ → Prop) : Prop where
  refl : ∀ s, R s s
  trans : ∀ {s t u}, R s t → R t u → R s u
  /-- for the events a call delivers from outside a transition (CounterZero is only ever delivered
      from within `update_counter`) -/
  transition : ∀ (j : Nat) (ev : Event) (s : Fw σ), ev ≠ .counterZero → R s (transition ρ FUEL j ev s).1
  decrement : ∀ (j : Nat) (s : Fw σ), notEnded s j = true → R s (decrementLimit ρ j s)
  fault : ∀ (s : Fw σ) (f : Fault), R s (s.withFault f)
  signal : ∀ (s : Fw σ) (p : Option SignalTarget), R s { s with signalPending := p }

/-- a walker over whole events (accounting included) -/
structure WalkEv (R : Fw σ → Fw σ → Prop) : Prop extends WalkCore ρ R where
  setG : ∀ (s : Fw σ) (g' : Globals), R s { s with g := g' }
  acct : ∀ (s : Fw σ) (j : Nat) (f : Runtime → Runtime),
    (∀ r, f r = { r with acct := (f r).acct }) → R s (s.modRt j f)

/-- a walker over whole calls -/
structure Walk (R : Fw σ → Fw σ → Prop) : Prop extends WalkEv ρ R where
  callStart : ∀ (s : Fw σ) (t : Int), R s (s.callStart t)

namespace WalkCore
variable {ρ} {R : Fw σ → Fw σ → Prop} (W : WalkCore ρ R)
include W

theorem foldl {α : Type} (f : Fw σ → α → Fw σ) (hf : ∀ s a, R s (f s a)) (l : List α) (s : Fw σ) :
    R s (l.foldl f s) := foldl_rel W.refl W.trans f l (fun s a _ => hf s a) s

theorem transDec (mi : Nat) (ev : Event) (hev : ev ≠ .counterZero) (s : Fw σ) (c : Fw σ × Bool → Bool)
    (hc : ∀ p, c p = true → notEnded p.1 mi = true) :
    R s (if c (Mb.transition ρ FUEL mi ev s) = true then decrementLimit ρ mi (Mb.transition ρ FUEL mi ev s).1
         else (Mb.transition ρ FUEL mi ev s).1) := by
  have h := W.transition mi ev s hev
  split
  · next hcond => exact W.trans h (W.decrement mi _ (hc _ hcond))
  · exact h

theorem signalRound (s : Fw σ) : R s (signalRound ρ s) :=
  signalRound_rel ρ W.refl W.trans W.signal (fun s j => W.transition j .signal s (by decide)) s

end WalkCore

namespace WalkEv
variable {ρ} {R : Fw σ → Fw σ → Prop} (W : WalkEv ρ R)
include W

theorem processEvent (e : TEvent) (s : Fw σ) : R s (processEvent ρ e s) :=
  processEvent_walk ρ W.refl W.trans (fun j e s => W.transition j e.kind s e.kind_outside.1)
    W.decrement W.fault W.setG W.acct e s

end WalkEv

namespace Walk
variable {ρ} {R : Fw σ → Fw σ → Prop} (W : Walk ρ R)
include W

theorem processEvent (e : TEvent) (s : Fw σ) : R s (Mb.processEvent ρ e s) := W.toWalkEv.processEvent e s

theorem triggerEvents (es : List TEvent) (t : Int) (s : Fw σ) : R s (triggerEvents ρ es t s) := by
  unfold Mb.triggerEvents
  refine W.trans (W.callStart s t) ?_
  exact W.trans (W.toWalkCore.foldl _ (fun s e => W.processEvent e s) _ _) (W.toWalkCore.signalRound _)

theorem runCalls (s : Fw σ) (h : List Call) : R s (runCalls ρ s h) := by
  unfold Mb.runCalls
  exact W.toWalkCore.foldl _ (fun s (c : Call) => W.triggerEvents c.1 c.2 s) _ _

end Walk

end Mb
