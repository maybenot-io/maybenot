/-
  Safety of the framework model: for well-formed machines no index is ever out of range and the
  recursion fuel is never exhausted; the only possible fault is the duration overflow.
-/
import MbVerif.Proofs.Walk
import MbVerif.Validate

namespace Mb
variable {σ : Type} (ρ : Oracle σ)

/-- structural well-formedness of a machine, as established by validation (targets) and by the
    Rust types (one transition slot per event) -/
structure MachineOK (m : Machine) : Prop where
  nonempty : 0 < m.states.length
  shape : ∀ st ∈ m.states, st.transitions.length = EVENT_NUM
  targets : ∀ st ∈ m.states, ∀ (e : Nat) (vec : List Trans), st.transitions[e]? = some (some vec) →
    ∀ t ∈ vec, t.target < m.states.length ∨ t.target = STATE_END ∨ t.target = STATE_SIGNAL
  small : m.states.length ≤ STATE_MAX

/-- invariant: array lengths agree and every machine is in an existing state or in END -/
structure Valid (s : Fw σ) : Prop where
  lenRt : s.rt.length = s.machines.length
  lenAct : s.actions.length = s.machines.length
  ok : ∀ m ∈ s.machines, MachineOK m
  cur : ∀ (i : Nat) (m : Machine) (r : Runtime), s.machines[i]? = some m → s.rt[i]? = some r →
    r.currentState < m.states.length ∨ r.currentState = STATE_END

/-- the pending signal, if it excludes a machine, excludes an existing one -/
def SigOK (s : Fw σ) : Prop := ∀ (x : Nat), s.signalPending = some (.allExcept x) → x < s.rt.length

/-- number of counter-zero flags of machine `mi` still unset -/
def unset (s : Fw σ) (mi : Nat) : Nat :=
  (if zeroedAOf s mi then 0 else 1) + (if zeroedBOf s mi then 0 else 1)

theorem zeroedAOf_modRt (s : Fw σ) (mi : Nat) (f : Runtime → Runtime) :
    zeroedAOf (s.modRt mi f) mi = ((s.rt[mi]?).map (fun r => (f r).zeroedA)).getD false := by
  unfold zeroedAOf; rw [Fw.modRt_rt_self]; cases s.rt[mi]? <;> rfl

theorem zeroedBOf_modRt (s : Fw σ) (mi : Nat) (f : Runtime → Runtime) :
    zeroedBOf (s.modRt mi f) mi = ((s.rt[mi]?).map (fun r => (f r).zeroedB)).getD false := by
  unfold zeroedBOf; rw [Fw.modRt_rt_self]; cases s.rt[mi]? <;> rfl

theorem zeroedAOf_eq (s : Fw σ) (mi : Nat) : zeroedAOf s mi = ((s.rt[mi]?).map (·.zeroedA)).getD false := by
  unfold zeroedAOf; cases s.rt[mi]? <;> rfl

theorem zeroedBOf_eq (s : Fw σ) (mi : Nat) : zeroedBOf s mi = ((s.rt[mi]?).map (·.zeroedB)).getD false := by
  unfold zeroedBOf; cases s.rt[mi]? <;> rfl

theorem unset_congr {s t : Fw σ} {mi : Nat} (h : t.rt[mi]? = s.rt[mi]?) : unset t mi = unset s mi := by
  unfold unset zeroedAOf zeroedBOf; rw [h]

theorem unset_modRt_keep (s : Fw σ) (mi : Nat) (f : Runtime → Runtime)
    (hA : ∀ r, (f r).zeroedA = r.zeroedA) (hB : ∀ r, (f r).zeroedB = r.zeroedB) :
    unset (s.modRt mi f) mi = unset s mi := by
  unfold unset
  rw [zeroedAOf_modRt, zeroedBOf_modRt, zeroedAOf_eq, zeroedBOf_eq]
  cases s.rt[mi]? <;> simp [hA, hB]

/-- the fault field only changes from none to a duration overflow -/
def NoNewBad (s t : Fw σ) : Prop := t.fault = s.fault ∨ (s.fault = none ∧ t.fault = some .durOverflow)

theorem NoNewBad.refl (s : Fw σ) : NoNewBad s s := Or.inl rfl

theorem NoNewBad.trans {s t u : Fw σ} (h₁ : NoNewBad s t) (h₂ : NoNewBad t u) : NoNewBad s u := by
  rcases h₁ with h₁ | ⟨h₁, h₁'⟩ <;> rcases h₂ with h₂ | ⟨h₂, h₂'⟩
  · exact Or.inl (h₂.trans h₁)
  · exact Or.inr ⟨by rw [← h₁]; exact h₂, h₂'⟩
  · exact Or.inr ⟨h₁, by rw [h₂]; exact h₁'⟩
  · rw [h₁'] at h₂; cases h₂

theorem NoNewBad.of_eq {s t : Fw σ} (h : t.fault = s.fault) : NoNewBad s t := Or.inl h

theorem NoNewBad.durOverflow (s : Fw σ) : NoNewBad s (s.withFault .durOverflow) := by
  unfold NoNewBad Fw.withFault
  cases h : s.fault with
  | none => right; simp
  | some f => left; simp [h]

theorem Event.toNat_lt (e : Event) : e.toNat < EVENT_NUM := by
  cases e <;> decide

theorem Valid.modRt {s : Fw σ} (hV : Valid s) (mi : Nat) (f : Runtime → Runtime)
    (hf : ∀ m r, s.machines[mi]? = some m → s.rt[mi]? = some r →
      (f r).currentState < m.states.length ∨ (f r).currentState = STATE_END) : Valid (s.modRt mi f) := by
  refine ⟨by simpa using hV.lenRt, by simpa using hV.lenAct, by simpa using hV.ok, ?_⟩
  intro i m r hm hr
  have hm' : s.machines[i]? = some m := by simpa using hm
  by_cases hi : i = mi
  · subst hi
    rw [Fw.modRt_rt_self] at hr
    cases hr0 : s.rt[i]? with
    | none => rw [hr0] at hr; simp at hr
    | some r0 =>
      rw [hr0] at hr
      have : r = f r0 := by simpa using hr.symm
      subst this
      exact hf m r0 hm' hr0
  · rw [Fw.modRt_rt_other s mi i f hi] at hr
    exact hV.cur i m r hm' hr

theorem Valid.step {mi : Nat} {s t : Fw σ} (hV : Valid s) (h : Step mi s t) : Valid t := by
  cases h with
  | push | rng | signal => exact ⟨hV.lenRt, hV.lenAct, hV.ok, hV.cur⟩
  | fault f => exact ⟨by simpa using hV.lenRt, by simpa using hV.lenAct, by simpa using hV.ok,
      fun i m r hm hr => hV.cur i m r (by simpa using hm) (by simpa using hr)⟩
  | setState x hx =>
    refine hV.modRt mi _ (fun m r hm hr => ?_)
    obtain ⟨⟨m', r', st, ev, vec, t, hm', hr', hst, hvec, htv, htx⟩, hns⟩ := hx
    rw [hm] at hm'; rw [hr] at hr'
    cases hm'; cases hr'
    have hmem : m ∈ s.machines := List.mem_of_getElem? hm
    have hstm : st ∈ m.states := List.mem_of_getElem? hst
    have := (hV.ok m hmem).targets st hstm ev vec hvec t htv
    rw [htx] at this
    rcases this with h1 | h1 | h1
    · exact Or.inl h1
    · exact Or.inr h1
    · exact absurd h1 hns
  | setLimit | setCtrA | setCtrB | zeroA | zeroB => exact hV.modRt mi _ (fun m r hm hr => hV.cur mi m r hm hr)
  | clear | sched => exact ⟨hV.lenRt, by simpa using hV.lenAct, hV.ok, hV.cur⟩

theorem Valid.reach {mi : Nat} {s t : Fw σ} (h : Reach mi s t) (hV : Valid s) : Valid t :=
  Reach.inv Valid (fun _ _ hV st => hV.step st) h hV

/-- `t` has the same fault, the same pending signal and as many machines as `s` -/
structure Keep (s t : Fw σ) : Prop where
  fault : t.fault = s.fault
  signal : t.signalPending = s.signalPending
  rtLen : t.rt.length = s.rt.length

theorem Keep.refl (s : Fw σ) : Keep s s := ⟨rfl, rfl, rfl⟩
theorem Keep.trans {s t u : Fw σ} (h₁ : Keep s t) (h₂ : Keep t u) : Keep s u :=
  ⟨h₂.fault.trans h₁.fault, h₂.signal.trans h₁.signal, h₂.rtLen.trans h₁.rtLen⟩

theorem Keep.noNewBad {s t : Fw σ} (h : Keep s t) : NoNewBad s t := Or.inl h.fault
theorem Keep.sigOK {s t : Fw σ} (h : Keep s t) (hs : SigOK s) : SigOK t := by
  intro x hx; rw [h.signal] at hx; rw [h.rtLen]; exact hs x hx

theorem keep_modRt (s : Fw σ) (mi : Nat) (f : Runtime → Runtime) (h : mi < s.rt.length) :
    Keep s (s.modRt mi f) := by
  have : ∃ r, s.rt[mi]? = some r := ⟨s.rt[mi], List.getElem?_eq_getElem h⟩
  obtain ⟨r, hr⟩ := this
  rw [Fw.modRt_of_some s mi f r hr]
  exact ⟨rfl, rfl, by simp⟩

theorem keep_rngLog {s t : Fw σ} (h : RngLogOnly s t) : Keep s t :=
  ⟨h.fault, h.signal, by rw [h.rt]⟩

theorem keep_enterState (mi : Nat) (m : Machine) (cur next : Nat) (s : Fw σ) (hmi : mi < s.rt.length)
    (hnext : next < m.states.length) : Keep s (enterState ρ mi m cur next s) := by
  unfold enterState
  split
  · simp only
    have h1 := keep_modRt s mi (fun r => { r with currentState := next }) hmi
    have hst : ∃ st, m.states[next]? = some st := ⟨m.states[next], List.getElem?_eq_getElem hnext⟩
    obtain ⟨st, hst⟩ := hst
    rw [hst]
    simp only
    split
    · next a _ =>
      obtain ⟨hrl, _⟩ := sampleLimit_spec ρ mi a (s.modRt mi (fun r => { r with currentState := next }))
      refine ((h1.trans (keep_rngLog hrl)).trans (keep_modRt _ mi _ ?_)).trans ⟨rfl, rfl, rfl⟩
      rw [hrl.rt]; simpa using hmi
    · exact (h1.trans (keep_modRt _ mi _ (by simpa using hmi))).trans ⟨rfl, rfl, rfl⟩
  · exact Keep.refl s

/-- the counter updates of an existing machine keep fault, pending signal and lengths -/
theorem keep_applyCounter (mi : Nat) :
    (∀ c oldA oldB (s : Fw σ), mi < s.rt.length → Keep s (applyCounterA ρ mi c oldA oldB s).1) ∧
    (∀ c oldA oldB (s : Fw σ), mi < s.rt.length → Keep s (applyCounterB ρ mi c oldA oldB s).1) :=
  applyCounter_rel ρ (R := fun s t => mi < s.rt.length → Keep s t) (fun s _ => Keep.refl s)
    (fun h₁ h₂ hmi => (h₁ hmi).trans (h₂ (by rw [(h₁ hmi).rtLen]; exact hmi)))
    (fun d s _ => keep_rngLog (distSample_spec ρ mi d s).1) mi (fun s f _ hmi => keep_modRt s mi f hmi)

theorem keep_applyCounterA (mi : Nat) (c : Option Counter) (oldA oldB : Nat) (s : Fw σ) (hmi : mi < s.rt.length) :
    Keep s (applyCounterA ρ mi c oldA oldB s).1 := (keep_applyCounter ρ mi).1 c oldA oldB s hmi

theorem keep_applyCounterB (mi : Nat) (c : Option Counter) (oldA oldB : Nat) (s : Fw σ) (hmi : mi < s.rt.length) :
    Keep s (applyCounterB ρ mi c oldA oldB s).1 := (keep_applyCounter ρ mi).2 c oldA oldB s hmi

theorem keep_scheduleAction (mi next : Nat) (s : Fw σ) (m : Machine) (st : State)
    (hm : s.machines[mi]? = some m) (hst : m.states[next]? = some st) (hlen : mi < s.actions.length) :
    Keep s (scheduleAction ρ mi next s) := by
  rw [scheduleAction_eq, hm]
  simp only [hst]
  rw [if_neg (by omega)]
  split
  · exact ⟨rfl, rfl, rfl⟩
  · next act _ =>
    exact ((keep_rngLog (sampleTimeout_spec ρ mi act s).1).trans
      (keep_rngLog (sampleDuration_spec ρ mi act _).1)).trans ⟨rfl, rfl, rfl⟩

/-- setting flags does not raise the number of unset ones -/
theorem bool_cnt (x y x' y' : Bool) (h1 : x = true → x' = true) (h2 : y = true → y' = true) :
    ((if x' = true then 0 else 1) + (if y' = true then 0 else 1) : Nat) ≤
      (if x = true then 0 else 1) + (if y = true then 0 else 1) := by
  cases x <;> cases y <;> cases x' <;> cases y' <;> simp_all

/-- flags only get set -/
theorem unset_modRt_le (s : Fw σ) (mi : Nat) (f : Runtime → Runtime)
    (hA : ∀ r, r.zeroedA = true → (f r).zeroedA = true) (hB : ∀ r, r.zeroedB = true → (f r).zeroedB = true) :
    unset (s.modRt mi f) mi ≤ unset s mi := by
  unfold unset
  rw [zeroedAOf_modRt, zeroedBOf_modRt, zeroedAOf_eq, zeroedBOf_eq]
  cases hr : s.rt[mi]? with
  | none => simp
  | some r =>
    simp only [Option.map_some, Option.getD_some]
    exact bool_cnt _ _ _ _ (hA r) (hB r)

theorem unset_le_of_step {mi : Nat} {s t : Fw σ} (h : Step mi s t) : unset t mi ≤ unset s mi := by
  cases h with
  | zeroA => exact unset_modRt_le s mi _ (fun _ _ => rfl) (fun _ h => h)
  | zeroB => exact unset_modRt_le s mi _ (fun _ h => h) (fun _ _ => rfl)
  | push | rng | signal | clear | sched => exact Nat.le_refl _
  | fault => exact Nat.le_of_eq (unset_congr (by simp))
  | setState | setLimit | setCtrA | setCtrB => exact unset_modRt_le s mi _ (fun _ h => h) (fun _ h => h)

theorem unset_le_of_reach {mi : Nat} {s t : Fw σ} (h : Reach mi s t) : unset t mi ≤ unset s mi := by
  induction h with
  | refl => exact Nat.le_refl _
  | tail _ st ih => exact Nat.le_trans (unset_le_of_step st) ih

theorem unset_storeCounterA (mi oldA newA : Nat) (s : Fw σ) (hmi : mi < s.rt.length) :
    unset (storeCounterA mi oldA newA s).1 mi + (if (storeCounterA mi oldA newA s).2 then 1 else 0) ≤ unset s mi := by
  unfold storeCounterA
  simp only
  have hr' : ∃ r, s.rt[mi]? = some r := ⟨s.rt[mi], List.getElem?_eq_getElem hmi⟩
  obtain ⟨r, hr⟩ := hr'
  have hu1 : unset (s.modRt mi (fun r => { r with counterA := newA })) mi = unset s mi :=
    unset_modRt_keep s mi (fun r => { r with counterA := newA }) (fun _ => rfl) (fun _ => rfl)
  split
  · next h =>
    simp only [Bool.and_eq_true, Bool.not_eq_true'] at h
    have hz := h.2
    rw [zeroedAOf_modRt, hr] at hz
    simp only [Option.map_some, Option.getD_some] at hz
    unfold unset
    rw [zeroedAOf_modRt, zeroedBOf_modRt, Fw.modRt_rt_self, hr, zeroedAOf_eq, zeroedBOf_eq, hr]
    simp [hz]
    omega
  · simp [hu1]

theorem unset_storeCounterB (mi oldB newB : Nat) (s : Fw σ) (hmi : mi < s.rt.length) :
    unset (storeCounterB mi oldB newB s).1 mi + (if (storeCounterB mi oldB newB s).2 then 1 else 0) ≤ unset s mi := by
  unfold storeCounterB
  simp only
  have hr' : ∃ r, s.rt[mi]? = some r := ⟨s.rt[mi], List.getElem?_eq_getElem hmi⟩
  obtain ⟨r, hr⟩ := hr'
  have hu1 : unset (s.modRt mi (fun r => { r with counterB := newB })) mi = unset s mi :=
    unset_modRt_keep s mi (fun r => { r with counterB := newB }) (fun _ => rfl) (fun _ => rfl)
  split
  · next h =>
    simp only [Bool.and_eq_true, Bool.not_eq_true'] at h
    have hz := h.2
    rw [zeroedBOf_modRt, hr] at hz
    simp only [Option.map_some, Option.getD_some] at hz
    unfold unset
    rw [zeroedAOf_modRt, zeroedBOf_modRt, Fw.modRt_rt_self, hr, zeroedAOf_eq, zeroedBOf_eq, hr]
    simp [hz]
  · simp [hu1]

theorem unset_applyCounterA (mi : Nat) (c : Option Counter) (oldA oldB : Nat) (s : Fw σ) (hmi : mi < s.rt.length) :
    unset (applyCounterA ρ mi c oldA oldB s).1 mi + (if (applyCounterA ρ mi c oldA oldB s).2 then 1 else 0) ≤ unset s mi := by
  unfold applyCounterA
  cases c with
  | none => simp
  | some c =>
    have hrl := (counterOperand_spec ρ mi c oldB s).1
    have := unset_storeCounterA mi oldA (applyOp c.operation oldA (counterOperand ρ c oldB s).1)
      (counterOperand ρ c oldB s).2 (by rw [hrl.rt]; exact hmi)
    have h2 : unset (counterOperand ρ c oldB s).2 mi = unset s mi := unset_congr (by rw [hrl.rt])
    simp only []
    omega

theorem unset_applyCounterB (mi : Nat) (c : Option Counter) (oldA oldB : Nat) (s : Fw σ) (hmi : mi < s.rt.length) :
    unset (applyCounterB ρ mi c oldA oldB s).1 mi + (if (applyCounterB ρ mi c oldA oldB s).2 then 1 else 0) ≤ unset s mi := by
  unfold applyCounterB
  cases c with
  | none => simp
  | some c =>
    have hrl := (counterOperand_spec ρ mi c oldA s).1
    have := unset_storeCounterB mi oldB (applyOp c.operation oldB (counterOperand ρ c oldA s).1)
      (counterOperand ρ c oldA s).2 (by rw [hrl.rt]; exact hmi)
    have h2 : unset (counterOperand ρ c oldA s).2 mi = unset s mi := unset_congr (by rw [hrl.rt])
    simp only []
    omega

/-- the two counter updates together: a raised CounterZero has set a flag -/
theorem unset_applyCounters (mi : Nat) (cA cB : Option Counter) (a b : Nat) (s : Fw σ)
    (hmi : mi < s.rt.length) :
    unset (applyCounterB ρ mi cB a b (applyCounterA ρ mi cA a b s).1).1 mi +
      (if (applyCounterA ρ mi cA a b s).2 ||
        (applyCounterB ρ mi cB a b (applyCounterA ρ mi cA a b s).1).2 then 1 else 0) ≤ unset s mi := by
  have uA := unset_applyCounterA ρ mi cA a b s hmi
  have uB := unset_applyCounterB ρ mi cB a b _
    (by rw [(keep_applyCounterA ρ mi cA a b s hmi).rtLen]; exact hmi)
  generalize applyCounterA ρ mi cA a b s = ra at uA uB ⊢
  generalize applyCounterB ρ mi cB a b ra.1 = rb at uB ⊢
  obtain ⟨sa, ba⟩ := ra
  obtain ⟨sb, bb⟩ := rb
  cases ba <;> cases bb <;> simp at uA uB ⊢ <;> omega

/-- no new fault other than a duration overflow, and the pending signal stays well-formed -/
def Safe (s t : Fw σ) : Prop := NoNewBad s t ∧ (SigOK s → SigOK t)

theorem Safe.refl (s : Fw σ) : Safe s s := ⟨NoNewBad.refl s, id⟩
theorem Safe.trans {s t u : Fw σ} (h₁ : Safe s t) (h₂ : Safe t u) : Safe s u :=
  ⟨h₁.1.trans h₂.1, fun h => h₂.2 (h₁.2 h)⟩
theorem Keep.safe {s t : Fw σ} (h : Keep s t) : Safe s t := ⟨h.noNewBad, h.sigOK⟩

theorem Valid.states_some {s : Fw σ} (hV : Valid s) {mi : Nat} {m : Machine} {r : Runtime}
    (hm : s.machines[mi]? = some m) (hr : s.rt[mi]? = some r) (hne : r.currentState ≠ STATE_END) :
    ∃ st, m.states[r.currentState]? = some st ∧ st ∈ m.states := by
  rcases hV.cur mi m r hm hr with h | h
  · exact ⟨m.states[r.currentState], List.getElem?_eq_getElem h, List.getElem_mem h⟩
  · exact absurd h hne

theorem Valid.not_oob {s : Fw σ} (hV : Valid s) {mi : Nat} (hmi : mi < s.rt.length) :
    ¬(s.rt[mi]? = none ∨ s.machines[mi]? = none) := by
  have := hV.lenRt
  rw [List.getElem?_eq_none_iff, List.getElem?_eq_none_iff]
  omega

theorem safe_signalFrom (mi : Nat) (s : Fw σ) (hmi : mi < s.rt.length) : Safe s (signalFrom mi s) := by
  refine ⟨Or.inl rfl, fun _ x hx => ?_⟩
  unfold signalFrom at hx ⊢
  simp only at hx ⊢
  cases hsp : s.signalPending with
  | none => rw [hsp] at hx; simp at hx; rw [← hx]; exact hmi
  | some p =>
    rw [hsp] at hx
    cases p with
    | all => simp at hx
    | allExcept o =>
      simp only at hx
      split at hx
      · simp at hx; rw [← hx]; exact hmi
      · simp at hx

/-- every delivery of CounterZero sets one of the two flags of the machine, so two units of fuel
    per unset flag suffice: one for the `updateCounter` that raises it and one for the `transition`
    that delivers it. A `transition` needs one unit more than the `updateCounter` it calls, hence
    `+ 2` against `+ 1`. -/
theorem safe_main (fuel : Nat) :
    (∀ mi ev (s : Fw σ), Valid s → mi < s.rt.length → 2 * unset s mi + 2 ≤ fuel →
      Safe s (transition ρ fuel mi ev s).1) ∧
    (∀ mi (s : Fw σ), Valid s → mi < s.rt.length →
      (∀ r, s.rt[mi]? = some r → r.currentState ≠ STATE_END) → 2 * unset s mi + 1 ≤ fuel →
      Safe s (updateCounter ρ fuel mi s).1) := by
  have h := transition_induct ρ
    (PT := fun fuel mi _ s => Valid s ∧ mi < s.rt.length ∧ 2 * unset s mi + 2 ≤ fuel)
    (PU := fun fuel mi s => Valid s ∧ mi < s.rt.length ∧
      (∀ r, s.rt[mi]? = some r → r.currentState ≠ STATE_END) ∧ 2 * unset s mi + 1 ≤ fuel)
    (T := fun _ _ _ s s' _ => Safe s s') (U := fun _ _ s s' _ _ => Safe s s')
    (fun _ _ _ h => by have := h.2.2; omega) (fun _ _ _ _ h hP => absurd h (hP.1.not_oob hP.2.1)) ?_
    (fun _ _ h => by have := h.2.2.2; omega) (fun _ _ _ h hP => absurd h (hP.1.not_oob hP.2.1)) ?_
    fuel
  · exact ⟨fun mi ev s hV hmi hf => h.1 mi ev s ⟨hV, hmi, hf⟩,
      fun mi s hV hmi hne hf => h.2 mi s ⟨hV, hmi, hne, hf⟩⟩
  · rintro n mi ev s r m hr hm ⟨hV, hmi, hf⟩
    intro s0
    have hmok : MachineOK m := hV.ok m (List.mem_of_getElem? hm)
    have k0 : Keep s s0 := ⟨rfl, rfl, rfl⟩
    refine ⟨fun _ => k0.safe, fun hne => ?_⟩
    obtain ⟨st, hst, hstm⟩ := hV.states_some hm hr hne
    refine ⟨fun h => (nomatch hst.symm.trans h), fun st' hst' => ?_⟩
    obtain rfl : st = st' := Option.some.inj (hst.symm.trans hst')
    have hev : ev.toNat < st.transitions.length := by
      rw [hmok.shape st hstm]; exact Event.toNat_lt ev
    refine ⟨fun h => by rw [List.getElem?_eq_none_iff] at h; omega, fun _ => k0.safe,
      fun vec hvec => ?_⟩
    intro d s1
    have k1 : Keep s s1 := ⟨rfl, rfl, rfl⟩
    refine ⟨fun _ => k1.safe, fun next hss => ?_⟩
    intro s2
    have k2 : Keep s s2 := ⟨rfl, rfl, rfl⟩
    have hmi2 : mi < s2.rt.length := hmi
    obtain ⟨t, htv, htx⟩ := sampleState_mem _ _ _ hss
    have htgt := hmok.targets st hstm ev.toNat vec hvec t htv
    rw [htx] at htgt
    refine ⟨fun _ => (k2.trans (keep_modRt s2 mi _ hmi2)).safe,
      fun _ _ => k2.safe.trans (safe_signalFrom mi s2 hmi2), fun hE hS => ?_⟩
    intro s3
    have hnext : next < m.states.length := htgt.resolve_right (not_or.mpr ⟨hE, hS⟩)
    have h3 : Reach mi s s3 :=
      ((((Reach.single (.push s _)).tail (.rng _ _)).tail (.push _ _)).tail (.push _ _)).trans
        (enterState_reach ρ mi m r.currentState next s2
          ⟨⟨m, r, st, ev.toNat, vec, t, hm, hr, hst, hvec, htv, htx⟩, hS⟩)
    have k3 : Keep s s3 := k2.trans (keep_enterState ρ mi m r.currentState next s2 hmi2 hnext)
    have hmi3 : mi < s3.rt.length := by rw [k3.rtLen]; exact hmi
    have hu3 : unset s3 mi ≤ unset s mi := unset_le_of_reach h3
    obtain ⟨stn, hstn⟩ : ∃ stn, m.states[next]? = some stn := ⟨_, List.getElem?_eq_getElem hnext⟩
    refine ⟨fun h => by rw [List.getElem?_eq_none_iff] at h; omega, fun r1 hr1 => ?_⟩
    obtain ⟨r1', hr1', hc1⟩ := enterState_cur ρ mi m r.currentState next s2 r hr rfl
    obtain rfl : r1' = r1 := Option.some.inj (hr1'.symm.trans hr1)
    refine ⟨fun _ => ?_, fun below hb => ?_⟩
    · -- the entered state exists, so a failing limit predicate is a duration overflow
      rw [hc1, hstn]
      exact k3.safe.trans ⟨NoNewBad.durOverflow s3, fun h x hx => by
        simpa using h x (by simpa using hx)⟩
    intro res ih s5
    replace ih := ih ⟨hV.reach h3, hmi3,
      fun r' hr' => by rw [hr1'] at hr'; cases hr'; rw [hc1]; exact hE, by omega⟩
    have hU : Reach mi s3 res.1 := updateCounter_reach ρ n mi s3
    have hVU : Valid res.1 := (hV.reach h3).reach hU
    have hmiU : mi < res.1.rt.length := by rw [hU.frame.rtLen]; exact hmi3
    have h5 : Safe s s5 ∧ s5.rt = res.1.rt := by
      show Safe s (if _ then _ else _) ∧ (if _ then _ else _ : Fw σ).rt = _
      split
      · refine ⟨(k3.safe.trans ih).trans (keep_scheduleAction ρ mi next _ m stn ?_ hstn ?_).safe,
          scheduleAction_rt ρ mi next _⟩
        · rw [hU.frame.machines, h3.frame.machines]; exact hm
        · rw [hVU.lenAct, ← hVU.lenRt]; exact hmiU
      · exact ⟨k3.safe.trans ih, rfl⟩
    exact ⟨fun h => by rw [h5.2, List.getElem?_eq_none_iff] at h; omega, fun _ _ => h5.1⟩
  · rintro n mi s r m hr hm ⟨hV, hmi, hne, hf⟩
    obtain ⟨st, hst, -⟩ := hV.states_some hm hr (hne r hr)
    refine ⟨fun h => (nomatch hst.symm.trans h), fun st' hst' => ?_⟩
    obtain rfl : st = st' := Option.some.inj (hst.symm.trans hst')
    intro ra rb s2
    have kA : Keep s ra.1 := keep_applyCounterA ρ mi _ _ _ s hmi
    have hmiA : mi < ra.1.rt.length := by rw [kA.rtLen]; exact hmi
    have k2 : Keep s s2 := (kA.trans (keep_applyCounterB ρ mi _ _ _ ra.1 hmiA)).trans ⟨rfl, rfl, rfl⟩
    refine ⟨fun _ => k2.safe, fun hz => ?_⟩
    intro res ih
    have h2 : Reach mi s s2 := ((applyCounterA_reach ρ mi _ _ _ s).trans
      (applyCounterB_reach ρ mi _ _ _ _)).tail (.push _ _)
    have hu : unset s2 mi + (if ra.2 || rb.2 then 1 else 0) ≤ unset s mi :=
      unset_applyCounters ρ mi _ _ _ _ s hmi
    rw [hz, if_pos rfl] at hu
    have hmi2 : mi < s2.rt.length := by rw [k2.rtLen]; exact hmi
    replace ih := ih ⟨hV.reach h2, hmi2, by omega⟩
    have hT : Reach mi s2 res.1 := transition_reach ρ n mi .counterZero s2
    have hVT := (hV.reach h2).reach hT
    refine ⟨fun h => ?_, fun _ _ => k2.safe.trans ih⟩
    rw [List.getElem?_eq_none_iff, hVT.lenAct, ← hVT.lenRt, hT.frame.rtLen] at h
    omega

end Mb
