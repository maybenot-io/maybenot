/-
  Lemmas about the network stack: what each arm of `sim_network_stack` pushes.
-/
import MbVerif.Proofs.SimRecord

namespace Mb.Sim
open Mb

theorem durChk_ok {n v : Nat} (h : durChk n = .ok v) : v = n := by
  unfold durChk at h
  split at h
  · cases h
  · cases h; rfl

theorem pushAggregateDelay_network {b b' : Bottleneck} {bd : Nat} {now : Int} {c : Bool}
    (h : b.pushAggregateDelay bd now c = .ok b') : b'.network = b.network := by
  unfold Bottleneck.pushAggregateDelay at h
  rw [bind_ok_iff] at h
  obtain ⟨d4, _, h⟩ := h
  rw [bind_ok_iff] at h
  obtain ⟨d3, _, h⟩ := h
  simp only [pure, Except.pure] at h
  cases h
  rfl

theorem sample_spec {b b' : Bottleneck} {now : Int} {c : Bool} {r : Nat × Option Nat}
    (h : b.sample now c = .ok (r, b')) : b.network.delay ≤ r.1 ∧ b'.network = b.network := by
  unfold Bottleneck.sample at h
  simp only [] at h
  rw [bind_ok_iff] at h
  obtain ⟨delay, _, h⟩ := h
  unfold Bottleneck.sampleResult at h
  split at h
  · rw [bind_ok_iff] at h
    obtain ⟨tot, ht, h⟩ := h
    simp only [pure, Except.pure] at h
    cases h
    have := durChk_ok ht
    constructor
    · cases c <;> simp at this ⊢ <;> omega
    · split <;> rfl
  · simp only [pure, Except.pure] at h
    cases h
    constructor
    · split <;> exact Nat.le_refl _
    · split <;> rfl

theorem ppsAgg_network {sq : SimQueue} {next : SimEvent} {net net' : Bottleneck} {bl : Option Nat} {now : Int}
    (h : ppsAgg sq next net bl now = .ok net') : net'.network = net.network := by
  unfold ppsAgg at h
  split at h
  · split at h
    · exact pushAggregateDelay_network h
    · cases h; rfl
  · cases h; rfl

theorem recvFor_spec (next : SimEvent) (nd : Nat) (now : Int) :
    ∃ t : Int, recvFor next nd now = ⟨.tunnelRecv, t, !next.client, next.containsPadding, false, false⟩ ∧
      next.time + nd ≤ t := by
  unfold recvFor
  by_cases hp : next.containsPadding = true
  · simp only [hp, Bool.not_true, Bool.false_eq_true, if_false]
    exact ⟨_, rfl, Int.le_refl _⟩
  · have hp' : next.containsPadding = false := by simpa using hp
    simp only [hp', Bool.not_false, if_true]
    exact ⟨_, rfl, Int.le_max_left _ _⟩

/-- One TunnelRecv per TunnelSent: the TunnelSent arm queues exactly one TunnelRecv, on the
    other side, of the same kind, at least one configured network delay after the send. -/
theorem netTunnelSent_spec {next : SimEvent} {sq sq' : SimQueue} {net net' : Bottleneck} {now : Int}
    (h : netTunnelSent next sq net now = .ok (sq', net')) :
    ∃ t : Int, sq' = sq.pushSim ⟨.tunnelRecv, t, !next.client, next.containsPadding, false, false⟩ ∧
      next.time + net.network.delay ≤ t := by
  unfold netTunnelSent at h
  rw [bind_ok_iff] at h
  obtain ⟨⟨r, n1⟩, hs, h⟩ := h
  have hsp := sample_spec hs
  rw [bind_ok_iff] at h
  obtain ⟨n2, _, h⟩ := h
  simp only [pure, Except.pure] at h
  cases h
  obtain ⟨t, ht, hle⟩ := recvFor_spec next r.1 now
  exact ⟨t, by rw [ht], by omega⟩

/-- the PaddingSent arm never creates a normal packet: it queues a padding TunnelSent, or drops
    the padding (replaced by an already queued normal packet), or pops one queued
    TunnelSent and re-queues the very same packet with the bypass flag -/
theorem netPaddingSent_spec {next : SimEvent} {sq sq' : SimQueue} {byp : Bool} {net net' : Bottleneck} {now : Int}
    (h : netPaddingSent next sq byp net now = .ok (sq', net')) :
    sq' = sq.pushSim ⟨.tunnelSent, next.time, next.client, true, next.bypass, next.replace⟩ ∨ sq' = sq ∨
    ∃ qid entry sq1, sq.popBlocking qid byp next.client (net.agg next.client) = .ok (some (entry, sq1)) ∧
      sq' = sq1.pushSim { entry with bypass := true, replace := false } := by
  unfold netPaddingSent at h
  simp only [] at h
  split at h
  · split at h
    · split at h
      · split at h
        · cases h; right; left; rfl
        · rename_i queued qid _ _ _
          unfold replaceBypass at h
          rw [bind_ok_iff] at h
          obtain ⟨r, hr, h⟩ := h
          cases r with
          | none => simp at h
          | some p =>
            obtain ⟨entry, sq1⟩ := p
            simp only [] at h
            rw [bind_ok_iff] at h
            obtain ⟨n2, _, h⟩ := h
            simp only [pure, Except.pure] at h
            cases h
            right; right
            exact ⟨qid, entry, sq1, hr, rfl⟩
      · cases h; left; rfl
    · cases h; left; rfl
  · cases h; left; rfl

end Mb.Sim
