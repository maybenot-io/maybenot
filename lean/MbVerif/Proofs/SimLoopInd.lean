/-
  Reasoning about the main loop of the simulator model without unfolding it: what the stop tests
  say when they fire and when they do not, induction over the loop, two loops that answer the
  stop tests alike, a run that ends on a stop test ends with that test firing on the final
  counters, and the invariant rules (a property of the states at the loop head holds wherever the
  loop faults or finds the queues empty; a property every iteration keeps holds of the final
  state and the stream).
-/
import MbVerif.Proofs.SimLoop

namespace Mb.Sim
open Mb

section
variable {σ : Type} (ρ : Oracle σ)

/-- a stop test that fires names one of the three caps, and that cap is reached -/
theorem stopCheck_eq_some {args : Args} {st : St σ} {iters cnt : Nat} {s : Stop}
    (h : stopCheck args st iters cnt = some s) :
    (s = .maxTrace ∧ 0 < args.maxTraceLength ∧ args.maxTraceLength ≤ cnt) ∨
    (s = .maxIter ∧ 0 < args.maxSimIterations ∧ args.maxSimIterations ≤ iters + 1) ∨
    (s = .noNormal ∧ args.continueAfterAllNormal = false ∧ st.sq.noNormalPackets = true) := by
  unfold stopCheck at h
  split at h
  · rename_i h1
    cases h
    simp only [Bool.and_eq_true, decide_eq_true_eq] at h1
    exact Or.inl ⟨rfl, h1⟩
  · split at h
    · rename_i h2
      cases h
      simp only [Bool.and_eq_true, decide_eq_true_eq] at h2
      exact Or.inr (Or.inl ⟨rfl, h2⟩)
    · split at h
      · rename_i h3
        cases h
        simp only [Bool.and_eq_true, Bool.not_eq_true'] at h3
        exact Or.inr (Or.inr ⟨rfl, h3⟩)
      · cases h

theorem stopCheck_eq_none {args : Args} {st : St σ} {iters cnt : Nat} :
    stopCheck args st iters cnt = none ↔
      ¬ (0 < args.maxTraceLength ∧ args.maxTraceLength ≤ cnt) ∧
      ¬ (0 < args.maxSimIterations ∧ args.maxSimIterations ≤ iters + 1) ∧
      ¬ (args.continueAfterAllNormal = false ∧ st.sq.noNormalPackets = true) := by
  unfold stopCheck
  simp only [gt_iff_lt, ge_iff_le, Bool.and_eq_true, decide_eq_true_eq, Bool.not_eq_true']
  constructor
  · intro h
    split at h
    · cases h
    · split at h
      · cases h
      · split at h
        · cases h
        · rename_i h1 h2 h3
          exact ⟨h1, h2, h3⟩
  · rintro ⟨h1, h2, h3⟩
    rw [if_neg h1, if_neg h2, if_neg h3]

/-- induction over the main loop: the five ways one round can go -/
theorem loop_induct (args : Args) {P : Nat → St σ → Nat → Nat → LoopOut σ → Prop}
    (fuel0 : ∀ st i c, P 0 st i c ⟨[], .loopFuel, some st⟩)
    (fault : ∀ n st i c f, step ρ st = .error f → P (n + 1) st i c ⟨[], .fault f, none⟩)
    (empty : ∀ n st i c, step ρ st = .ok none → P (n + 1) st i c ⟨[], .queueEmpty, some st⟩)
    (stop : ∀ n st i c r st' s, step ρ st = .ok (some (r, st')) →
      stopCheck args st' i (bump args r c) = some s → P (n + 1) st i c ⟨[r], s, some st'⟩)
    (cont : ∀ n st i c r st' o, step ρ st = .ok (some (r, st')) →
      stopCheck args st' i (bump args r c) = none → P n st' (i + 1) (bump args r c) o →
      P (n + 1) st i c { o with stream := r :: o.stream }) :
    ∀ fuel st i c, P fuel st i c (loop ρ args fuel st i c) := by
  intro fuel
  induction fuel with
  | zero => exact fuel0
  | succ n ih =>
    intro st i c
    cases hs : step ρ st with
    | error f => simp only [loop, hs]; exact fault n st i c f hs
    | ok o =>
      cases o with
      | none => simp only [loop, hs]; exact empty n st i c hs
      | some p =>
        obtain ⟨r, st'⟩ := p
        rw [loop_succ_some ρ args n st st' i c r hs]
        cases hsc : stopCheck args st' i (bump args r c) with
        | some s => exact stop n st i c r st' s hs hsc
        | none => exact cont n st i c r st' _ hs hsc (ih st' (i + 1) (bump args r c))

/-- a second loop from the same state follows the first as long as it answers the stop tests
    alike: with counters related by `R`, it ends as the first does unless that ends on a test in
    `Bad` (or on its fuel, when the second has more) -/
theorem loop_follow (a b : Args) (R : Nat → Nat → Prop) (Bad : Stop → Prop)
    (hR : ∀ r c c', R c c' → R (bump a r c) (bump b r c'))
    (hnone : ∀ (st : St σ) i c c', R c c' → stopCheck a st i c = none → stopCheck b st i c' = none)
    (hsome : ∀ (st : St σ) i c c' s, R c c' → stopCheck a st i c = some s → ¬ Bad s → stopCheck b st i c' = some s) :
    ∀ fuel st i c, ∀ fuel' c', R c c' → ¬ Bad (loop ρ a fuel st i c).stop →
      fuel = fuel' ∨ (fuel ≤ fuel' ∧ (loop ρ a fuel st i c).stop ≠ .loopFuel) →
      loop ρ b fuel' st i c' = loop ρ a fuel st i c := by
  refine loop_induct ρ a (P := fun n st i c o => ∀ fuel' c', R c c' → ¬ Bad o.stop →
    n = fuel' ∨ (n ≤ fuel' ∧ o.stop ≠ .loopFuel) → loop ρ b fuel' st i c' = o) ?_ ?_ ?_ ?_ ?_
  · intro st i c fuel' c' _ _ hf
    rcases hf with rfl | ⟨_, hf⟩
    · rfl
    · exact absurd rfl hf
  · intro n st i c f hs fuel' c' _ _ hf
    obtain ⟨n', rfl⟩ : ∃ n', fuel' = n' + 1 := ⟨fuel' - 1, by omega⟩
    simp only [loop, hs]
  · intro n st i c hs fuel' c' _ _ hf
    obtain ⟨n', rfl⟩ : ∃ n', fuel' = n' + 1 := ⟨fuel' - 1, by omega⟩
    simp only [loop, hs]
  · intro n st i c r st' s hs hsc fuel' c' hr hb hf
    obtain ⟨n', rfl⟩ : ∃ n', fuel' = n' + 1 := ⟨fuel' - 1, by omega⟩
    rw [loop_succ_some ρ b n' st st' i c' r hs, hsome st' i _ _ s (hR r c c' hr) hsc hb]
  · intro n st i c r st' o hs hsc ih fuel' c' hr hb hf
    obtain ⟨n', rfl⟩ : ∃ n', fuel' = n' + 1 := ⟨fuel' - 1, by omega⟩
    rw [loop_succ_some ρ b n' st st' i c' r hs, hnone st' i _ _ (hR r c c' hr) hsc]
    simp only []
    rw [ih n' (bump b r c') (hR r c c' hr) hb (hf.imp Nat.succ.inj fun h => ⟨Nat.le_of_succ_le_succ h.1, h.2⟩)]

theorem bump_eq (a : Args) (r : StepRec) (c : Nat) : bump a r c = c + ([r].filter a.keep).length := by
  cases h : a.keep r <;> simp [bump, h]

/-- a run that ends on one of the stop tests ends with that test firing on the final state and
    the final counters -/
theorem loop_stopped (a : Args) : ∀ (fuel : Nat) (st : St σ) (iters cnt : Nat),
    (loop ρ a fuel st iters cnt).stop = .maxTrace ∨ (loop ρ a fuel st iters cnt).stop = .maxIter ∨
      (loop ρ a fuel st iters cnt).stop = .noNormal →
    ∃ stf k, (loop ρ a fuel st iters cnt).final = some stf ∧ (loop ρ a fuel st iters cnt).stream.length = k + 1 ∧
      stopCheck a stf (iters + k) (cnt + ((loop ρ a fuel st iters cnt).stream.filter a.keep).length) =
        some (loop ρ a fuel st iters cnt).stop := by
  refine loop_induct ρ a (P := fun _ _ i c o => o.stop = .maxTrace ∨ o.stop = .maxIter ∨ o.stop = .noNormal →
    ∃ stf k, o.final = some stf ∧ o.stream.length = k + 1 ∧
      stopCheck a stf (i + k) (c + (o.stream.filter a.keep).length) = some o.stop) ?_ ?_ ?_ ?_ ?_
  · intro st i c h
    rcases h with h | h | h <;> cases h
  · intro n st i c f _ h
    rcases h with h | h | h <;> cases h
  · intro n st i c _ h
    rcases h with h | h | h <;> cases h
  · intro n st i c r st' s _ hsc _
    exact ⟨st', 0, rfl, rfl, by rw [← bump_eq]; exact hsc⟩
  · intro n st i c r st' o _ _ ih h
    obtain ⟨stf, k, hf, hl, hc⟩ := ih h
    refine ⟨stf, k + 1, hf, by simp only [List.length_cons, hl], ?_⟩
    have e1 : i + 1 + k = i + (k + 1) := by omega
    have e2 : bump a r c + (o.stream.filter a.keep).length = c + ((r :: o.stream).filter a.keep).length := by
      rw [bump_eq, Nat.add_assoc, ← List.length_append, ← List.filter_append]
      rfl
    rw [e1, e2] at hc
    exact hc

/-- the invariant rule: a property of the loop head that every continuing round keeps holds of
    the state in which the loop faults, and of the final state when the queues are found empty -/
theorem loop_inv (args : Args) {I : St σ → Nat → Nat → Prop}
    (hI : ∀ st i c r st', I st i c → step ρ st = .ok (some (r, st')) →
      stopCheck args st' i (bump args r c) = none → I st' (i + 1) (bump args r c)) :
    ∀ fuel st i c, I st i c →
      (∀ f, (loop ρ args fuel st i c).stop = .fault f → ∃ st1 i1 c1, I st1 i1 c1 ∧ step ρ st1 = .error f) ∧
      ((loop ρ args fuel st i c).stop = .queueEmpty →
        ∃ st1 i1 c1, I st1 i1 c1 ∧ (loop ρ args fuel st i c).final = some st1 ∧ step ρ st1 = .ok none) := by
  refine loop_induct ρ args (P := fun _ st i c o => I st i c →
    (∀ f, o.stop = .fault f → ∃ st1 i1 c1, I st1 i1 c1 ∧ step ρ st1 = .error f) ∧
    (o.stop = .queueEmpty → ∃ st1 i1 c1, I st1 i1 c1 ∧ o.final = some st1 ∧ step ρ st1 = .ok none)) ?_ ?_ ?_ ?_ ?_
  · intro st i c _
    exact ⟨fun f h => (nomatch h), fun h => nomatch h⟩
  · intro n st i c f hs h
    exact ⟨fun f' h' => (by cases h'; exact ⟨st, i, c, h, hs⟩), fun h' => nomatch h'⟩
  · intro n st i c hs h
    exact ⟨fun f h' => (nomatch h'), fun _ => ⟨st, i, c, h, rfl, hs⟩⟩
  · intro n st i c r st' s _ hsc _
    rcases stopCheck_eq_some hsc with ⟨rfl, _⟩ | ⟨rfl, _⟩ | ⟨rfl, _⟩ <;>
      exact ⟨fun f h' => (nomatch h'), fun h' => nomatch h'⟩
  · intro n st i c r st' o hs hsc ih h
    exact ih (hI st i c r st' h hs hsc)

/-- the invariant rule for properties every iteration keeps, stated of the state together with the
    records produced so far (`acc`), so that it also carries facts about the stream and relations
    to the start state: the property holds of the last state reached (the final state for every
    stop but a fault, where it is the state in which the iteration faulted) and the whole stream -/
theorem loop_inv_stream (args : Args) {I : St σ → List StepRec → Prop}
    (hI : ∀ st acc r st', I st acc → step ρ st = .ok (some (r, st')) → I st' (acc ++ [r])) :
    ∀ fuel st i c acc, I st acc →
      ∃ st1, I st1 (acc ++ (loop ρ args fuel st i c).stream) ∧
        ∀ stf, (loop ρ args fuel st i c).final = some stf → stf = st1 := by
  refine loop_induct ρ args (P := fun _ st _ _ o => ∀ acc, I st acc →
    ∃ st1, I st1 (acc ++ o.stream) ∧ ∀ stf, o.final = some stf → stf = st1) ?_ ?_ ?_ ?_ ?_
  · intro st i c acc h
    exact ⟨st, by rw [List.append_nil]; exact h, fun stf hf => (Option.some.inj hf).symm⟩
  · intro n st i c f _ acc h
    exact ⟨st, by rw [List.append_nil]; exact h, fun stf hf => nomatch hf⟩
  · intro n st i c _ acc h
    exact ⟨st, by rw [List.append_nil]; exact h, fun stf hf => (Option.some.inj hf).symm⟩
  · intro n st i c r st' s hs _ acc h
    exact ⟨st', hI st acc r st' h hs, fun stf hf => (Option.some.inj hf).symm⟩
  · intro n st i c r st' o hs _ ih acc h
    obtain ⟨st1, h1, h2⟩ := ih (acc ++ [r]) (hI st acc r st' h hs)
    exact ⟨st1, by rw [List.append_assoc] at h1; exact h1, h2⟩

/-- the same for a property of the states and a property of the records: the first holds of the
    final state of every run that does not end in a fault, the second of every record -/
theorem loop_inv_final (args : Args) {I : St σ → Prop} {R : StepRec → Prop}
    (hI : ∀ st r st', I st → step ρ st = .ok (some (r, st')) → I st' ∧ R r)
    (fuel : Nat) (st : St σ) (i c : Nat) (h : I st) :
    (∀ stf, (loop ρ args fuel st i c).final = some stf → I stf) ∧ ∀ r ∈ (loop ρ args fuel st i c).stream, R r := by
  obtain ⟨st1, ⟨h1, h2⟩, h3⟩ := loop_inv_stream ρ args (I := fun st acc => I st ∧ ∀ r ∈ acc, R r)
    (fun st acc r st' h hs => ⟨(hI st r st' h.1 hs).1, fun x hx => by
      rcases List.mem_append.1 hx with hx | hx
      · exact h.2 x hx
      · rw [List.mem_singleton.1 hx]; exact (hI st r st' h.1 hs).2⟩)
    fuel st i c [] ⟨h, fun _ hr => nomatch hr⟩
  exact ⟨fun stf hf => h3 stf hf ▸ h1, fun r hr => h2 r (by simpa using hr)⟩

end
end Mb.Sim
