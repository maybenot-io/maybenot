/-
  C09: the pending-signal slot is a function of the ghost log. Every transition to the signal
  pseudo-state is recorded as a `sampled mi ev STATE_SIGNAL` entry, and the slot after any part of
  a call is the fold of `sigStep` over the machines of these entries, in chronological order.
-/
import MbVerif.Proofs.SigDeliver
import MbVerif.Proofs.RoundRel

namespace Mb
variable {σ : Type} (ρ : Oracle σ)

/-- the machine that signalled, if the entry records a transition to the signal pseudo-state -/
def sigEntry : LogEntry → Option Nat
  | .sampled mi _ next => if next = STATE_SIGNAL then some mi else none
  | _ => none

/-- the machines that transitioned to the signal pseudo-state according to a log segment (newest
    first), in chronological order, with repetitions -/
def signalsIn (l : List LogEntry) : List Nat := l.reverse.filterMap sigEntry

theorem signalsIn_append (l2 l1 : List LogEntry) : signalsIn (l2 ++ l1) = signalsIn l1 ++ signalsIn l2 := by
  simp [signalsIn, List.reverse_append, List.filterMap_append]

theorem signalsIn_quiet (l : List LogEntry) (h : ∀ e ∈ l, sigEntry e = none) : signalsIn l = [] := by
  unfold signalsIn
  rw [List.filterMap_eq_nil_iff]
  intro e he
  exact h e (List.mem_reverse.mp he)

/-- `t` extends the log of `s` by a segment, and the slot of `t` is the slot of `s` stepped by the
    signalling transitions recorded in the segment -/
def Trk (s t : Fw σ) : Prop :=
  ∃ l, t.log = l ++ s.log ∧ t.signalPending = (signalsIn l).foldl C09.sigStep s.signalPending

theorem Trk.refl (s : Fw σ) : Trk s s := ⟨[], rfl, rfl⟩

theorem Trk.trans {s t u : Fw σ} (h₁ : Trk s t) (h₂ : Trk t u) : Trk s u := by
  obtain ⟨l1, e1, p1⟩ := h₁
  obtain ⟨l2, e2, p2⟩ := h₂
  refine ⟨l2 ++ l1, by rw [e2, e1, List.append_assoc], ?_⟩
  rw [signalsIn_append, List.foldl_append, ← p1, p2]

theorem Trk.same {s t : Fw σ} (hl : t.log = s.log) (hs : t.signalPending = s.signalPending) : Trk s t :=
  ⟨[], by simp [hl], hs⟩

theorem Trk.push (s : Fw σ) (e : LogEntry) (he : sigEntry e = none) : Trk s (s.push e) :=
  ⟨[e], rfl, by simp [signalsIn, he]⟩

theorem Trk.withFault (s : Fw σ) (f : Fault) : Trk s (s.withFault f) := Trk.same (by simp) (by simp)

theorem Trk.modRt (s : Fw σ) (mi : Nat) (f : Runtime → Runtime) : Trk s (s.modRt mi f) := Trk.same (by simp) (by simp)

theorem trk_distSample (d : Dist) (s : Fw σ) : Trk s (distSample ρ d s).2 := by
  unfold distSample
  exact ⟨[.distRaw _], rfl, rfl⟩

theorem trk_enterState (mi : Nat) (m : Machine) (cur next : Nat) (s : Fw σ) :
    Trk s (enterState ρ mi m cur next s) :=
  enterState_rel ρ Trk.refl Trk.trans (trk_distSample ρ) mi (Trk.withFault · _) (fun s _ => Trk.modRt s mi _)
    (fun s _ => (Trk.modRt s mi _).trans (Trk.push _ _ rfl)) m cur next s

theorem trk_applyCounter (mi : Nat) :
    (∀ c oldA oldB (s : Fw σ), Trk s (applyCounterA ρ mi c oldA oldB s).1) ∧
    (∀ c oldA oldB (s : Fw σ), Trk s (applyCounterB ρ mi c oldA oldB s).1) :=
  applyCounter_rel ρ Trk.refl Trk.trans (trk_distSample ρ) mi (fun s f _ => Trk.modRt s mi f)

theorem trk_scheduleAction (mi next : Nat) (s : Fw σ) : Trk s (scheduleAction ρ mi next s) :=
  scheduleAction_rel ρ Trk.refl Trk.trans (trk_distSample ρ) mi (Trk.withFault · _) (fun _ _ => Trk.same rfl rfl) next s

theorem STATE_END_ne_SIGNAL : STATE_END ≠ STATE_SIGNAL := by decide

theorem trk_main (fuel : Nat) :
    (∀ mi ev (s : Fw σ), Trk s (transition ρ fuel mi ev s).1) ∧
    (∀ mi (s : Fw σ), Trk s (updateCounter ρ fuel mi s).1) := by
  have h := transition_induct ρ (PT := fun _ _ _ _ => True) (PU := fun _ _ _ => True)
    (T := fun _ _ _ s s' _ => Trk s s') (U := fun _ _ s s' _ _ => Trk s s')
    (fun _ _ s _ => Trk.withFault s _) (fun _ _ _ s _ _ => Trk.withFault s _) ?_
    (fun _ s _ => Trk.withFault s _) (fun _ _ s _ _ => Trk.withFault s _) ?_ fuel
  · exact ⟨fun mi ev s => h.1 mi ev s trivial, fun mi s => h.2 mi s trivial⟩
  · intro n mi ev s r m _ _ _ s0
    have h0 : Trk s s0 := Trk.push _ _ rfl
    refine ⟨fun _ => h0, fun _ => ⟨fun _ => h0.trans (Trk.withFault _ _), fun st _ =>
      ⟨fun _ => h0.trans (Trk.withFault _ _), fun _ => h0, fun vec _ => ?_⟩⟩⟩
    intro d s1
    have h1 : Trk s s1 := h0.trans ⟨[.draw _], rfl, rfl⟩
    refine ⟨fun _ => h1, fun next _ => ?_⟩
    intro s2
    -- the `sampled` entry records a signalling transition exactly when the target is SIGNAL
    refine ⟨fun hE => ?_, fun _ hS => ?_, fun _ hS => ?_⟩
    · have hq : sigEntry (.sampled mi ev.toNat next) = none := by simp [sigEntry, hE, STATE_END_ne_SIGNAL]
      exact (h1.trans (Trk.push _ _ hq)).trans (Trk.modRt _ mi _)
    · refine h1.trans ⟨[.sampled mi ev.toNat next], rfl, ?_⟩
      rw [C09.signalFrom_pending]
      simp [signalsIn, sigEntry, hS]
      rfl
    · intro s3
      have h3 : Trk s s3 :=
        (h1.trans (Trk.push _ _ (by simp [sigEntry, hS]))).trans (trk_enterState ρ mi m r.currentState next _)
      refine ⟨fun _ => h3.trans (Trk.withFault _ _), fun r1 _ => ⟨fun _ => h3.trans (Trk.withFault _ _),
        fun below _ => ?_⟩⟩
      intro res ih s5
      have h5 : Trk s s5 := by
        show Trk s (if _ then _ else _)
        split
        · exact (h3.trans (ih trivial)).trans (trk_scheduleAction ρ mi next _)
        · exact h3.trans (ih trivial)
      exact ⟨fun _ => h5.trans (Trk.withFault _ _), fun _ _ => h5⟩
  · intro n mi s r m _ _ _
    refine ⟨fun _ => Trk.withFault s _, fun st _ => ?_⟩
    intro ra rb s2
    have h2 : Trk s s2 := (((trk_applyCounter ρ mi).1 st.counterA r.counterA r.counterB s).trans
      ((trk_applyCounter ρ mi).2 st.counterB r.counterA r.counterB ra.1)).trans (Trk.push _ _ rfl)
    refine ⟨fun _ => h2, fun _ => ?_⟩
    intro res ih
    exact ⟨fun _ => (h2.trans (ih trivial)).trans (Trk.withFault _ _), fun _ _ => h2.trans (ih trivial)⟩

theorem trk_transition (fuel j : Nat) (ev : Event) (s : Fw σ) : Trk s (transition ρ fuel j ev s).1 :=
  (trk_main ρ fuel).1 j ev s

theorem trk_decrement (j : Nat) (s : Fw σ) : Trk s (decrementLimit ρ j s) :=
  decrementLimit_rel ρ (Q := Trk) j Trk.trans (Trk.withFault · _)
    (fun s _ => (Trk.modRt s j _).trans (Trk.push _ _ rfl)) (fun _ _ => Trk.same rfl rfl)
    (trk_transition ρ FUEL j .limitReached) s

theorem trk_processEvent (e : TEvent) (s : Fw σ) : Trk s (processEvent ρ e s) :=
  processEvent_walk ρ Trk.refl Trk.trans (fun j e s => trk_transition ρ FUEL j e.kind s)
    (fun j s _ => trk_decrement ρ j s) Trk.withFault (fun _ _ => Trk.same rfl rfl) (fun s j f _ => Trk.modRt s j f) e s

end Mb

namespace Mb.C09
open Mb
variable {σ : Type} (ρ : Oracle σ)

theorem slot_tracks_log (es : List TEvent) (t : Int) (s : Fw σ) :
    ∃ l, (eventsDone ρ es t s).log = l ++ s.log ∧
      (eventsDone ρ es t s).signalPending = (signalsIn l).foldl sigStep s.signalPending := by
  unfold eventsDone
  have h0 : Trk s (s.callStart t) := (Trk.same rfl rfl)
  exact h0.trans (foldl_rel Trk.refl Trk.trans _ _ (fun a e _ => trk_processEvent ρ e a) _)

theorem afterFirst_tracks_log (s : Fw σ) (excluded : Option Nat) :
    ∃ l, (afterFirst ρ s excluded).log = l ++ s.log ∧
      (afterFirst ρ s excluded).signalPending = (signalsIn l).foldl sigStep none := by
  unfold afterFirst
  exact foldl_rel Trk.refl Trk.trans (fun s mi => (transition ρ FUEL mi .signal s).1) _
    (fun a j _ => trk_transition ρ FUEL j .signal a) ({ s with signalPending := none } : Fw σ)

theorem sigStep_isSome (p : Option SignalTarget) (mi : Nat) : (sigStep p mi).isSome = true := by
  unfold sigStep
  cases p with
  | none => rfl
  | some q =>
    cases q with
    | all => rfl
    | allExcept o => simp only []; split <;> rfl

theorem sigStep_fold_isSome (ids : List Nat) (p : Option SignalTarget) :
    (ids.foldl sigStep p).isSome = (p.isSome || !ids.isEmpty) := by
  induction ids generalizing p with
  | nil => simp
  | cons i ids ih => rw [List.foldl_cons, ih, sigStep_isSome]; simp

theorem afterFirst_answered (s : Fw σ) (excluded : Option Nat) :
    ∃ l, (afterFirst ρ s excluded).log = l ++ s.log ∧
      ((afterFirst ρ s excluded).signalPending.isSome = true ↔ signalsIn l ≠ []) := by
  obtain ⟨l, e, p⟩ := afterFirst_tracks_log ρ s excluded
  refine ⟨l, e, ?_⟩
  rw [p, sigStep_fold_isSome]
  cases signalsIn l <;> simp

theorem lone_or_many (ids : List Nat) :
    (ids.foldl sigStep none = none ↔ ids = []) ∧
    (∀ x, ids.foldl sigStep none = some (.allExcept x) ↔ ids ≠ [] ∧ ∀ i ∈ ids, i = x) ∧
    (ids.foldl sigStep none = some .all ↔ ∃ a ∈ ids, ∃ b ∈ ids, a ≠ b) := by
  cases ids with
  | nil => simp
  | cons y r =>
    rw [sr_first]
    have hy : y ∈ y :: r := List.mem_cons_self
    by_cases h1 : r.all (· == y) = true
    · rw [if_pos h1]
      have hall : ∀ i ∈ y :: r, i = y := fun i hi =>
        (List.mem_cons.mp hi).elim id (fun hi => by simpa using List.all_eq_true.mp h1 i hi)
      refine ⟨by simp, fun x => ⟨?_, fun h => by rw [h.2 y hy]⟩, ⟨fun h => (by cases h), ?_⟩⟩
      · rintro ⟨⟩
        exact ⟨List.cons_ne_nil _ _, hall⟩
      · rintro ⟨a, ha, b, hb, hab⟩
        exact absurd ((hall a ha).trans (hall b hb).symm) hab
    · rw [if_neg h1]
      obtain ⟨i, hi, hiy⟩ : ∃ i ∈ r, i ≠ y := by
        by_contra hno
        exact h1 (List.all_eq_true.mpr fun i hi => by simpa using fun hne => hno ⟨i, hi, hne⟩)
      have hi' : i ∈ y :: r := List.mem_cons_of_mem _ hi
      refine ⟨by simp, fun x => ⟨fun h => (by cases h), ?_⟩, ⟨fun _ => ⟨i, hi', y, hy, hiy⟩, fun _ => rfl⟩⟩
      rintro ⟨-, h⟩
      exact absurd ((h i hi').trans (h y hy).symm) hiy

end Mb.C09
