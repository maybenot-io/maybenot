/-
  Basic facts about the float model used by the framework proofs.
-/
import MbVerif.Framework
import Mathlib.Data.Rat.Floor
import Mathlib.Tactic.Linarith
import Mathlib.Tactic.NormNum

namespace Mb
open Fp

theorem toU64_fin (q : Rat) :
    toU64 (.fin q) = if q < 0 then 0 else (if q.floor.toNat > u64Max then u64Max else q.floor.toNat) := rfl

theorem fround_fin_eq (q : Rat) :
    fround (.fin q) = if q < 0 then .fin (-(((-q) + 1/2).floor : Rat)) else .fin ((q + 1/2).floor : Rat) := rfl

theorem toU64_fin_le {x : Rat} {M : Nat} (h : x ≤ (M : Rat)) : toU64 (.fin x) ≤ M := by
  rw [toU64_fin]
  split
  · exact Nat.zero_le _
  · have hfl : x.floor < (M : Int) + 1 := by
      rw [Rat.floor_lt_iff]; push_cast; linarith
    have : x.floor.toNat ≤ M := by omega
    split <;> omega

theorem toU64_lt (v : FV) : toU64 v ≤ u64Max := by
  cases v with
  | nan => simp [toU64]
  | inf b => cases b <;> simp [toU64]
  | fin q => rw [toU64_fin]; split <;> [omega; (split <;> omega)]

theorem fround_fin_le {q : Rat} {M : Nat} (h : q ≤ (M : Rat)) :
    ∃ x, fround (.fin q) = .fin x ∧ x ≤ (M : Rat) := by
  rw [fround_fin_eq]
  split
  · next hq =>
    refine ⟨_, rfl, ?_⟩
    have h0 : (0 : Int) ≤ (-q + 1/2).floor := by
      rw [Rat.le_floor_iff]; push_cast; linarith
    have h0' : (0:Rat) ≤ (((-q + 1/2).floor : Int) : Rat) := by exact_mod_cast h0
    have hM : (0:Rat) ≤ (M : Rat) := by exact_mod_cast Nat.zero_le M
    linarith
  · next hq =>
    refine ⟨_, rfl, ?_⟩
    have : (q + 1/2).floor < (M : Int) + 1 := by
      rw [Rat.floor_lt_iff]; push_cast; linarith
    have : (q + 1/2).floor ≤ (M : Int) := by omega
    exact_mod_cast this

/-- `min(MAX).round() as u64` never exceeds MAX, whatever the sampled value (NaN, ±inf included) -/
theorem toMicros_le (M : Nat) (v : FV) : toMicros M v ≤ M := by
  unfold toMicros
  have key : ∀ w : FV, (w = .inf true ∨ ∃ q, w = .fin q ∧ q ≤ (M : Rat)) → toU64 (fround w) ≤ M := by
    intro w hw
    rcases hw with rfl | ⟨q, rfl, hq⟩
    · simp [fround, toU64]
    · obtain ⟨x, hx, hxM⟩ := fround_fin_le hq
      rw [hx]; exact toU64_fin_le hxM
  apply key
  cases v with
  | nan => right; exact ⟨_, rfl, le_refl _⟩
  | inf b =>
    cases b
    · right; refine ⟨(M:Rat), ?_, le_refl _⟩
      simp [fmin, lt]
    · left; simp [fmin, lt]
  | fin q =>
    right
    by_cases h : (M : Rat) < q
    · refine ⟨(M:Rat), ?_, le_refl _⟩
      simp [fmin, lt, h]
    · refine ⟨q, ?_, not_lt.mp h⟩
      simp [fmin, lt, h]

end Mb
