/-
  Lemmas about the blocking update and the blocking-expiry branch of `pick_next`.
-/
import MbVerif.Proofs.SimFuel
import MbVerif.Spec.C16

namespace Mb.Sim
open Mb

/-- `blockUpdate` on the contract's blocking state (C16): a new blocking, or one that is replaced or extended,
    takes the action's expiry and bypass flag; otherwise nothing changes -/
theorem blockUpdate_blk (cur : Option C16.Blk) (t : Int) (durNs : Nat) (bypass replace : Bool)
    (h : cur.isSome ∨ 0 < durNs ∨ replace = true) :
    blockUpdate (cur.map (·.expiry)) ((cur.map (·.allBypass)).getD false) t durNs bypass replace =
      match cur with
      | none => (some (t + durNs), bypass)
      | some b => if replace || t + durNs > b.expiry then (some (t + durNs), bypass) else (some b.expiry, b.allBypass) := by
  cases cur with
  | none =>
    have : replace = true ∨ t + (durNs : Int) > t := by
      rcases h with h | h | h
      · cases h
      · exact Or.inr (by omega)
      · exact Or.inl h
    simp [blockUpdate, this]
  | some b => simp [blockUpdate]

section
variable {σ : Type}

@[simp] theorem side_setSide_same (st : St σ) (c : Bool) (x : Side σ) : (st.setSide c x).side c = x := by
  cases c <;> simp [St.setSide, St.side]

theorem peekBlockedExp_spec (cu su : Option Int) (now : Int) (b : Nat) (c : Bool)
    (h : peekBlockedExp cu su now = (b, c)) (hs : (if c then cu else su).isSome) :
    ∃ u, (if c then cu else su) = some u ∧ b = dsince u now := by
  unfold peekBlockedExp at h
  cases cu with
  | none =>
    cases su with
    | none => simp at h; obtain ⟨_, hc⟩ := h; subst hc; simp at hs
    | some s => simp at h; obtain ⟨hb, hc⟩ := h; subst hc; exact ⟨s, by simp, hb.symm⟩
  | some cc =>
    cases su with
    | none => simp at h; obtain ⟨hb, hc⟩ := h; subst hc; exact ⟨cc, by simp, hb.symm⟩
    | some s =>
      simp only [] at h
      split at h
      · simp at h; obtain ⟨hb, hc⟩ := h; subst hc; exact ⟨cc, by simp, hb.symm⟩
      · simp at h; obtain ⟨hb, hc⟩ := h; subst hc; exact ⟨s, by simp, hb.symm⟩

theorem pickDecide_blockExp {st : St σ} {b : Nat} {c : Bool} (h : pickDecide st = .ok (.blockExp b c)) :
    peekBlockedExp st.client.blockingUntil st.server.blockingUntil st.now = (b, c) := by
  obtain ⟨r, _, hp⟩ := pickDecide_ok_iff.1 h
  exact (Pick.choose_blockExp hp).1.symm

theorem pickBlockExp_spec {st st' : St σ} {b : Nat} {c : Bool} {e : SimEvent}
    (hd : pickDecide st = .ok (.blockExp b c)) (hp : pickBlockExp st b c = .ok (e, st'))
    (hsome : (st.side c).blockingUntil.isSome) :
    e.event = .blockingEnd ∧ e.client = c ∧ (st'.side c).blockingUntil = none ∧
    ∃ u, (st.side c).blockingUntil = some u ∧ (st.now ≤ u → u - st.now ≤ durMax → e.time = u) := by
  have hpk := pickDecide_blockExp hd
  have hside : (if c then st.client.blockingUntil else st.server.blockingUntil) = (st.side c).blockingUntil := by
    cases c <;> rfl
  obtain ⟨u, hu, hb⟩ := peekBlockedExp_spec _ _ _ _ _ hpk (by rw [hside]; exact hsome)
  rw [hside] at hu
  obtain ⟨net, _, rfl, rfl⟩ := pickBlockExp_ok_iff.1 hp
  refine ⟨rfl, rfl, ?_, u, hu, ?_⟩
  · cases c <;> rfl
  · intro h1 h2
    show st.now + (b : Int) = u
    rw [hb]
    unfold dsince durSince
    omega

end
end Mb.Sim
