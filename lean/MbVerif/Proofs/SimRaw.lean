/-
  The raw-line parser (all six direction tokens of `parse_trace`) is the parser of the normal
  lines: padding lines `sp` / `rp` change nothing — they queue no event and enter no window.
-/
import MbVerif.Sim.Main

namespace Mb.Sim
open Mb

/-- the loop body of `parse_trace` on an already split line: `parseTrace` folds it over the trace -/
def parseStep (delay : Nat) (acc : ParseAcc) (l : TraceLine) : ParseAcc :=
  let ts : Int := l.1
  if l.2 then
    let sq := acc.sq.pushSim ⟨.normalSent, ts, true, false, false, false⟩
    let (m, w) := acc.sentW.add ts
    { acc with sq := sq, sentW := w, sentMax := if m > acc.sentMax then m else acc.sentMax }
  else
    let sq := acc.sq.pushSim ⟨.normalSent, ts - delay, false, false, false, false⟩
    let (m, w) := acc.recvW.add ts
    { acc with sq := sq, recvW := w, recvMax := if m > acc.recvMax then m else acc.recvMax }

theorem parseTrace_eq (trace : List TraceLine) (delay : Nat) :
    parseTrace trace delay =
      let acc := trace.foldl (parseStep delay)
        ⟨SimQueue.empty, ⟨Gen.SIM_PARSE_WINDOW_NS, []⟩, ⟨Gen.SIM_PARSE_WINDOW_NS, []⟩, 0, 0⟩
      { acc.sq with maxPps := some (max acc.sentMax acc.recvMax * Gen.SIM_PARSE_PPS_FACTOR) } := rfl

theorem parseLine_fold (delay : Nat) : ∀ (raw : List RawLine) (acc : ParseAcc),
    raw.foldl (parseLine delay) acc = (normalLines raw).foldl (parseStep delay) acc := by
  intro raw
  induction raw with
  | nil => intro acc; rfl
  | cons l r ih =>
    intro acc
    simp only [List.foldl_cons, normalLines]
    cases hd : l.dir <;> simp only [parseLine, hd, List.foldl_cons] <;> rw [ih] <;> rfl

/-- Padding lines of the input are ignored: parsing a raw trace is parsing its normal lines. -/
theorem parseTraceRaw_eq (raw : List RawLine) (delay : Nat) :
    parseTraceRaw raw delay = parseTrace (normalLines raw) delay := by
  rw [parseTrace_eq]
  unfold parseTraceRaw
  simp only []
  rw [parseLine_fold]

end Mb.Sim
