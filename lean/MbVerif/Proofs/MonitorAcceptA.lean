/-
  The monitors `C04.monitor`, `C01.monitor` and `C06.fwMonitor` on the model's OWN trace
  (`LL.modelTrace`: per call the events, outcome, returned actions, snapshot and the call's log, as
  the driver records them; the ghost log is emptied before every call).

  * C04: accepted for every machine set, configuration, oracle and history (`c04_monitor_model`).
  * C01: the monitor returns `none` exactly when neither `Framework::new` nor any call of the trace
    faults (`c01_monitor_iff`; the work bound is met by every call of every machine set), hence
    under the hypotheses of `C01_total` (`c01_monitor_model`).
  * C06 (framework level): the log of every call passes `checkDraws` for every machine set, oracle
    and history, faulting or not (`c06_checkDraws_call`); the range check on the draws needs — and
    only needs — that the oracle's uniform draws are of the form `k/2^23`, `k < 2^23`
    (`c06_monitor_model`).
-/
import MbVerif.Proofs.LimitMonitor
import MbVerif.Proofs.EndAbs
import MbVerif.Proofs.WorkBound
import MbVerif.Proofs.DurBound
import MbVerif.Spec.C06

namespace Mb
namespace MA
open LL (resetLog callRec callRecs modelTrace resOf resOf_ok machines_run inv04_resetLog Live callRecs_accept)

variable {σ : Type} (ρ : Oracle σ)

theorem c04_go_bad (t : FwTrace) (i : Nat) (ended : List Nat) (c : CallRec) (cs : List CallRec) (h : c.res ≠ .ok) :
    C04.monitor.go t i ended (c :: cs) = none := by
  rw [C04.monitor.go, if_pos (bne_iff_ne.2 h)]

theorem c04_go_ok (t : FwTrace) (i : Nat) (ended : List Nat) (c : CallRec) (cs : List CallRec) (h : c.res = .ok)
    (h1 : C04.outOK t.machines c.actions = true) (h2 : C04.noActionForEnded ended c.actions = true) :
    C04.monitor.go t i ended (c :: cs) = C04.monitor.go t (i + 1) (C04.endedOf c.snap) cs := by
  rw [C04.monitor.go, h, h1, h2]
  rfl

/-- the monitor's "ended according to the snapshot" is the model's `Ended` -/
theorem ended_of_mem (s : Fw σ) (mi : Nat) (h : mi ∈ C04.endedOf s.snap) : Ended mi s := by
  unfold C04.endedOf at h
  rw [List.mem_filter] at h
  have h2 := h.2
  unfold Ended
  simp only [Fw.snap, List.getElem?_map] at h2
  cases hr : s.rt[mi]? with
  | none => rw [hr] at h2; simp at h2
  | some r =>
    rw [hr] at h2
    simp only [Option.map_some, beq_iff_eq] at h2
    simp [h2]

/-- no action is returned for a machine that the snapshot before the call shows in END -/
theorem noActionForEnded_call (s : Fw σ) (hI : Inv04 s) (c : Call) :
    C04.noActionForEnded (C04.endedOf s.snap) (triggerEvents ρ c.1 c.2 (resetLog s)).actionsOut = true := by
  unfold C04.noActionForEnded
  rw [List.all_eq_true]
  intro a ha
  cases hc : (C04.endedOf s.snap).contains a.machine with
  | false => rfl
  | true =>
    have hend : Ended a.machine (resetLog s) := ended_of_mem s a.machine (by simpa using hc)
    have hI' := (inv04_resetLog hI).run (triggerEvents_run ρ c.1 c.2 (resetLog s))
    exact absurd (hI'.slot_of_mem ha) ((triggerEvents_quiet ρ a.machine c.1 c.2 (resetLog s) hend).2 a)

/-- `C04.monitor` accepts the model's own trace of every history. -/
theorem c04_monitor_model (ms : List Machine) (fp fb : F64) (t0 : Int) (rng : σ) (h : List Call) :
    C04.monitor (modelTrace ρ ms fp fb t0 rng h) = none := by
  unfold C04.monitor
  refine callRecs_accept ρ (go := C04.monitor.go _) (fun _ ended s => Live ms s ∧ ended = C04.endedOf s.snap)
    (fun _ _ => by rw [C04.monitor.go]) (c04_go_bad _) ?_ h 1 _ _ ⟨Live.init ρ ms fp fb t0 rng, rfl⟩
  rintro i _ s c _ cs ⟨hL, rfl⟩ hok
  have hL' := hL.call ρ c
  refine ⟨_, ⟨hL', rfl⟩, c04_go_ok _ i _ _ cs ((resOf_ok _).2 hok) ?_ (noActionForEnded_call ρ s hL.inv c)⟩
  rw [← hL'.machines]
  exact hL'.inv.outOK

theorem c01_go_ok (t : FwTrace) (i : Nat) (seen : List CallRec) (c : CallRec) (cs : List CallRec)
    (hres : c.res = .ok) (hw : C01.steps c.log ≤ C01.workBound c.events.length t.machines.length) :
    C01.monitor.go t i seen (c :: cs) = C01.monitor.go t (i + 1) (seen ++ [c]) cs := by
  rw [C01.monitor.go, hres]
  exact if_neg (Nat.not_lt.2 hw)

theorem c01_go_fault (t : FwTrace) (i : Nat) (seen : List CallRec) (c : CallRec) (cs : List CallRec)
    (f : Fault) (hres : c.res = resOf (some f)) : C01.monitor.go t i seen (c :: cs) ≠ none := by
  rw [C01.monitor.go, hres]
  cases f <;> simp [resOf]

/-- the monitor's step count of a log is the weight the work-bound lemma counts -/
theorem steps_eq (l : List LogEntry) : C01.steps l.reverse = wsum μSteps l := by
  unfold C01.steps
  rw [List.countP_reverse]
  induction l with
  | nil => rfl
  | cons e l ih =>
    rw [wsum_cons, List.countP_cons, ih]
    cases e <;> simp [μSteps, Nat.add_comm]

/-- work bound in the monitor's terms: the log of every call of the model, started from an empty
    log, holds at most `workBound events machines` transition entries. The monitor's factor 6 is the
    property's "small constant"; the model meets 3 (per delivery its own entry and at most two
    CounterZero deliveries, `steps_triggerEvents`), so the test has a factor 2 to spare. -/
theorem work_call (s : Fw σ) (hI : Inv04 s) (c : Call) :
    C01.steps (callRec ρ s c).log ≤ C01.workBound (callRec ρ s c).events.length s.machines.length := by
  show C01.steps (triggerEvents ρ c.1 c.2 (resetLog s)).log.reverse ≤ C01.workBound c.1.length s.machines.length
  rw [steps_eq]
  have h := steps_triggerEvents ρ c.1 c.2 (resetLog s)
  have h0 : stepsOf (resetLog s) = 0 := rfl
  have hl : (resetLog s).rt.length = s.machines.length := hI.rtLen
  rw [h0, hl] at h
  unfold stepsOf at h
  unfold C01.workBound
  have h3 : 3 * (s.machines.length + 1) * (c.1.length + 1) ≤ 6 * (c.1.length + 1) * (s.machines.length + 1) := by
    have : 3 * (s.machines.length + 1) * (c.1.length + 1) = 3 * ((c.1.length + 1) * (s.machines.length + 1)) := by
      rw [Nat.mul_assoc, Nat.mul_comm (s.machines.length + 1)]
    rw [this, Nat.mul_assoc]
    exact Nat.mul_le_mul_right _ (by decide)
  omega

/-- every call record of the model's trace meets the monitor's work bound (any machines, any oracle,
    any history, faulting or not) -/
theorem c01_work_trace (ms : List Machine) (fp fb : F64) (t0 : Int) (rng : σ) (h : List Call) :
    ∀ r ∈ (modelTrace ρ ms fp fb t0 rng h).calls, C01.steps r.log ≤ C01.workBound r.events.length ms.length :=
  LL.callRecs_forall ρ (fun _ s => Live ms s) (fun s c _ hL => ⟨hL.machines ▸ work_call ρ s hL.inv c, hL.call ρ c⟩)
    h _ (Live.init ρ ms fp fb t0 rng)

/-- the walk of `C01.monitor` over the model's call records ends with `none` exactly when no record
    reports a fault -/
theorem c01_go_iff (t : FwTrace) (h : List Call) : ∀ (i : Nat) (seen : List CallRec) (s : Fw σ), Live t.machines s →
    (C01.monitor.go t i seen (callRecs ρ s h) = none ↔ ∀ r ∈ callRecs ρ s h, r.res = .ok) := by
  induction h with
  | nil => intro i seen s _; simp [callRecs, C01.monitor.go]
  | cons c h ih =>
    intro i seen s hL
    rw [callRecs, List.forall_mem_cons]
    cases hf : (triggerEvents ρ c.1 c.2 (resetLog s)).fault with
    | none =>
      have hres : (callRec ρ s c).res = .ok := (resOf_ok _).2 hf
      rw [c01_go_ok t i seen _ _ hres (by rw [← hL.machines]; exact work_call ρ s hL.inv c), ih (i + 1) _ _ (hL.call ρ c)]
      exact (and_iff_right hres).symm
    | some f =>
      have hres : (callRec ρ s c).res = resOf (some f) := congrArg resOf hf
      exact ⟨fun h0 => absurd h0 (c01_go_fault t i seen _ _ f hres),
        fun h0 => absurd ((resOf_ok _).1 (hres ▸ h0.1)) (Option.some_ne_none f)⟩

/-- `C01.monitor` on the model's own trace: it returns `none` exactly when neither the
    construction nor any call of the trace reports a fault (the work bound is never the reason for a
    report: every call of every machine set meets it) -/
theorem c01_monitor_iff (ms : List Machine) (fp fb : F64) (t0 : Int) (rng : σ) (h : List Call) :
    C01.monitor (modelTrace ρ ms fp fb t0 rng h) = none ↔
      (modelTrace ρ ms fp fb t0 rng h).newRes = .ok ∧ ∀ r ∈ (modelTrace ρ ms fp fb t0 rng h).calls, r.res = .ok := by
  have hgo := c01_go_iff ρ (modelTrace ρ ms fp fb t0 rng h) h 1 [] _ (Live.init ρ ms fp fb t0 rng)
  unfold C01.monitor
  cases hf : (Fw.init ρ ms fp fb t0 rng).fault with
  | none =>
    have hnew : (modelTrace ρ ms fp fb t0 rng h).newRes = .ok := by show resOf _ = _; rw [hf]; rfl
    rw [hnew]
    simp only [bne_self_eq_false, Bool.false_and, Bool.false_eq_true, if_false, true_and]
    exact hgo
  | some f =>
    have hnew : (modelTrace ρ ms fp fb t0 rng h).newRes = resOf (some f) := by show resOf _ = _; rw [hf]
    rw [hnew]
    cases f <;> simp [resOf]

/-- along a history whose clock values stay in a window of width `B` with room for the number of
    calls, no call record of the model reports a fault (validated machines): the invariants of
    `C01_no_crash` and `C01_total` do not mention the ghost log, so they survive its reset -/
theorem callRecs_ok {lo : Int} {B : Nat} (h : List Call) (c : Nat) (s : Fw σ) (hV : Valid s) (hS : SigOK s)
    (hG : Good lo B c s) (hf : s.fault = none) (hg : (c + h.length) * B + B ≤ durMax)
    (ht : ∀ cl ∈ h, lo ≤ cl.2 ∧ cl.2 ≤ lo + B) : ∀ r ∈ callRecs ρ s h, r.res = .ok := by
  refine LL.callRecs_forall ρ (fun h s => ∃ c, Valid s ∧ SigOK s ∧ Good lo B c s ∧ s.fault = none ∧
    (c + h.length) * B + B ≤ durMax ∧ ∀ cl ∈ h, lo ≤ cl.2 ∧ cl.2 ≤ lo + B) ?_ h s ⟨c, hV, hS, hG, hf, hg, ht⟩
  rintro s cl h ⟨c, hV, hS, hG, hf, hg, ht⟩
  have hV0 : Valid (resetLog s) := ⟨hV.lenRt, hV.lenAct, hV.ok, hV.cur⟩
  have hG0 : Good lo B c (resetLog s) := ⟨⟨hG.1.nowLo, hG.1.nowHi, hG.1.stLo, hG.1.phi, hG.1.le⟩, hG.2⟩
  obtain ⟨hV1, hS1, hN1, _⟩ := okS_triggerEvents ρ cl.1 cl.2 (resetLog s) hV0 (fun x hx => hS x hx)
  rw [List.length_cons, ← Nat.add_assoc, Nat.add_right_comm] at hg
  have hmono : (c + 1) * B + B ≤ durMax :=
    Nat.le_trans (Nat.add_le_add_right (Nat.mul_le_mul_right B (Nat.le_add_right _ _)) B) hg
  have hG1 := good_triggerEvents ρ hmono cl.1 cl.2 (ht cl List.mem_cons_self) (resetLog s) hG0
  have hf1 : (triggerEvents ρ cl.1 cl.2 (resetLog s)).fault = none := by
    rcases hN1 with h1 | ⟨_, h1⟩
    · rw [h1]; exact hf
    · exact absurd h1 hG1.2
  exact ⟨(resOf_ok _).2 hf1, c + 1, hV1, hS1, hG1, hf1, hg, fun x hx => ht x (List.mem_cons_of_mem _ hx)⟩

/-- `C01.monitor` accepts the model's own trace under the hypotheses of `C01_total`: machines of
    the validated shape, start time and call times in a window `[lo, lo + B]` (not necessarily
    monotone) with `(calls + 1) * B ≤ Duration::MAX` -/
theorem c01_monitor_model (ms : List Machine) (hok : ∀ m ∈ ms, MachineOK m) (fp fb : F64) (t0 : Int) (rng : σ)
    (h : List Call) (lo : Int) (B : Nat) (ht0 : lo ≤ t0 ∧ t0 ≤ lo + B)
    (ht : ∀ cl ∈ h, lo ≤ cl.2 ∧ cl.2 ≤ lo + B) (hg : (h.length + 1) * B ≤ durMax) :
    C01.monitor (modelTrace ρ ms fp fb t0 rng h) = none := by
  have hV0 := valid_init0 ms fp fb t0 rng hok
  have hS0 : SigOK (Fw.init0 ms fp fb t0 rng) := by intro x hx; simp [Fw.init0] at hx
  obtain ⟨hV1, hS1, hN1, _⟩ := okS_init ρ ms fp fb t0 rng hV0 hS0
  have hG1 : Good lo B 0 (Fw.init ρ ms fp fb t0 rng) := good_init ρ ms fp fb t0 rng ht0
  have hf1 : (Fw.init ρ ms fp fb t0 rng).fault = none := by
    rcases hN1 with h1 | ⟨_, h1⟩
    · rw [h1]; rfl
    · exact absurd h1 hG1.2
  rw [c01_monitor_iff]
  refine ⟨(resOf_ok _).2 hf1, ?_⟩
  refine callRecs_ok ρ h 0 _ hV1 hS1 hG1 hf1 ?_ ht
  rw [Nat.zero_add]; rw [Nat.add_mul, Nat.one_mul] at hg; exact hg

open C06 (Pending closePending stepDraws checkDrawsFrom checkDraws lookup drawInRange)

/-- the monitor's walk over a log as a fold: the pending state after the log, or the first error -/
def runDraws (ms : List Machine) : Pending → List LogEntry → Except String Pending
  | p, [] => .ok p
  | p, e :: rest =>
    match stepDraws ms p e with
    | .error err => .error err
    | .ok p' => runDraws ms p' rest

theorem checkDrawsFrom_eq (ms : List Machine) (l : List LogEntry) : ∀ p : Pending,
    checkDrawsFrom ms p l = match runDraws ms p l with
      | .error e => some e
      | .ok p' => closePending p' := by
  induction l with
  | nil => intro p; rfl
  | cons e l ih =>
    intro p
    rw [checkDrawsFrom, runDraws]
    cases stepDraws ms p e with
    | error err => rfl
    | ok p' => exact ih p'

theorem runDraws_append (ms : List Machine) (a b : List LogEntry) : ∀ (p p' : Pending),
    runDraws ms p a = .ok p' → runDraws ms p (a ++ b) = runDraws ms p' b := by
  induction a with
  | nil => intro p p' h; rw [runDraws] at h; cases h; rfl
  | cons e a ih =>
    intro p p' h
    rw [runDraws] at h
    rw [List.cons_append, runDraws]
    cases hs : stepDraws ms p e with
    | error err => rw [hs] at h; cases h
    | ok q => rw [hs] at h; exact ih q p' h

/-- nothing is owed: no draw and no sampling is awaited -/
def Closed (p : Pending) : Prop := closePending p = none

/-- a log segment the monitor walks through from any closed state, ending in a closed state -/
def Acc (ms : List Machine) (c : List LogEntry) : Prop :=
  ∀ p, Closed p → ∃ p', Closed p' ∧ runDraws ms p c = .ok p'

theorem Acc.nil (ms : List Machine) : Acc ms [] := fun p hp => ⟨p, hp, rfl⟩

theorem Acc.append {ms : List Machine} {a b : List LogEntry} (ha : Acc ms a) (hb : Acc ms b) : Acc ms (a ++ b) := by
  intro p hp
  obtain ⟨p1, hp1, h1⟩ := ha p hp
  obtain ⟨p2, hp2, h2⟩ := hb p1 hp1
  exact ⟨p2, hp2, by rw [runDraws_append ms a b p p1 h1]; exact h2⟩

/-- entries that belong to no lookup -/
def plain : LogEntry → Bool
  | .trans .. => false
  | .draw _ => false
  | .sampled .. => false
  | _ => true

theorem Acc.single (ms : List Machine) (e : LogEntry) (he : plain e = true) : Acc ms [e] := by
  intro p hp
  refine ⟨.idle, rfl, ?_⟩
  unfold Closed at hp
  cases e with
  | trans => cases he
  | draw => cases he
  | sampled => cases he
  | distRaw b => simp [runDraws, stepDraws, hp]
  | counter => simp [runDraws, stepDraws, hp]
  | limit => simp [runDraws, stepDraws, hp]

theorem Acc.trans0 (ms : List Machine) (mi ev st : Nat) (h : lookup ms mi ev st = none) : Acc ms [.trans mi ev st] := by
  intro p hp
  refine ⟨.noLookup mi ev st, rfl, ?_⟩
  unfold Closed at hp
  simp [runDraws, stepDraws, hp, h]

theorem Acc.transDraw (ms : List Machine) (mi ev st : Nat) (v : List Trans) (b : F32)
    (h : lookup ms mi ev st = some v) (hs : sampleState v b = none) : Acc ms [.trans mi ev st, .draw b] := by
  intro p hp
  refine ⟨.afterDraw mi ev st b none, rfl, ?_⟩
  unfold Closed at hp
  simp [runDraws, stepDraws, hp, h, hs]

theorem Acc.transSampled (ms : List Machine) (mi ev st : Nat) (v : List Trans) (b : F32) (next : Nat)
    (h : lookup ms mi ev st = some v) (hs : sampleState v b = some next) :
    Acc ms [.trans mi ev st, .draw b, .sampled mi ev next] := by
  intro p hp
  refine ⟨.idle, rfl, ?_⟩
  unfold Closed at hp
  simp [runDraws, stepDraws, hp, h, hs]

/-- what a state change appends to the log: a segment the monitor accepts, every draw in which came
    from the oracle; the machine list is untouched -/
def R (s t : Fw σ) : Prop :=
  t.machines = s.machines ∧ ∃ c, t.log = c ++ s.log ∧ Acc s.machines c.reverse ∧
    ∀ b, LogEntry.draw b ∈ c → ∃ g, b = (ρ.u g).1

theorem R.refl (s : Fw σ) : R ρ s s := ⟨rfl, [], rfl, Acc.nil _, fun _ h => by cases h⟩

theorem R.trans {s t u : Fw σ} (h₁ : R ρ s t) (h₂ : R ρ t u) : R ρ s u := by
  obtain ⟨hm1, c1, hl1, ha1, hd1⟩ := h₁
  obtain ⟨hm2, c2, hl2, ha2, hd2⟩ := h₂
  refine ⟨hm2.trans hm1, c2 ++ c1, by rw [hl2, hl1, List.append_assoc], ?_, ?_⟩
  · rw [List.reverse_append]
    rw [hm1] at ha2
    exact ha1.append ha2
  · intro b hb
    rcases List.mem_append.1 hb with h | h
    · exact hd2 b h
    · exact hd1 b h

theorem R.keep {s t : Fw σ} (hm : t.machines = s.machines) (hl : t.log = s.log) : R ρ s t :=
  ⟨hm, [], by simp [hl], Acc.nil _, fun _ h => by cases h⟩

theorem R.log1 {s t : Fw σ} (e : LogEntry) (he : plain e = true) (hm : t.machines = s.machines)
    (hl : t.log = e :: s.log) : R ρ s t := by
  refine ⟨hm, [e], by simp [hl], Acc.single _ e he, ?_⟩
  intro b hb
  simp only [List.mem_singleton] at hb
  subst hb
  cases he

theorem r_withFault (s : Fw σ) (f : Fault) : R ρ s (s.withFault f) := R.keep ρ (by simp) (by simp)
theorem r_modRt (s : Fw σ) (mi : Nat) (f : Runtime → Runtime) : R ρ s (s.modRt mi f) := R.keep ρ (by simp) (by simp)
theorem r_push (s : Fw σ) (e : LogEntry) (he : plain e = true) : R ρ s (s.push e) := R.log1 ρ e he rfl rfl

theorem r_distSample (d : Dist) (s : Fw σ) : R ρ s (distSample ρ d s).2 := R.log1 ρ (.distRaw _) rfl rfl rfl

theorem R.minor (mi : Nat) : LL.Minor ρ mi (R ρ) where
  refl := R.refl ρ
  trans h₁ h₂ := h₁.trans ρ h₂
  fault := r_withFault ρ
  sample := r_distSample ρ
  slots _ _ := R.keep ρ rfl rfl
  counters s g _ := r_modRt ρ s mi g

theorem r_enterState (mi : Nat) (m : Machine) (cur next : Nat) (s : Fw σ) : R ρ s (enterState ρ mi m cur next s) :=
  enterState_rel ρ (R.refl ρ) (fun h₁ h₂ => h₁.trans ρ h₂) (r_distSample ρ) mi (r_withFault ρ · _)
    (fun s _ => r_modRt ρ s mi _) (fun s _ => (r_modRt ρ s mi _).trans ρ (r_push ρ _ _ rfl)) m cur next s

theorem lookup_of {ms : List Machine} {mi ev st : Nat} {m : Machine} (hm : ms[mi]? = some m) (hne : st ≠ STATE_END) :
    lookup ms mi ev st = (m.states[st]?).bind fun s => (s.transitions[ev]?).join := by
  unfold lookup
  rw [if_neg hne, hm]
  simp only []
  cases m.states[st]? with
  | none => rfl
  | some s =>
    simp only [Option.bind_some]
    cases s.transitions[ev]? with
    | none => rfl
    | some o => cases o <;> rfl

/-- Main lemma: whatever `transition` and `update_counter` append to the log is accepted by the
    monitor's walk — every lookup whose state declares a list for the event is directly followed by a
    draw of its own, and by the sampling entry exactly when `sampleState` of that list and that draw
    selects a target. No hypothesis on the machines, the fuel or the fault state. -/
theorem c06_main (fuel : Nat) :
    (∀ mi (ev : Event) (s : Fw σ), R ρ s (transition ρ fuel mi ev s).1) ∧
    (∀ mi (s : Fw σ), R ρ s (updateCounter ρ fuel mi s).1) := by
  have h := transition_induct ρ (PT := fun _ _ _ _ => True) (PU := fun _ _ _ => True)
    (T := fun _ _ _ s s' _ => R ρ s s') (U := fun _ _ s s' _ _ => R ρ s s')
    (fun _ _ s _ => r_withFault ρ s _) (fun _ _ _ s _ _ => r_withFault ρ s _)
    ?step (fun _ s _ => r_withFault ρ s _) (fun _ _ s _ _ => r_withFault ρ s _) ?ucStep fuel
  · exact ⟨fun mi ev s => h.1 mi ev s trivial, fun mi s => h.2 mi s trivial⟩
  · intro n mi ev s r m hr hm _ s0
    have h0 : lookup s.machines mi ev.toNat r.currentState = none → R ρ s s0 := fun hlk =>
      ⟨rfl, [.trans mi ev.toNat r.currentState], rfl, Acc.trans0 _ _ _ _ hlk, fun b hb => by simp at hb⟩
    refine ⟨fun hend => h0 (by rw [lookup, if_pos hend]), fun hne => ?_⟩
    have hlk := lookup_of (ev := ev.toNat) hm hne
    refine ⟨fun hst => (h0 (by rw [hlk, hst]; rfl)).trans ρ (r_withFault ρ _ _), fun st hst => ?_⟩
    replace hlk : lookup s.machines mi ev.toNat r.currentState = (st.transitions[ev.toNat]?).join := by rw [hlk, hst]; rfl
    refine ⟨fun hv => (h0 (by rw [hlk, hv]; rfl)).trans ρ (r_withFault ρ _ _), fun hv => h0 (by rw [hlk, hv]; rfl),
      fun vec hv => ?_⟩
    replace hlk : lookup s.machines mi ev.toNat r.currentState = some vec := by rw [hlk, hv]; rfl
    intro d s1
    have hd : ∀ c : List LogEntry, (∀ e ∈ c, e = .draw d.1 ∨ ∀ b, e ≠ .draw b) →
        ∀ b, LogEntry.draw b ∈ c → ∃ g, b = (ρ.u g).1 := by
      intro c hc b hb
      rcases hc _ hb with h | h
      · exact ⟨_, LogEntry.draw.inj h⟩
      · exact absurd rfl (h b)
    refine ⟨fun hss => ⟨rfl, [.draw d.1, .trans mi ev.toNat r.currentState], rfl, Acc.transDraw _ _ _ _ vec _ hlk hss,
      hd _ (by simp)⟩, fun next hss => ?_⟩
    intro s2
    have q2 : R ρ s s2 := ⟨rfl, [.sampled mi ev.toNat next, .draw d.1, .trans mi ev.toNat r.currentState], rfl,
      Acc.transSampled _ _ _ _ vec _ next hlk hss, hd _ (by simp)⟩
    refine ⟨fun _ => q2.trans ρ (r_modRt ρ _ _ _), fun _ _ => q2.trans ρ (R.keep ρ rfl rfl), fun _ _ => ?_⟩
    intro s3
    have q3 := q2.trans ρ (r_enterState ρ mi m r.currentState next s2)
    refine ⟨fun _ => q3.trans ρ (r_withFault ρ _ _), fun r1 _ => ⟨fun _ => q3.trans ρ (r_withFault ρ _ _), fun below _ => ?_⟩⟩
    intro res hU s5
    have q5 : R ρ s s5 := (q3.trans ρ (hU trivial)).trans ρ ((R.minor ρ mi).scheduleIf _ next res.1)
    exact ⟨fun _ => q5.trans ρ (r_withFault ρ _ _), fun _ _ => q5⟩
  · intro n mi s r m _ _ _
    refine ⟨fun _ => r_withFault ρ s _, fun st _ => ?_⟩
    intro ra rb s2
    have q2 : R ρ s s2 := (((R.minor ρ mi).applyCounter.1 st.counterA r.counterA r.counterB s).trans ρ
      ((R.minor ρ mi).applyCounter.2 st.counterB r.counterA r.counterB ra.1)).trans ρ (r_push ρ _ _ rfl)
    refine ⟨fun _ => q2, fun _ => ?_⟩
    intro res hT
    have q3 := q2.trans ρ (hT trivial)
    exact ⟨fun _ => q3.trans ρ (r_withFault ρ _ _), fun _ _ => q3⟩

theorem r_transition (j : Nat) (ev : Event) (s : Fw σ) : R ρ s (transition ρ FUEL j ev s).1 :=
  (c06_main ρ FUEL).1 j ev s

theorem r_decrement (j : Nat) (s : Fw σ) : R ρ s (decrementLimit ρ j s) :=
  decrementLimit_rel ρ j (fun h₁ h₂ => h₁.trans ρ h₂) (r_withFault ρ · _)
    (fun s _ => (r_modRt ρ s j _).trans ρ (r_push ρ _ _ rfl)) (fun _ _ => R.keep ρ rfl rfl)
    (r_transition ρ j .limitReached) s

theorem walkR : Walk ρ (R ρ) where
  refl := R.refl ρ
  trans := fun h₁ h₂ => R.trans ρ h₁ h₂
  transition j ev s _ := r_transition ρ j ev s
  decrement j s _ := r_decrement ρ j s
  fault s f := r_withFault ρ s f
  signal s p := R.keep ρ rfl rfl
  setG s g' := R.keep ρ rfl rfl
  acct s j f _ := r_modRt ρ s j f
  callStart s t := R.keep ρ rfl rfl

theorem r_call (es : List TEvent) (t : Int) (s : Fw σ) : R ρ s (triggerEvents ρ es t s) :=
  (walkR ρ).triggerEvents es t s

theorem r_initLimit (s : Fw σ) (mi : Nat) : R ρ s (initLimit ρ s mi) := by
  unfold initLimit
  split
  · exact r_withFault ρ s _
  · split
    · exact r_withFault ρ s _
    · split
      · exact R.refl ρ s
      · next a _ => exact (sampleLimit_rel ρ (R.refl ρ) (r_distSample ρ) a s).trans ρ (r_modRt ρ _ mi _)

theorem r_init (ms : List Machine) (fp fb : F64) (t0 : Int) (rng : σ) :
    R ρ (Fw.init0 ms fp fb t0 rng) (Fw.init ρ ms fp fb t0 rng) := by
  unfold Fw.init
  exact (walkR ρ).toWalkCore.foldl _ (fun s mi => r_initLimit ρ s mi) _ _

theorem checkDraws_of_acc (ms : List Machine) (l : List LogEntry) (h : Acc ms l) : checkDraws ms l = none := by
  unfold checkDraws
  rw [checkDrawsFrom_eq]
  obtain ⟨p', hp', hrun⟩ := h .idle rfl
  rw [hrun]
  exact hp'

/-- the log of every call of the model passes `checkDraws` — any machines, any oracle, any batch,
    any state, faulting or not -/
theorem c06_checkDraws_call (s : Fw σ) (c : Call) : checkDraws s.machines (callRec ρ s c).log = none := by
  obtain ⟨_, cl, hl, ha, _⟩ := r_call ρ c.1 c.2 (resetLog s)
  apply checkDraws_of_acc
  show Acc s.machines (triggerEvents ρ c.1 c.2 (resetLog s)).log.reverse
  rw [hl]
  simpa [resetLog] using ha

theorem c06_draws_call (s : Fw σ) (c : Call) (b : F32) (hb : LogEntry.draw b ∈ (callRec ρ s c).log) :
    ∃ g, b = (ρ.u g).1 := by
  obtain ⟨_, cl, hl, _, hd⟩ := r_call ρ c.1 c.2 (resetLog s)
  apply hd b
  have : LogEntry.draw b ∈ (triggerEvents ρ c.1 c.2 (resetLog s)).log := List.mem_reverse.1 hb
  rw [hl] at this
  simpa [resetLog] using this

theorem c06_go_bad (t : FwTrace) (i : Nat) (c : CallRec) (cs : List CallRec) (h : c.res ≠ .ok) :
    C06.fwMonitor.go t i (c :: cs) = none := by
  rw [C06.fwMonitor.go, if_pos (bne_iff_ne.2 h)]

theorem c06_go_ok (t : FwTrace) (i : Nat) (c : CallRec) (cs : List CallRec) (h : c.res = .ok)
    (h1 : checkDraws t.machines c.log = none) (h2 : ∀ b, LogEntry.draw b ∈ c.log → drawInRange b = true) :
    C06.fwMonitor.go t i (c :: cs) = C06.fwMonitor.go t (i + 1) cs := by
  rw [C06.fwMonitor.go, h, h1]
  generalize hfind : List.find? _ c.log = r
  have hr : r = none := by
    rw [← hfind, List.find?_eq_none]
    intro e he
    cases e with
    | draw b => simp [h2 b he]
    | _ => simp
  rw [hr]
  rfl

/-- the log of the construction passes `checkDraws` (it holds no lookup at all) -/
theorem c06_checkDraws_init (ms : List Machine) (fp fb : F64) (t0 : Int) (rng : σ) :
    checkDraws ms (Fw.init ρ ms fp fb t0 rng).log.reverse = none := by
  obtain ⟨_, cl, hl, ha, _⟩ := r_init ρ ms fp fb t0 rng
  apply checkDraws_of_acc
  rw [hl]
  simpa [Fw.init0] using ha

theorem c06_checkDraws_recs (ms : List Machine) (h : List Call) (s : Fw σ) (hm : s.machines = ms) :
    ∀ r ∈ callRecs ρ s h, checkDraws ms r.log = none :=
  LL.callRecs_forall ρ (fun _ s => s.machines = ms) (fun s c _ hm =>
    ⟨hm ▸ c06_checkDraws_call ρ s c, (triggerEvents_run ρ c.1 c.2 (resetLog s)).machines.trans hm⟩) h s hm

/-- every log of the model's trace passes `checkDraws` — any machines, any oracle, any history,
    faulting or not: each lookup whose state declares a list for the event is directly followed by a
    draw of its own and by the sampling entry exactly when the declared probabilities assign a target
    to that draw; no draw and no sampling occurs anywhere else -/
theorem c06_checkDraws_trace (ms : List Machine) (fp fb : F64) (t0 : Int) (rng : σ) (h : List Call) :
    checkDraws ms (modelTrace ρ ms fp fb t0 rng h).log0 = none ∧
    ∀ r ∈ (modelTrace ρ ms fp fb t0 rng h).calls, checkDraws ms r.log = none :=
  ⟨c06_checkDraws_init ρ ms fp fb t0 rng,
   c06_checkDraws_recs ρ ms h _ (machines_run (init_run ρ ms fp fb t0 rng))⟩

/-- `C06.fwMonitor` accepts the model's own trace of every history, for every oracle whose uniform
    draws are among the `2^23` values `k/2^23` (the rule on the draws and samplings needs no
    hypothesis at all: `c06_checkDraws_trace`) -/
theorem c06_monitor_model (hu : ∀ g, drawInRange (ρ.u g).1 = true) (ms : List Machine) (fp fb : F64) (t0 : Int)
    (rng : σ) (h : List Call) : C06.fwMonitor (modelTrace ρ ms fp fb t0 rng h) = none := by
  unfold C06.fwMonitor
  show (match checkDraws ms (Fw.init ρ ms fp fb t0 rng).log.reverse with
    | some e => some s!"new: {e}"
    | none => C06.fwMonitor.go (modelTrace ρ ms fp fb t0 rng h) 0 (callRecs ρ (Fw.init ρ ms fp fb t0 rng) h)) = none
  rw [c06_checkDraws_init ρ ms fp fb t0 rng]
  refine callRecs_accept ρ (go := fun i (_ : Unit) => C06.fwMonitor.go _ i) (fun _ _ s => s.machines = ms)
    (fun _ _ => by rw [C06.fwMonitor.go]) (fun i _ => c06_go_bad _ i) ?_ h 0 () _
    (machines_run (init_run ρ ms fp fb t0 rng))
  intro i _ s c _ cs hm hok
  refine ⟨(), (machines_run (triggerEvents_run ρ c.1 c.2 (resetLog s))).trans hm,
    c06_go_ok _ i _ cs ((resOf_ok _).2 hok) ?_ (fun b hb => ?_)⟩
  · rw [← hm]; exact c06_checkDraws_call ρ s c
  · obtain ⟨g, rfl⟩ := c06_draws_call ρ s c b hb
    exact hu g

end MA
end Mb
