/-
  C07, call level, the monitor's rules on the model's own log: the ghost log segment of any call
  that ends without a fault is accepted by the monitor `C07.checkLog` (Spec/C07.lean) started from
  the (state, limit) pairs of the snapshot before the call — a change of state index is directly
  followed by the assignment of a fresh limit (after the draw of the limit distribution, if any), a
  self-transition is not; every decrement lowers the tracked limit by one (not below 0) and is
  directly followed by the delivery of LimitReached to the same machine exactly when it reached 0
  in a state whose action carries a limit.

  Method (as in `CounterLog.lean`): `Good lim st c lim' st'` says that the monitor, started with the
  tracked maps `lim`/`st` in front of the chronological segment `c` followed by any continuation
  that the look-ahead of the monitor cannot confuse with a resampling or a LimitReached delivery
  (`Hb`), ends up with `lim'`/`st'` in front of the continuation. Such segments compose. `Inv` ties
  the tracked maps to the model's runtimes. The relation `R s t` ("if `t` has no fault then neither
  has `s`, and `t` extends the log of `s` by a good segment, carrying the invariant along": a `Seg`)
  is reflexive, transitive and holds for `transition` / `updateCounter` (`transition_induct`; no
  fuel potential is needed: an exhausted fuel is a fault) and for the limit decrement, hence — by
  the walker of `WalkExt.lean` — for whole calls.

  Shared with `LimitStep.lean` and `MonitorAcceptA.lean`: `Seg` (relations of this shape), `Minor`
  (what `schedule_action` and the counter updates do, proved once for every relation respecting
  it), `Wrote` (one runtime replaced, entries logged) with the case analyses of `enterState` and
  `decrementLimit`.
-/
import MbVerif.Proofs.WalkExt
import MbVerif.Proofs.Countdown
import MbVerif.Proofs.TransInduct
import MbVerif.Spec.C07

namespace Mb
namespace LL
open C07 (checkLog isRegular hasLimitAt)

abbrev LT := Nat → Option (Nat × Nat)

/-- `f` with the value at `i` replaced by `v` (the monitor's map update) -/
def upd (f : Nat → Nat) (i v : Nat) : Nat → Nat := fun j => if j == i then v else f j

theorem upd_self (f : Nat → Nat) (i v : Nat) (h : f i = v) : upd f i v = f := by
  funext j
  by_cases hj : j = i
  · subst hj; simp [upd, h]
  · simp [upd, hj]

/-- the monitor's look-ahead after a sampled state: does a limit assignment for `mi` follow -/
def followsB (mi : Nat) : List LogEntry → Bool
  | .limit m _ false :: _ => m == mi
  | .distRaw _ :: .limit m _ false :: _ => m == mi
  | _ => false

/-- the monitor's look-ahead after a decrement: does the LimitReached delivery to `mi` follow -/
def nextLR (mi : Nat) : List LogEntry → Bool
  | .trans m ev _ :: _ => m == mi && ev == Gen.EV_LimitReached
  | _ => false

theorem nextLR_iff (mi : Nat) (rest : List LogEntry) :
    nextLR mi rest = true ↔ ∃ st rest', rest = .trans mi Gen.EV_LimitReached st :: rest' := by
  constructor
  · unfold nextLR
    split
    · intro h
      rw [Bool.and_eq_true, beq_iff_eq, beq_iff_eq] at h
      exact ⟨_, _, by rw [h.1, h.2]⟩
    · intro h; cases h
  · rintro ⟨st, r, rfl⟩; simp [nextLR]

theorem followsB_iff (mi : Nat) (rest : List LogEntry) :
    followsB mi rest = true ↔
      (∃ x rest', rest = .limit mi x false :: rest') ∨ (∃ b x rest', rest = .distRaw b :: .limit mi x false :: rest') := by
  constructor
  · unfold followsB
    split
    · intro h; exact Or.inl ⟨_, _, by rw [beq_iff_eq.1 h]⟩
    · intro h; exact Or.inr ⟨_, _, _, by rw [beq_iff_eq.1 h]⟩
    · intro h; cases h
  · rintro (⟨x, r, rfl⟩ | ⟨b, x, r, rfl⟩) <;> exact beq_self_eq_true mi

section
variable (ms : List Machine) (lim st : Nat → Nat) (lt : LT)

theorem checkLog_trans (mi ev s : Nat) (rest : List LogEntry) :
    checkLog ms lim st lt (.trans mi ev s :: rest) =
      checkLog ms lim st (fun j => if j == mi then some (ev, s) else lt j) rest := rfl

theorem checkLog_draw (b : F32) (rest : List LogEntry) :
    checkLog ms lim st lt (.draw b :: rest) = checkLog ms lim st lt rest := rfl

theorem checkLog_distRaw (b : F64) (rest : List LogEntry) :
    checkLog ms lim st lt (.distRaw b :: rest) = checkLog ms lim st lt rest := rfl

theorem checkLog_counter (mi a b c d : Nat) (rest : List LogEntry) :
    checkLog ms lim st lt (.counter mi a b c d :: rest) = checkLog ms lim st lt rest := rfl

theorem checkLog_limitF (mi v : Nat) (rest : List LogEntry) :
    checkLog ms lim st lt (.limit mi v false :: rest) = checkLog ms (upd lim mi v) st lt rest := rfl

-- `nextLR` and `followsB` are the monitor's two look-ahead matches, so these hold by unfolding
theorem checkLog_limitT (mi v : Nat) (rest : List LogEntry) :
    checkLog ms lim st lt (.limit mi v true :: rest) =
      if v != (if lim mi > 0 then lim mi - 1 else 0) then some s!"machine {mi}: limit decremented from {lim mi} to {v}" else
      if (v == 0 && hasLimitAt ms mi (st mi)) && !nextLR mi rest then
        some s!"machine {mi}: limit reached 0 in state {st mi} but LimitReached was not raised"
      else if !(v == 0 && hasLimitAt ms mi (st mi)) && nextLR mi rest then some s!"machine {mi}: LimitReached raised with limit {v}"
      else checkLog ms (upd lim mi v) st lt rest := rfl

theorem checkLog_sampled (mi ev next : Nat) (rest : List LogEntry) :
    checkLog ms lim st lt (.sampled mi ev next :: rest) =
      if isRegular next then
        if next != st mi && !followsB mi rest then
          some s!"machine {mi} moved from state {st mi} to {next} but its limit was not resampled"
        else if next == st mi && followsB mi rest then
          some s!"machine {mi}: self-transition in state {st mi} refreshed the limit"
        else checkLog ms lim (upd st mi next) lt rest
      else if next == STATE_END then checkLog ms lim (upd st mi STATE_END) lt rest
      else checkLog ms lim st lt rest := rfl

/-- the result of the monitor does not depend on the (write-only) `lastTrans` map -/
theorem checkLog_lt (l : List LogEntry) :
    ∀ (lim st : Nat → Nat) (lt lt' : LT), checkLog ms lim st lt l = checkLog ms lim st lt' l := by
  induction l with
  | nil => intro _ _ _ _; rfl
  | cons e l ih =>
    intro lim st lt lt'
    cases e with
    | sampled mi ev next =>
      rw [checkLog_sampled, checkLog_sampled, ih _ _ lt lt', ih _ _ lt lt', ih _ _ lt lt']
    | limit mi v d =>
      cases d with
      | false => exact ih _ _ _ _
      | true => rw [checkLog_limitT, checkLog_limitT, ih _ _ lt lt']
    | _ => exact ih _ _ _ _

/-- "harmless behind": continuations that the monitor's look-ahead cannot take for a resampling or for a LimitReached
    delivery: they start neither with a LimitReached delivery, nor with a limit assignment, nor
    with a distribution draw followed by a limit assignment -/
def Hb : List LogEntry → Bool
  | .trans _ ev _ :: _ => ev != Gen.EV_LimitReached
  | .limit _ _ false :: _ => false
  | .distRaw _ :: .limit _ _ false :: _ => false
  | _ => true

theorem Hb_follows (mi : Nat) (l : List LogEntry) (h : Hb l = true) : followsB mi l = false := by
  cases hf : followsB mi l with
  | false => rfl
  | true => rcases (followsB_iff mi l).1 hf with ⟨x, r, rfl⟩ | ⟨b, x, r, rfl⟩ <;> cases h

theorem Hb_nextLR (mi : Nat) (l : List LogEntry) (h : Hb l = true) : nextLR mi l = false := by
  cases hf : nextLR mi l with
  | false => rfl
  | true => obtain ⟨st, r, rfl⟩ := (nextLR_iff mi l).1 hf; cases h

/-- entries the monitor skips -/
def plain : LogEntry → Bool
  | .trans _ ev _ => ev != Gen.EV_LimitReached
  | .draw _ => true
  | .distRaw _ => true
  | .counter .. => true
  | _ => false

theorem Hb_cons_plain (e : LogEntry) (he : plain e = true) (l : List LogEntry) (h : Hb l = true) :
    Hb (e :: l) = true := by
  cases e with
  | trans m ev s => exact he
  | distRaw x =>
    cases l with
    | nil => rfl
    | cons b r =>
      cases b with
      | limit m v d =>
        cases d with
        | false => cases h
        | true => rfl
      | _ => rfl
  | sampled => cases he
  | limit => cases he
  | _ => rfl

theorem Hb_cons_sampled (mi ev next : Nat) (l : List LogEntry) : Hb (.sampled mi ev next :: l) = true := rfl
theorem Hb_cons_limitT (mi v : Nat) (l : List LogEntry) : Hb (.limit mi v true :: l) = true := rfl

theorem checkLog_plain (e : LogEntry) (he : plain e = true)
    (rest : List LogEntry) : checkLog ms lim st lt (e :: rest) = checkLog ms lim st lt rest := by
  cases e with
  | trans m ev s => exact checkLog_lt ms rest _ _ _ _
  | sampled | limit => cases he
  | _ => rfl

end

/-- the monitor, started with `lim`/`st` in front of `c ++ rest`, reaches `rest` with `lim'`/`st'`
    (for every continuation `rest` with `Hb rest`), and `c ++ rest` is again such a continuation -/
structure Good (ms : List Machine) (lim st : Nat → Nat) (c : List LogEntry) (lim' st' : Nat → Nat) : Prop where
  hd : ∀ rest, Hb rest = true → Hb (c ++ rest) = true
  chk : ∀ (lt : LT) rest, Hb rest = true → checkLog ms lim st lt (c ++ rest) = checkLog ms lim' st' lt rest

theorem Good.nil (ms : List Machine) (lim st : Nat → Nat) : Good ms lim st [] lim st :=
  ⟨fun _ h => h, fun _ _ _ => rfl⟩

theorem Good.append {ms : List Machine} {l0 s0 l1 s1 l2 s2 : Nat → Nat} {c₁ c₂ : List LogEntry}
    (h₁ : Good ms l0 s0 c₁ l1 s1) (h₂ : Good ms l1 s1 c₂ l2 s2) : Good ms l0 s0 (c₁ ++ c₂) l2 s2 := by
  refine ⟨fun rest hr => ?_, fun lt rest hr => ?_⟩
  · rw [List.append_assoc]; exact h₁.hd _ (h₂.hd _ hr)
  · rw [List.append_assoc, h₁.chk lt _ (h₂.hd _ hr), h₂.chk lt _ hr]

theorem Good.single (ms : List Machine) (lim st : Nat → Nat) (e : LogEntry) (he : plain e = true) :
    Good ms lim st [e] lim st :=
  ⟨fun rest hr => Hb_cons_plain e he rest hr, fun lt rest _ => checkLog_plain ms lim st lt e he rest⟩

section
variable (ms : List Machine) (lim st : Nat → Nat)

theorem isRegular_of {next : Nat} (h1 : ¬ next = STATE_END) (h2 : ¬ next = STATE_SIGNAL) : isRegular next = true := by
  simp [isRegular, h1, h2]

theorem Good.sampledEnd (mi ev : Nat) :
    Good ms lim st [.sampled mi ev STATE_END] lim (upd st mi STATE_END) := by
  refine ⟨fun rest _ => rfl, fun lt rest _ => ?_⟩
  show checkLog ms lim st lt (.sampled mi ev STATE_END :: rest) = _
  rw [checkLog_sampled]
  have h1 : isRegular STATE_END = false := by decide
  simp [h1]

theorem Good.sampledSignal (mi ev : Nat) :
    Good ms lim st [.sampled mi ev STATE_SIGNAL] lim st := by
  refine ⟨fun rest _ => rfl, fun lt rest _ => ?_⟩
  show checkLog ms lim st lt (.sampled mi ev STATE_SIGNAL :: rest) = _
  rw [checkLog_sampled]
  have h1 : isRegular STATE_SIGNAL = false := by decide
  have h2 : (STATE_SIGNAL == STATE_END) = false := by decide
  simp [h1, h2]

theorem Good.sampledSelf (mi ev next : Nat) (hreg : isRegular next = true)
    (hcur : st mi = next) : Good ms lim st [.sampled mi ev next] lim (upd st mi next) := by
  refine ⟨fun rest _ => rfl, fun lt rest hr => ?_⟩
  show checkLog ms lim st lt (.sampled mi ev next :: rest) = _
  rw [checkLog_sampled, Hb_follows mi rest hr]
  simp [hreg, hcur]

theorem Good.resample (mi ev next v : Nat) (d : List LogEntry)
    (hd : d = [] ∨ ∃ b, d = [.distRaw b]) (hreg : isRegular next = true) (hcur : st mi ≠ next) :
    Good ms lim st (.sampled mi ev next :: d ++ [.limit mi v false]) (upd lim mi v) (upd st mi next) := by
  have h1 : (next == st mi) = false := by simpa using fun h => hcur h.symm
  refine ⟨fun rest _ => rfl, fun lt rest hr => ?_⟩
  rcases hd with rfl | ⟨b, rfl⟩
  · show checkLog ms lim st lt (.sampled mi ev next :: .limit mi v false :: rest) = _
    rw [checkLog_sampled, checkLog_limitF]
    simp [hreg, followsB, h1]
  · show checkLog ms lim st lt (.sampled mi ev next :: .distRaw b :: .limit mi v false :: rest) = _
    rw [checkLog_sampled, checkLog_distRaw, checkLog_limitF]
    simp [hreg, followsB, h1]

theorem Good.dec (mi v : Nat)
    (hv : v = if lim mi > 0 then lim mi - 1 else 0) (hnr : (v == 0 && hasLimitAt ms mi (st mi)) = false) :
    Good ms lim st [.limit mi v true] (upd lim mi v) st := by
  refine ⟨fun rest _ => rfl, fun lt rest hr => ?_⟩
  show checkLog ms lim st lt (.limit mi v true :: rest) = _
  rw [checkLog_limitT, Hb_nextLR mi rest hr, hnr, ← hv]
  simp

theorem Good.decLR (l2 s2 : Nat → Nat) (mi cur : Nat) (c : List LogEntry)
    (hv : 0 = if lim mi > 0 then lim mi - 1 else 0) (hr : hasLimitAt ms mi (st mi) = true)
    (hc : Good ms (upd lim mi 0) st c l2 s2) :
    Good ms lim st (.limit mi 0 true :: .trans mi Gen.EV_LimitReached cur :: c) l2 s2 := by
  refine ⟨fun rest _ => rfl, fun lt rest hrest => ?_⟩
  show checkLog ms lim st lt (.limit mi 0 true :: .trans mi Gen.EV_LimitReached cur :: (c ++ rest)) = _
  rw [checkLog_limitT, ← hv, hr, checkLog_trans]
  simp only [nextLR, beq_self_eq_true, Bool.and_self, Bool.not_true, Bool.and_false, Bool.false_eq_true, if_false,
    bne_self_eq_false]
  rw [checkLog_lt ms _ _ _ _ lt]
  exact hc.chk lt rest hrest

end

variable {σ : Type} (ρ : Oracle σ)

/-- the tracked maps agree with the runtimes (on the machines that exist), and the machines are
    those the monitor looks at -/
structure Inv (ms : List Machine) (lim st : Nat → Nat) (s : Fw σ) : Prop where
  ms : s.machines = ms
  rt : ∀ (j : Nat) (r : Runtime), s.rt[j]? = some r → lim j = r.stateLimit ∧ st j = r.currentState

/-- the part of a runtime the invariant depends on -/
def key (r : Runtime) : Nat × Nat := (r.stateLimit, r.currentState)

theorem Inv.congr {ms : List Machine} {lim st : Nat → Nat} {s t : Fw σ} (hm : t.machines = s.machines)
    (h : ∀ j : Nat, (t.rt[j]?).map key = (s.rt[j]?).map key) (hi : Inv ms lim st s) : Inv ms lim st t := by
  refine ⟨hm.trans hi.ms, fun j r hr => ?_⟩
  have := h j
  rw [hr] at this
  cases hs : s.rt[j]? with
  | none => rw [hs] at this; simp at this
  | some r0 =>
    rw [hs] at this
    simp only [Option.map_some, Option.some.injEq, key, Prod.mk.injEq] at this
    have hb := hi.rt j r0 hs
    rw [this.1, this.2]
    exact hb

theorem Inv.update {ms : List Machine} {lim st : Nat → Nat} {s t : Fw σ} {mi : Nat} {r' : Runtime}
    (hi : Inv ms lim st s) (hm : t.machines = s.machines) (hr' : t.rt[mi]? = some r')
    (ho : ∀ j, j ≠ mi → t.rt[j]? = s.rt[j]?) :
    Inv ms (upd lim mi r'.stateLimit) (upd st mi r'.currentState) t := by
  refine ⟨hm.trans hi.ms, fun j r hr => ?_⟩
  by_cases hj : j = mi
  · subst hj
    rw [hr'] at hr
    cases hr
    simp [upd]
  · rw [ho j hj] at hr
    have := hi.rt j r hr
    simp [upd, hj, this]

/-- `t` is `s` with the runtime of machine `mi` replaced by `r'` and the entries `c` (newest first)
    added to the log -/
structure Wrote (mi : Nat) (r' : Runtime) (c : List LogEntry) (s t : Fw σ) : Prop where
  fault : t.fault = s.fault
  machines : t.machines = s.machines
  log : t.log = c ++ s.log
  rt : t.rt[mi]? = some r'
  other : ∀ j, j ≠ mi → t.rt[j]? = s.rt[j]?

theorem Wrote.modRt {mi : Nat} {r : Runtime} {s : Fw σ} (hr : s.rt[mi]? = some r) (g : Runtime → Runtime) :
    Wrote mi (g r) [] s (s.modRt mi g) :=
  ⟨Countdown.modRt_fault_some s mi g r hr, Fw.modRt_machines s mi g, Fw.modRt_log s mi g,
    by rw [Fw.modRt_rt_self, hr]; rfl, fun j hj => Fw.modRt_rt_other s mi j g hj⟩

theorem Wrote.push {mi : Nat} {r' : Runtime} {c : List LogEntry} {s t : Fw σ} (h : Wrote mi r' c s t) (e : LogEntry) :
    Wrote mi r' (e :: c) s (t.push e) :=
  ⟨h.fault, h.machines, congrArg (e :: ·) h.log, h.rt, h.other⟩

theorem Wrote.trans {mi : Nat} {r₁ r₂ : Runtime} {c₁ c₂ : List LogEntry} {s t u : Fw σ}
    (h₁ : Wrote mi r₁ c₁ s t) (h₂ : Wrote mi r₂ c₂ t u) : Wrote mi r₂ (c₂ ++ c₁) s u :=
  ⟨h₂.fault.trans h₁.fault, h₂.machines.trans h₁.machines, by rw [h₂.log, h₁.log, List.append_assoc], h₂.rt,
    fun j hj => (h₂.other j hj).trans (h₁.other j hj)⟩

theorem Wrote.slots {mi : Nat} {r' : Runtime} {c : List LogEntry} {s t : Fw σ} (h : Wrote mi r' c s t)
    (a : List (Option TAction)) : Wrote mi r' c s { t with actions := a } :=
  ⟨h.fault, h.machines, h.log, h.rt, h.other⟩

theorem Inv.wrote {ms : List Machine} {lim st : Nat → Nat} {s t : Fw σ} {mi : Nat} {r' : Runtime} {c : List LogEntry}
    (hi : Inv ms lim st s) (h : Wrote mi r' c s t) : Inv ms (upd lim mi r'.stateLimit) (upd st mi r'.currentState) t :=
  hi.update h.machines h.rt h.other

theorem withFault_fault_ne (s : Fw σ) (f : Fault) : (s.withFault f).fault ≠ none := by
  unfold Fw.withFault
  split
  · next h => rw [h]; simp
  · simp

theorem modRt_fault (s : Fw σ) (j : Nat) (g : Runtime → Runtime) (h : (s.modRt j g).fault = none) :
    s.fault = none ∧ ∃ r, s.rt[j]? = some r := by
  unfold Fw.modRt at h
  split at h
  · next r hr => exact ⟨h, r, hr⟩
  · exact absurd h (withFault_fault_ne _ _)

/-- `t` extends the log of `s` by a chronological segment `c` with `P s t c` — if `t` has no fault, in
    which case `s` has none either (a fault is never cleared) -/
def Seg (P : Fw σ → Fw σ → List LogEntry → Prop) (s t : Fw σ) : Prop :=
  t.fault = none → s.fault = none ∧ ∃ c, t.log = c.reverse ++ s.log ∧ P s t c

theorem Seg.refl {P : Fw σ → Fw σ → List LogEntry → Prop} {s : Fw σ} (h : P s s []) : Seg P s s :=
  fun hf => ⟨hf, [], rfl, h⟩

theorem Seg.trans {P Q PQ : Fw σ → Fw σ → List LogEntry → Prop} {s t u : Fw σ}
    (h : ∀ c₁ c₂, P s t c₁ → Q t u c₂ → PQ s u (c₁ ++ c₂)) (h₁ : Seg P s t) (h₂ : Seg Q t u) : Seg PQ s u := by
  intro hu
  obtain ⟨ht, c2, e2, p2⟩ := h₂ hu
  obtain ⟨hs, c1, e1, p1⟩ := h₁ ht
  exact ⟨hs, c1 ++ c2, by rw [e2, e1, List.reverse_append, List.append_assoc], h c1 c2 p1 p2⟩

/-- the segment is accepted by the monitor starting from any maps that agree with `s`, ending with
    maps that agree with `t` -/
def R (ms : List Machine) : Fw σ → Fw σ → Prop :=
  Seg fun s t c => ∀ lim st, Inv ms lim st s → ∃ lim' st', Good ms lim st c lim' st' ∧ Inv ms lim' st' t

variable {ms : List Machine}

theorem R.refl (s : Fw σ) : R ms s s := Seg.refl fun lim st hi => ⟨lim, st, Good.nil ms lim st, hi⟩

theorem R.trans {s t u : Fw σ} (h₁ : R ms s t) (h₂ : R ms t u) : R ms s u := by
  refine Seg.trans (fun c1 c2 p1 p2 lim st hi => ?_) h₁ h₂
  obtain ⟨l1, s1, g1, i1⟩ := p1 lim st hi
  obtain ⟨l2, s2, g2, i2⟩ := p2 l1 s1 i1
  exact ⟨l2, s2, g1.append g2, i2⟩

theorem R.vac {s t : Fw σ} (h : t.fault ≠ none) : R ms s t := fun ht => absurd ht h

theorem R.withFault (s : Fw σ) (f : Fault) : R ms s (s.withFault f) := R.vac (withFault_fault_ne s f)

theorem R.fault {s s' : Fw σ} (f : Fault) : R ms s (s'.withFault f) := R.vac (withFault_fault_ne s' f)

theorem R.keep {s t : Fw σ} (hf : t.fault = none → s.fault = none) (hl : t.log = s.log)
    (hm : t.machines = s.machines) (hk : ∀ j : Nat, (t.rt[j]?).map key = (s.rt[j]?).map key) : R ms s t :=
  fun ht => ⟨hf ht, [], by simp [hl], fun lim st hi => ⟨lim, st, Good.nil ms lim st, hi.congr hm hk⟩⟩

theorem R.same {s t : Fw σ} (hf : t.fault = s.fault) (hl : t.log = s.log) (hm : t.machines = s.machines)
    (hrt : t.rt = s.rt) : R ms s t :=
  R.keep (fun h => by rw [← hf]; exact h) hl hm (fun j => by rw [hrt])

theorem R.modRt (s : Fw σ) (j : Nat) (g : Runtime → Runtime) (hg : ∀ r, key (g r) = key r) :
    R ms s (s.modRt j g) := by
  refine R.keep (fun h => (modRt_fault s j g h).1) (by simp) (by simp) (fun i => ?_)
  by_cases hj : i = j
  · subst hj
    rw [Fw.modRt_rt_self]
    cases s.rt[i]? <;> simp [hg]
  · rw [Fw.modRt_rt_other s j i g hj]

theorem R.log1 {s t : Fw σ} (e : LogEntry) (he : plain e = true) (hf : t.fault = s.fault) (hl : t.log = e :: s.log)
    (hm : t.machines = s.machines) (hrt : t.rt = s.rt) : R ms s t :=
  fun ht => ⟨by rw [← hf]; exact ht, [e], by simp [hl], fun lim st hi =>
    ⟨lim, st, Good.single ms lim st e he, hi.congr hm (fun j => by rw [hrt])⟩⟩

theorem R.push (s : Fw σ) (e : LogEntry) (he : plain e = true) : R ms s (s.push e) := R.log1 e he rfl rfl rfl rfl

theorem R.sample (d : Dist) (s : Fw σ) : R ms s (distSample ρ d s).2 := R.log1 (.distRaw _) rfl rfl rfl rfl rfl

/-- a relation respected by everything `schedule_action` and the counter updates of machine `mi` do:
    faults, distribution samplings, writes to the action slots, and writes to the runtime of `mi`
    that keep its state and limit -/
structure Minor (mi : Nat) (R : Fw σ → Fw σ → Prop) : Prop where
  refl : ∀ s, R s s
  trans : ∀ {s t u}, R s t → R t u → R s u
  fault : ∀ s (f : Fault), R s (s.withFault f)
  sample : ∀ d s, R s (distSample ρ d s).2
  slots : ∀ s (a : List (Option TAction)), R s { s with actions := a }
  counters : ∀ s (g : Runtime → Runtime), (∀ r, key (g r) = key r) → R s (s.modRt mi g)

namespace Minor
variable {ρ} {mi : Nat} {R : Fw σ → Fw σ → Prop} (W : Minor ρ mi R)
include W

theorem scheduleAction (next : Nat) (s : Fw σ) : R s (scheduleAction ρ mi next s) :=
  scheduleAction_rel ρ W.refl W.trans W.sample mi (W.fault · _) (fun s _ => W.slots s _) next s

theorem scheduleIf (b : Bool) (next : Nat) (s : Fw σ) : R s (if b = true then Mb.scheduleAction ρ mi next s else s) := by
  cases b
  · exact W.refl s
  · exact W.scheduleAction next s

theorem applyCounter :
    (∀ c oldA oldB (s : Fw σ), R s (applyCounterA ρ mi c oldA oldB s).1) ∧
    (∀ c oldA oldB (s : Fw σ), R s (applyCounterB ρ mi c oldA oldB s).1) :=
  applyCounter_rel ρ W.refl W.trans W.sample mi (fun s f hf => W.counters s f (fun r => by rw [hf r]; rfl))

end Minor

theorem R.minor (mi : Nat) : Minor ρ mi (R (σ := σ) ms) where
  refl := R.refl
  trans := R.trans
  fault := R.withFault
  sample := R.sample ρ
  slots _ _ := R.same rfl rfl rfl rfl
  counters s := R.modRt s mi

theorem sampleLimit_shape (a : Action) (s : Fw σ) :
    (sampleLimit ρ a s).2.rt = s.rt ∧ (sampleLimit ρ a s).2.machines = s.machines ∧
    (sampleLimit ρ a s).2.fault = s.fault ∧
    ∃ d : List LogEntry, (d = [] ∨ ∃ b, d = [.distRaw b]) ∧ (sampleLimit ρ a s).2.log = d.reverse ++ s.log := by
  unfold sampleLimit
  split
  · exact ⟨rfl, rfl, rfl, [], Or.inl rfl, rfl⟩
  · unfold distSample
    exact ⟨rfl, rfl, rfl, [.distRaw _], Or.inr ⟨_, rfl⟩, rfl⟩

/-- entering a different state: unless the target is missing (a fault), the state and a fresh limit
    `v` are written and the assignment is logged, after the draw `d` of the limit distribution -/
theorem enterState_ne {cur next : Nat} (hne : cur ≠ next) (mi : Nat) (m : Machine) {r : Runtime} {s : Fw σ}
    (hr : s.rt[mi]? = some r) :
    (enterState ρ mi m cur next s).fault ≠ none ∨ ∃ d v, (d = [] ∨ ∃ b, d = [.distRaw b]) ∧
      Wrote mi { r with currentState := next, stateLimit := v } (.limit mi v false :: d.reverse) s
        (enterState ρ mi m cur next s) := by
  have h0 := Wrote.modRt hr (fun r => { r with currentState := next })
  rcases Mb.enterState_ne ρ hne mi m s with e | ⟨s1, v, hs1, e⟩ <;> rw [e]
  · exact Or.inl (withFault_fault_ne _ _)
  · have h1 : ∃ d, (d = [] ∨ ∃ b, d = [.distRaw b]) ∧ Wrote mi { r with currentState := next } (d.reverse ++ []) s s1 := by
      rcases hs1 with rfl | ⟨a, rfl⟩
      · exact ⟨[], Or.inl rfl, h0⟩
      · obtain ⟨k1, k2, k3, d, hd, k4⟩ := sampleLimit_shape ρ a (s.modRt mi (fun r => { r with currentState := next }))
        exact ⟨d, hd, h0.trans ⟨k3, k2, k4, by rw [k1]; exact h0.rt, fun j _ => by rw [k1]⟩⟩
    obtain ⟨d, hd, h1⟩ := h1
    rw [List.append_nil] at h1
    exact Or.inr ⟨d, v, hd, h1.trans ((Wrote.modRt h1.rt (fun r => { r with stateLimit := v })).push _)⟩

theorem r_resample {s t : Fw σ} {mi ev next v : Nat} {r : Runtime} (d : List LogEntry)
    (hd : d = [] ∨ ∃ b, d = [.distRaw b])
    (hr : s.rt[mi]? = some r) (hne : r.currentState ≠ next) (hreg : isRegular next = true)
    (hW : Wrote mi { r with currentState := next, stateLimit := v } (.limit mi v false :: d.reverse)
      (s.push (.sampled mi ev next)) t) : R ms s t := by
  intro ht
  refine ⟨hW.fault.symm.trans ht, .sampled mi ev next :: d ++ [.limit mi v false], by simp [hW.log, Fw.push],
    fun lim st hi => ?_⟩
  have hcur : st mi ≠ next := by rw [(hi.rt mi r hr).2]; exact hne
  exact ⟨upd lim mi v, upd st mi next, Good.resample ms lim st mi ev next v d hd hreg hcur,
    Inv.wrote (s := s.push (.sampled mi ev next)) ⟨hi.ms, hi.rt⟩ hW⟩

theorem r_sampledEnter (mi ev next : Nat) (m : Machine) (r : Runtime) (s : Fw σ)
    (hr : s.rt[mi]? = some r) (hreg : isRegular next = true) :
    R ms s (enterState ρ mi m r.currentState next (s.push (.sampled mi ev next))) := by
  by_cases hne : r.currentState = next
  · subst hne
    rw [enterState_self]
    intro ht
    refine ⟨ht, [.sampled mi ev _], rfl, fun lim st hi => ?_⟩
    have hcur : st mi = r.currentState := (hi.rt mi r hr).2
    refine ⟨lim, upd st mi _, Good.sampledSelf ms lim st mi ev _ hreg hcur, ?_⟩
    rw [upd_self st mi _ hcur]
    exact ⟨hi.ms, hi.rt⟩
  · rcases enterState_ne ρ hne mi m (s := s.push (.sampled mi ev next)) hr with hf | ⟨d, v, hd, hW⟩
    · exact R.vac hf
    · exact r_resample d hd hr hne hreg hW

theorem r_sampledEnd (mi ev : Nat) (r : Runtime) (s : Fw σ) (hr : s.rt[mi]? = some r) :
    R ms s ((s.push (.sampled mi ev STATE_END)).modRt mi (fun r => { r with currentState := STATE_END })) := by
  have hW := Wrote.modRt (s := s.push (.sampled mi ev STATE_END)) hr (fun r => { r with currentState := STATE_END })
  intro ht
  refine ⟨hW.fault.symm.trans ht, [.sampled mi ev STATE_END], hW.log, fun lim st hi => ?_⟩
  have := Inv.wrote (s := s.push (.sampled mi ev STATE_END)) ⟨hi.ms, hi.rt⟩ hW
  rw [upd_self lim mi _ (hi.rt mi r hr).1] at this
  exact ⟨lim, _, Good.sampledEnd ms lim st mi ev, this⟩

theorem r_sampledSignal (mi ev : Nat) (s : Fw σ) : R ms s (signalFrom mi (s.push (.sampled mi ev STATE_SIGNAL))) :=
  fun ht => ⟨ht, [.sampled mi ev STATE_SIGNAL], rfl, fun lim st hi =>
    ⟨lim, st, Good.sampledSignal ms lim st mi ev, ⟨hi.ms, hi.rt⟩⟩⟩

/-- `Rel` relates `s` after the delivery entry of a transition of machine `mi` to `s'`, if `s'` has
    no fault (a missing runtime is a fault) -/
def AfterEntry (Rel : Fw σ → Fw σ → Prop) (mi : Nat) (ev : Event) (s s' : Fw σ) : Prop :=
  s'.fault = none → ∃ r, s.rt[mi]? = some r ∧ Rel (s.push (.trans mi ev.toNat r.currentState)) s'

theorem AfterEntry.ok {Rel : Fw σ → Fw σ → Prop} {mi : Nat} {ev : Event} {s t : Fw σ} {r : Runtime}
    (hr : s.rt[mi]? = some r) (q : Rel (s.push (.trans mi ev.toNat r.currentState)) t) : AfterEntry Rel mi ev s t :=
  fun _ => ⟨r, hr, q⟩

theorem AfterEntry.fault {Rel : Fw σ → Fw σ → Prop} {mi : Nat} {ev : Event} {s : Fw σ} (t : Fw σ) (f : Fault) :
    AfterEntry Rel mi ev s (t.withFault f) :=
  fun ht => absurd ht (withFault_fault_ne t f)

/-- what `transition` logs after the delivery entry, and all of what `update_counter` logs, is a
    segment the monitor accepts (an exhausted fuel or a failed lookup is a fault) -/
theorem main (fuel : Nat) :
    (∀ mi (ev : Event) (s : Fw σ), AfterEntry (R ms) mi ev s (transition ρ fuel mi ev s).1) ∧
    (∀ mi (s : Fw σ), R ms s (updateCounter ρ fuel mi s).1) := by
  have h := transition_induct ρ (PT := fun _ _ _ _ => True) (PU := fun _ _ _ => True)
    (T := fun _ mi ev s s' _ => AfterEntry (R ms) mi ev s s') (U := fun _ mi s s' _ _ => R ms s s')
    (fun _ _ s _ => AfterEntry.fault s _) (fun _ _ _ s _ _ => AfterEntry.fault s _)
    ?step (fun _ _ _ => R.fault _) (fun _ _ _ _ _ => R.fault _) ?ucStep fuel
  · exact ⟨fun mi ev s => h.1 mi ev s trivial, fun mi s => h.2 mi s trivial⟩
  · intro n mi ev s r m hr _ _ s0
    refine ⟨fun _ => .ok hr (R.refl _), fun _ => ⟨fun _ => .fault _ _, fun st _ =>
      ⟨fun _ => .fault _ _, fun _ => .ok hr (R.refl _), fun vec _ => ?_⟩⟩⟩
    intro d s1
    have q1 : R ms s0 s1 := R.log1 (.draw d.1) rfl rfl rfl rfl rfl
    have hr1 : s1.rt[mi]? = some r := hr
    refine ⟨fun _ => .ok hr q1, fun next _ => ?_⟩
    intro s2
    refine ⟨fun hE => .ok hr (q1.trans ?_), fun _ hS => .ok hr (q1.trans ?_), fun hE hS => ?_⟩
    · subst hE; exact r_sampledEnd mi ev.toNat r s1 hr1
    · subst hS; exact r_sampledSignal mi ev.toNat s1
    · intro s3
      have q3 : R ms s0 s3 := q1.trans (r_sampledEnter ρ mi ev.toNat next m r s1 hr1 (isRegular_of hE hS))
      refine ⟨fun _ => .fault _ _, fun r1 _ => ⟨fun _ => .fault _ _, fun below _ => ?_⟩⟩
      intro res hU s5
      exact ⟨fun _ => .fault _ _,
        fun r2 _ => .ok hr ((q3.trans (hU trivial)).trans ((R.minor ρ mi).scheduleIf _ next res.1))⟩
  · intro n mi s r m _ _ _
    refine ⟨fun _ => R.fault _, fun st _ => ?_⟩
    intro ra rb s2
    have q2 : R ms s s2 := (((R.minor ρ mi).applyCounter.1 st.counterA r.counterA r.counterB s).trans
      ((R.minor ρ mi).applyCounter.2 st.counterB r.counterA r.counterB ra.1)).trans (R.push _ _ rfl)
    refine ⟨fun _ => q2, fun _ => ?_⟩
    intro res hT
    refine ⟨fun _ => R.fault _, fun a _ ht => ?_⟩
    obtain ⟨r2, _, qT⟩ := hT trivial ht
    exact (q2.trans ((R.push s2 _ rfl).trans qT)) ht

/-- a transition delivered from outside (any event but LimitReached) -/
theorem r_transition (fuel j : Nat) (ev : Event) (s : Fw σ) (hev : ev ≠ .limitReached) :
    R ms s (transition ρ fuel j ev s).1 := by
  intro ht
  obtain ⟨r, _, q⟩ := (main ρ fuel).1 j ev s ht
  refine ((R.push s (.trans j ev.toNat r.currentState) ?_).trans q) ht
  exact bne_iff_ne.2 fun h => hev ((Countdown.toNat_limitReached ev).1 h)

/-- the framework after the decrement entry -/
def decremented (j : Nat) (r : Runtime) (s : Fw σ) : Fw σ :=
  (s.modRt j (fun r' => { r' with stateLimit := r.stateLimit - 1 })).push (.limit j (r.stateLimit - 1) true)

theorem Wrote.decremented {j : Nat} {r : Runtime} {s : Fw σ} (hr : s.rt[j]? = some r) :
    Wrote j { r with stateLimit := r.stateLimit - 1 } [.limit j (r.stateLimit - 1) true] s (decremented j r s) :=
  (Wrote.modRt hr (fun r' => { r' with stateLimit := r.stateLimit - 1 })).push _

/-- `decrement_limit` of a machine that exists: the decrement, then either a fault, or nothing, or
    (when the limit reached 0 in a state whose action carries a limit) the delivery of LimitReached
    with the slot cleared -/
theorem decrementLimit_cases (j : Nat) (s : Fw σ) (r : Runtime) (m : Machine) (hr : s.rt[j]? = some r)
    (hm : s.machines[j]? = some m) :
    (∃ f, decrementLimit ρ j s = (decremented j r s).withFault f) ∨
    ((r.stateLimit - 1 == 0 && hasLimitAt s.machines j r.currentState) = false ∧
      decrementLimit ρ j s = decremented j r s) ∨
    ((r.stateLimit - 1 == 0 && hasLimitAt s.machines j r.currentState) = true ∧
      decrementLimit ρ j s = (transition ρ FUEL j .limitReached
        { decremented j r s with actions := (decremented j r s).actions.set j none }).1) := by
  rw [decrementLimit_some ρ j s r m hr hm]
  unfold hasLimitAt decremented
  rw [hm]
  simp only []
  generalize (s.modRt j (fun r' => { r' with stateLimit := r.stateLimit - 1 })).push
    (.limit j (r.stateLimit - 1) true) = s1
  cases m.states[r.currentState]? with
  | none => exact Or.inl ⟨_, rfl⟩
  | some stt =>
    simp only
    cases stt.action with
    | none => exact Or.inr (Or.inl ⟨Bool.and_false _, rfl⟩)
    | some a =>
      simp only
      -- `lim = 0` of the code is `decide`, the monitor's `== 0` unfolds to it
      by_cases hc : (decide (r.stateLimit - 1 = 0) && a.hasLimit) = true
      · rw [if_pos hc]
        by_cases hlen : j ≥ s1.actions.length
        · rw [if_pos hlen]; exact Or.inl ⟨_, rfl⟩
        · rw [if_neg hlen]; exact Or.inr (Or.inr ⟨hc, rfl⟩)
      · rw [if_neg hc]
        exact Or.inr (Or.inl ⟨Bool.eq_false_iff.2 hc, rfl⟩)

theorem r_decrement (j : Nat) (s : Fw σ) : R ms s (decrementLimit ρ j s) := by
  cases hr : s.rt[j]? with
  | none => rw [decrementLimit_oob ρ j s (Or.inl hr)]; exact R.fault _
  | some r =>
  cases hm : s.machines[j]? with
  | none => rw [decrementLimit_oob ρ j s (Or.inr hm)]; exact R.fault _
  | some m =>
  have hW := Wrote.decremented hr
  have hinv : ∀ {t c} lim st, Wrote j { r with stateLimit := r.stateLimit - 1 } c s t → Inv ms lim st s →
      Inv ms (upd lim j (r.stateLimit - 1)) st t := by
    intro t c lim st hW hi
    have := hi.wrote hW
    rwa [upd_self st j _ (hi.rt j r hr).2] at this
  have hexp : ∀ lim st, Inv ms lim st s → r.stateLimit - 1 = if lim j > 0 then lim j - 1 else 0 := by
    intro lim st hi; rw [(hi.rt j r hr).1]; split <;> omega
  have hlimited : ∀ lim st, Inv ms lim st s → hasLimitAt ms j (st j) = hasLimitAt s.machines j r.currentState := by
    intro lim st hi; rw [hi.ms, (hi.rt j r hr).2]
  rcases decrementLimit_cases ρ j s r m hr hm with ⟨f, h⟩ | ⟨hc, h⟩ | ⟨hc, h⟩
  · rw [h]; exact R.fault _
  · rw [h]
    intro ht
    refine ⟨hW.fault.symm.trans ht, [.limit j (r.stateLimit - 1) true], by rw [hW.log]; rfl, fun lim st hi => ?_⟩
    exact ⟨_, st, Good.dec ms lim st j _ (hexp lim st hi) (by rw [hlimited lim st hi]; exact hc), hinv lim st hW hi⟩
  · rw [h]
    rw [Bool.and_eq_true, beq_iff_eq] at hc
    have hW' := hW.slots ((decremented j r s).actions.set j none)
    generalize ({ decremented j r s with actions := (decremented j r s).actions.set j none } : Fw σ) = s1 at hW' ⊢
    intro ht
    obtain ⟨r', hr', q⟩ := (main ρ (ms := ms) FUEL).1 j .limitReached s1 ht
    rw [hW'.rt] at hr'; cases hr'
    obtain ⟨hfT, cT, hlT, hpT⟩ := q ht
    refine ⟨hW'.fault.symm.trans hfT, .limit j 0 true :: .trans j Gen.EV_LimitReached r.currentState :: cT, ?_,
      fun lim st hi => ?_⟩
    · rw [hlT, List.reverse_cons, List.reverse_cons, List.append_assoc, List.append_assoc]
      show _ ++ _ :: s1.log = _
      rw [hW'.log, hc.1]
      rfl
    · obtain ⟨l2, s2, gT, iT⟩ := hpT (upd lim j 0) st (hc.1 ▸ hinv lim st (hW'.push _) hi)
      refine ⟨l2, s2, Good.decLR ms lim st l2 s2 j r.currentState cT (hc.1 ▸ hexp lim st hi) ?_ gT, iT⟩
      rw [hlimited lim st hi]; exact hc.2

theorem walkR : WalkEvX ρ (R (σ := σ) ms) where
  refl := R.refl
  trans := R.trans
  transition j ev s _ hev := r_transition ρ FUEL j ev s hev
  decrement j s _ := r_decrement ρ j s
  fault s f := R.withFault s f
  signal s p := R.same rfl rfl rfl rfl
  setG s g' := R.same rfl rfl rfl rfl
  acct s j f hf := R.modRt s j f (fun r => by rw [hf r]; rfl)

theorem r_callStart (s : Fw σ) (t : Int) : R ms s (s.callStart t) := by
  refine R.keep (fun h => h) rfl rfl (fun j => ?_)
  simp only [Fw.callStart, List.getElem?_map]
  cases s.rt[j]? <;> rfl

theorem r_call (es : List TEvent) (t : Int) (s : Fw σ) : R ms s (triggerEvents ρ es t s) := by
  unfold triggerEvents
  have W := walkR ρ (σ := σ) (ms := ms)
  exact (r_callStart s t).trans
    ((W.toWalkCoreX.foldl _ (fun a e => W.processEvent e a) es _).trans (W.toWalkCoreX.signalRound _))

/-- the maps the monitor starts a call with: limit and state of the snapshot before the call, 0 for
    an id without a runtime -/
def limOf (p : Snap) : Nat → Nat := fun j => match p.rts[j]? with | some r => r.limit | none => 0
def stOf (p : Snap) : Nat → Nat := fun j => match p.rts[j]? with | some r => r.state | none => 0

theorem limOf_snap (s : Fw σ) (j : Nat) (r : Runtime) (hr : s.rt[j]? = some r) :
    limOf s.snap j = r.stateLimit ∧ stOf s.snap j = r.currentState := by
  simp [limOf, stOf, Fw.snap, List.getElem?_map, hr]

theorem inv_snap (s : Fw σ) : Inv s.machines (limOf s.snap) (stOf s.snap) s :=
  ⟨rfl, fun j r hr => limOf_snap s j r hr⟩

/-- The log segment of a call that ends without a fault is accepted by `C07.checkLog`, started
    from the limits and states of the snapshot taken before the call. -/
theorem call_accepted (es : List TEvent) (t : Int) (s : Fw σ) (hok : (triggerEvents ρ es t s).fault = none)
    (l : List LogEntry) (hl : (triggerEvents ρ es t s).log = l ++ s.log) (lt : LT) :
    checkLog s.machines (limOf s.snap) (stOf s.snap) lt l.reverse = none := by
  obtain ⟨_, c, hc, hp⟩ := r_call ρ (ms := s.machines) es t s hok
  have hlc : l = c.reverse := List.append_cancel_right (hl.symm.trans hc)
  subst hlc
  rw [List.reverse_reverse]
  obtain ⟨lim', st', hg, _⟩ := hp _ _ (inv_snap s)
  have := hg.chk lt [] rfl
  rw [List.append_nil] at this
  rw [this]
  simp only [checkLog]

/-- the tracked state map after a sampled entry -/
def stAfter (st : Nat → Nat) (mi next : Nat) : Nat → Nat :=
  if isRegular next then upd st mi next else if next == STATE_END then upd st mi STATE_END else st

/-- the maps (limits, states) the monitor holds after walking a prefix -/
def after : (Nat → Nat) × (Nat → Nat) → List LogEntry → (Nat → Nat) × (Nat → Nat)
  | f, [] => f
  | f, .sampled mi _ next :: rest => after (f.1, stAfter f.2 mi next) rest
  | f, .limit mi v _ :: rest => after (upd f.1 mi v, f.2) rest
  | f, .trans .. :: rest => after f rest
  | f, .draw _ :: rest => after f rest
  | f, .distRaw _ :: rest => after f rest
  | f, .counter .. :: rest => after f rest

theorem report_eq_none {c : Prop} [Decidable c] {msg : String} {x : Option String} :
    (if c then some msg else x) = none ↔ ¬ c ∧ x = none := by
  by_cases h : c <;> simp [h]

theorem eq_of_not_and_not {a b : Bool} (h1 : ¬ (a && !b) = true) (h2 : ¬ (!a && b) = true) : b = a := by
  revert h1 h2; cases a <;> cases b <;> decide

/-- an accepted decrement: the logged value is the tracked limit minus one (0 stays 0), the
    LimitReached delivery to the machine follows directly iff the value is 0 in a state whose action
    carries a limit, and the rest is accepted with the updated limit -/
theorem checkLog_limitT_none (ms : List Machine) (lim st : Nat → Nat) (lt : LT) (mi v : Nat) (rest : List LogEntry)
    (h : checkLog ms lim st lt (.limit mi v true :: rest) = none) :
    v = (if lim mi > 0 then lim mi - 1 else 0) ∧ nextLR mi rest = (v == 0 && hasLimitAt ms mi (st mi)) ∧
    checkLog ms (upd lim mi v) st lt rest = none := by
  rw [checkLog_limitT, report_eq_none, report_eq_none, report_eq_none] at h
  exact ⟨Decidable.of_not_not fun hne => h.1 (bne_iff_ne.2 hne), eq_of_not_and_not h.2.1 h.2.2.1, h.2.2.2⟩

/-- an accepted sampled state: for a regular target, a limit assignment for the machine follows
    directly (possibly after one distribution draw) iff the target differs from the tracked state;
    the rest is accepted with the updated state -/
theorem checkLog_sampled_none (ms : List Machine) (lim st : Nat → Nat) (lt : LT) (mi ev next : Nat)
    (rest : List LogEntry) (h : checkLog ms lim st lt (.sampled mi ev next :: rest) = none) :
    (isRegular next = true → followsB mi rest = (next != st mi)) ∧
    checkLog ms lim (stAfter st mi next) lt rest = none := by
  rw [checkLog_sampled] at h
  unfold stAfter
  by_cases hreg : isRegular next = true
  · rw [if_pos hreg, report_eq_none, report_eq_none] at h
    rw [if_pos hreg]
    exact ⟨fun _ => eq_of_not_and_not h.1 (by rw [bne, Bool.not_not]; exact h.2.1), h.2.2⟩
  · rw [if_neg hreg] at h
    rw [if_neg hreg]
    refine ⟨fun h' => absurd h' hreg, ?_⟩
    split
    · next he => rwa [if_pos he] at h
    · next he => rwa [if_neg he] at h

/-- an accepted log is accepted from every split point, with the maps held there -/
theorem checkLog_split (ms : List Machine) (pre rest : List LogEntry) :
    ∀ (lim st : Nat → Nat) (lt : LT), checkLog ms lim st lt (pre ++ rest) = none →
      checkLog ms (after (lim, st) pre).1 (after (lim, st) pre).2 lt rest = none := by
  induction pre with
  | nil => intro lim st lt h; exact h
  | cons e pre ih =>
    intro lim st lt h
    cases e with
    | trans mi ev s =>
      rw [List.cons_append, checkLog_trans, checkLog_lt ms _ _ _ _ lt] at h
      exact ih lim st lt h
    | sampled mi ev next => exact ih lim _ lt (checkLog_sampled_none ms lim st lt mi ev next _ h).2
    | limit mi v d =>
      cases d with
      | false => exact ih _ st lt h
      | true => exact ih _ st lt (checkLog_limitT_none ms lim st lt mi v _ h).2.2
    | _ => exact ih lim st lt h

end LL
end Mb
