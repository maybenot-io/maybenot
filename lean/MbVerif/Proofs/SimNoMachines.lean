/-
  A framework without machines: no actions, no random draws, whatever events it is fed.
-/
import MbVerif.Proofs.SimNet
import MbVerif.Proofs.SimWalk

namespace Mb.Sim
open Mb

section
variable {σ : Type} (ρ : Oracle σ)

/-- the part of a framework state that matters to the simulator when there are no machines: no
    runtimes, and nothing left over that the next call would hand out or act on — `actionsOut` reads
    `actions`, and a pending signal would start a signal round -/
def Quiet (s : Fw σ) : Prop := s.rt = [] ∧ s.actions = [] ∧ s.signalPending = none

@[simp] theorem withFault_rt (s : Fw σ) (f : Fault) : (s.withFault f).rt = s.rt := by
  unfold Fw.withFault; split <;> rfl
@[simp] theorem withFault_actions (s : Fw σ) (f : Fault) : (s.withFault f).actions = s.actions := by
  unfold Fw.withFault; split <;> rfl
@[simp] theorem withFault_signal (s : Fw σ) (f : Fault) : (s.withFault f).signalPending = s.signalPending := by
  unfold Fw.withFault; split <;> rfl
@[simp] theorem withFault_rng (s : Fw σ) (f : Fault) : (s.withFault f).rng = s.rng := by
  unfold Fw.withFault; split <;> rfl

theorem processEvent_quiet (e : TEvent) (s : Fw σ) (h : Quiet s) :
    Quiet (processEvent ρ e s) ∧ (processEvent ρ e s).rng = s.rng := by
  obtain ⟨hrt, hact, hsig⟩ := h
  cases e with
  | normalRecv => simp [processEvent, transitionAll, hrt, Quiet, hact, hsig]
  | paddingRecv => simp [processEvent, transitionAll, hrt, Quiet, hact, hsig]
  | tunnelRecv => simp [processEvent, transitionAll, hrt, Quiet, hact, hsig]
  | tunnelSent => simp [processEvent, transitionAll, hrt, Quiet, hact, hsig]
  | normalSent => simp [processEvent, hrt, Quiet, hact, hsig]
  | paddingSent m => simp [processEvent, hrt, Quiet, hact, hsig]
  | blockingBegin m =>
    simp only [processEvent]
    split <;> simp [hrt, Quiet, hact, hsig]
  | blockingEnd =>
    simp only [processEvent]
    by_cases ha : s.g.blockingActive = true
    · by_cases ho : s.g.blockingDur + durSince s.g.now s.g.blockingStarted > durMax
      · simp [ha, ho, hrt, Quiet, hact, hsig]
      · simp [ha, ho, hrt, Quiet, hact, hsig]
    · simp [ha, hrt, Quiet, hact, hsig]
  | timerBegin m => simp [processEvent, hrt, Quiet, hact, hsig]
  | timerEnd m => simp [processEvent, hrt, Quiet, hact, hsig]

theorem foldl_processEvent_quiet : ∀ (es : List TEvent) (s : Fw σ), Quiet s →
    Quiet (es.foldl (fun s e => processEvent ρ e s) s) ∧ (es.foldl (fun s e => processEvent ρ e s) s).rng = s.rng := by
  intro es
  induction es with
  | nil => intro s h; exact ⟨h, rfl⟩
  | cons e es ih =>
    intro s h
    have h1 := processEvent_quiet ρ e s h
    have h2 := ih _ h1.1
    simp only [List.foldl_cons]
    exact ⟨h2.1, by rw [h2.2, h1.2]⟩

/-- No machines ⇒ no actions and no draws, for every batch of events and every clock value -/
theorem triggerEvents_quiet (es : List TEvent) (t : Int) (s : Fw σ) (h : Quiet s) :
    Quiet (triggerEvents ρ es t s) ∧ (triggerEvents ρ es t s).rng = s.rng ∧ (triggerEvents ρ es t s).actionsOut = [] := by
  obtain ⟨hrt, hact, hsig⟩ := h
  unfold triggerEvents
  have hq : Quiet (s.callStart t) := by
    simp [Quiet, Fw.callStart, hrt, hact, hsig]
  have hr : (s.callStart t).rng = s.rng := by simp [Fw.callStart]
  have h1 := foldl_processEvent_quiet ρ es _ hq
  have hsr : ∀ x : Fw σ, Quiet x → signalRound ρ x = x := by
    intro x hx
    unfold signalRound
    simp [hx.2.2]
  rw [hsr _ h1.1]
  refine ⟨h1.1, by rw [h1.2, hr], ?_⟩
  unfold Fw.actionsOut
  rw [h1.1.2.1]
  rfl

theorem init_quiet (fp fb : F64) (t0 : Int) (orc : σ) :
    Quiet (Fw.init ρ [] fp fb t0 orc) ∧ (Fw.init ρ [] fp fb t0 orc).rng = orc := by
  simp [Fw.init, Fw.init0, Quiet]

/-- with no machines on the event's side, `trigger_update` returns no actions and changes
    nothing the scheduler looks at: queue, network, oracle, slots, timers and blocking -/
theorem triggerUpdate_quiet {st st' : St σ} {next : SimEvent} {acts : List TAction}
    (hq : Quiet (st.side next.client).fw) (h : triggerUpdate ρ st next = .ok (acts, st')) :
    acts = [] ∧ st'.sq = st.sq ∧ st'.orc = st.orc ∧ st'.net = st.net ∧
    (st'.side next.client).schedAction = (st.side next.client).schedAction ∧
    (st'.side next.client).schedTimer = (st.side next.client).schedTimer ∧
    (st'.side next.client).blockingUntil = (st.side next.client).blockingUntil ∧
    Quiet (st'.side next.client).fw := by
  obtain ⟨hq1, hrng, hact⟩ := triggerEvents_quiet ρ [next.event] st.now
    { (st.side next.client).fw with rng := st.orc, log := [] } hq
  obtain ⟨-, rfl, sd, sq, h5, rfl⟩ := (triggerUpdate_ok_iff ρ).1 h
  rw [show trigFw ρ st next = _ from rfl, hact] at h5 ⊢
  cases h5
  have hside : ∀ x : Side σ, ({ st.setSide next.client x with sq := st.sq, orc := (trigFw ρ st next).rng } : St σ).side
      next.client = x := fun x => by cases next.client <;> rfl
  rw [hside]
  exact ⟨rfl, rfl, hrng, setSide_net _ _ _, rfl, rfl, rfl, hq1⟩

end
end Mb.Sim
