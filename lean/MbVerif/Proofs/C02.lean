/-
  C02: padding budgets — gate consequence, counting lemmas.
-/
import MbVerif.Proofs.Accounting
import MbVerif.Proofs.C04
import MbVerif.Spec.C02

namespace Mb
variable {σ : Type} (ρ : Oracle σ)

/-- "fraction below the limit" as the code computes it: double division and comparison;
    limit not set (not > 0) or zero packets count as below -/
def belowF (p tot : Nat) (f : F64) : Bool :=
  !(Fp.gt (Fp.val64 f) (.fin 0) && decide (tot > 0) &&
    Fp.ge (Fp.div Fp.f64 (Fp.ofNat Fp.f64 p) (Fp.ofNat Fp.f64 tot)) (Fp.val64 f))

/-- the budget / fraction part of the padding limit predicate -/
def padOKF (allowed : Nat) (mfrac gfrac : F64) (padM normalM padAll normalG : Nat) : Prop :=
  padM < allowed ∨ (belowF padM (normalM + padM) mfrac = true ∧ belowF padAll (padAll + normalG) gfrac = true)

def QPad (g : Globals) (a : RtAcct) (m : Machine) (act : TAction) : Prop :=
  match act with
  | .sendPadding _ _ _ _ =>
    padOKF m.allowedPaddingPackets m.maxPaddingFrac g.maxPaddingFrac a.paddingSent a.normalSent g.paddingSent g.normalSent
  | _ => True

/-- peeling one test off a chain of early exits: the exit was not taken -/
theorem of_ite_ne {α : Type} {c : Bool} {a x y : α} (ha : a ≠ y) (h : (if c = true then a else x) = y) :
    (!c) = true ∧ x = y := by
  cases c
  · exact ⟨rfl, h⟩
  · exact absurd h ha

theorem belowLimitPadding_true (g : Globals) (r : Runtime) (m : Machine) (h : belowLimitPadding g r m = true) :
    padOKF m.allowedPaddingPackets m.maxPaddingFrac g.maxPaddingFrac r.acct.paddingSent r.acct.normalSent
      g.paddingSent g.normalSent := by
  by_cases h1 : r.acct.paddingSent < m.allowedPaddingPackets
  · exact Or.inl h1
  · rw [belowLimitPadding, if_neg h1] at h
    obtain ⟨hm, h⟩ := of_ite_ne Bool.false_ne_true h
    exact Or.inr ⟨hm, (of_ite_ne Bool.false_ne_true h).1⟩

theorem gateConseq_QPad : GateConseq QPad := by
  intro g m r₁ st act mi tmo dur hst hact hb
  cases act with
  | sendPadding b rp tmo' lim =>
    unfold belowActionLimits at hb
    rw [hst] at hb
    simp only [hact] at hb
    exact belowLimitPadding_true g r₁ m (by simpa using hb)
  | _ => trivial

/-- An action returned by a single-event call sits in the slot of its machine and was gated (`Q`)
    on the accounting state that includes the event; that state is the pure accounting function
    of the report. -/
theorem single_event_gated {Q : Globals → RtAcct → Machine → TAction → Prop} (hQ : GateConseq Q)
    {ms : List Machine} {s : Fw σ} (hm : s.machines = ms) (hI : Inv04 s) (e : TEvent) (t : Int) {a : TAction}
    (ha : a ∈ (triggerEvents ρ [e] t s).actionsOut) :
    ∃ m acc, ms[a.machine]? = some m ∧ (Acct.call [e] t (Acct.ofFw s)).2[a.machine]? = some acc ∧
      Q (Acct.call [e] t (Acct.ofFw s)).1 acc m a := by
  have hrun := triggerEvents_run ρ [e] t s
  obtain ⟨m, r, hmm, hr, hq⟩ := triggerEvents_single_slotInv ρ hQ e t s _ a ((hI.run hrun).slot_of_mem ha)
  rw [← triggerEvents_acct ρ]
  exact ⟨m, r.acct, by rw [← hm, ← hrun.machines]; exact hmm, by simp [Acct.ofFw, hr], hq⟩

/-- ... after any history of an instance -/
theorem single_call_gated {Q : Globals → RtAcct → Machine → TAction → Prop} (hQ : GateConseq Q)
    (ms : List Machine) (fp fb : F64) (t0 : Int) (rng : σ) (h : List Call) (e : TEvent) (t : Int) {a : TAction}
    (hmem : a ∈ (triggerEvents ρ [e] t (runCalls ρ (Fw.init ρ ms fp fb t0 rng) h)).actionsOut) :
    ∃ m acc, ms[a.machine]? = some m ∧
      (Acct.call [e] t (Acct.history h (Acct.ofFw (Fw.init0 ms fp fb t0 rng)))).2[a.machine]? = some acc ∧
      Q (Acct.call [e] t (Acct.history h (Acct.ofFw (Fw.init0 ms fp fb t0 rng)))).1 acc m a := by
  have hrun := (init_run ρ ms fp fb t0 rng).trans (runCalls_run ρ _ h)
  rw [← init_acct ρ, ← runCalls_acct ρ]
  exact single_event_gated ρ hQ hrun.machines ((Inv04.init0 ms fp fb t0 rng).run hrun) e t hmem

def events (h : List Call) : List TEvent := h.flatMap (·.1)

/-- `p` is `p0` after accounting for exactly the events `evs` (packet counters only) -/
structure CntRel (evs : List TEvent) (p0 p : Globals × List RtAcct) : Prop where
  padAll : p.1.paddingSent = p0.1.paddingSent + C02.countPadAll evs
  normal : p.1.normalSent = p0.1.normalSent + C02.countNormal evs
  frac : p.1.maxPaddingFrac = p0.1.maxPaddingFrac
  len : p.2.length = p0.2.length
  at_ : ∀ i a, p0.2[i]? = some a → ∃ a', p.2[i]? = some a' ∧
    a'.paddingSent = a.paddingSent + C02.countPad i evs ∧ a'.normalSent = a.normalSent + C02.countNormal evs

theorem CntRel.refl (p : Globals × List RtAcct) : CntRel [] p p :=
  ⟨rfl, rfl, rfl, rfl, fun _ a h => ⟨a, h, rfl, rfl⟩⟩

theorem CntRel.trans {e1 e2 : List TEvent} {p0 p1 p2 : Globals × List RtAcct}
    (h1 : CntRel e1 p0 p1) (h2 : CntRel e2 p1 p2) : CntRel (e1 ++ e2) p0 p2 := by
  refine ⟨?_, ?_, h2.frac.trans h1.frac, h2.len.trans h1.len, fun i a ha => ?_⟩
  · simp only [h2.padAll, h1.padAll, C02.countPadAll, List.countP_append, Nat.add_assoc]
  · simp only [h2.normal, h1.normal, C02.countNormal, List.countP_append, Nat.add_assoc]
  · obtain ⟨a1, ha1, hp1, hn1⟩ := h1.at_ i a ha
    obtain ⟨a2, ha2, hp2, hn2⟩ := h2.at_ i a1 ha1
    exact ⟨a2, ha2, by simp only [hp2, hp1, C02.countPad, List.countP_append, Nat.add_assoc],
      by simp only [hn2, hn1, C02.countNormal, List.countP_append, Nat.add_assoc]⟩

theorem gEvent_counts (e : TEvent) (g : Globals) :
    (Acct.gEvent e g).paddingSent = g.paddingSent + C02.countPadAll [e] ∧
    (Acct.gEvent e g).normalSent = g.normalSent + C02.countNormal [e] ∧
    (Acct.gEvent e g).maxPaddingFrac = g.maxPaddingFrac := by
  cases e with
  | blockingBegin _ | blockingEnd => simp only [Acct.gEvent]; split <;> exact ⟨rfl, rfl, rfl⟩
  | _ => exact ⟨rfl, rfl, rfl⟩

theorem rEvent_counts (e : TEvent) (g : Globals) (i : Nat) (a : RtAcct) :
    (Acct.rEvent e g i a).paddingSent = a.paddingSent + C02.countPad i [e] ∧
    (Acct.rEvent e g i a).normalSent = a.normalSent + C02.countNormal [e] := by
  cases e with
  | paddingSent m => by_cases hm : m = i <;> simp [Acct.rEvent, C02.countPad, C02.countNormal, hm]
  | blockingEnd => simp only [Acct.rEvent]; repeat' split
                   all_goals exact ⟨rfl, rfl⟩
  | _ => exact ⟨rfl, rfl⟩

theorem CntRel.event (e : TEvent) (p : Globals × List RtAcct) : CntRel [e] p (Acct.event e p) := by
  obtain ⟨h1, h2, h3⟩ := gEvent_counts e p.1
  refine ⟨h1, h2, h3, List.length_mapIdx, fun i a ha => ?_⟩
  exact ⟨Acct.rEvent e p.1 i a, by simp [Acct.event, List.getElem?_mapIdx, ha], rEvent_counts e p.1 i a⟩

theorem CntRel.setNow (t : Int) (p : Globals × List RtAcct) : CntRel [] p ({ p.1 with now := t }, p.2) :=
  ⟨rfl, rfl, rfl, rfl, fun _ a h => ⟨a, h, rfl, rfl⟩⟩

theorem CntRel.foldEvents (es : List TEvent) (p : Globals × List RtAcct) :
    CntRel es p (es.foldl (fun p e => Acct.event e p) p) := by
  induction es generalizing p with
  | nil => exact CntRel.refl p
  | cons e es ih =>
    have := (CntRel.event e p).trans (ih (Acct.event e p))
    simpa using this

theorem CntRel.call (es : List TEvent) (t : Int) (p : Globals × List RtAcct) : CntRel es p (Acct.call es t p) := by
  have := (CntRel.setNow t p).trans (CntRel.foldEvents es _)
  simpa [Acct.call] using this

theorem CntRel.history (h : List Call) (p : Globals × List RtAcct) : CntRel (events h) p (Acct.history h p) := by
  induction h generalizing p with
  | nil => exact CntRel.refl p
  | cons c h ih =>
    have := (CntRel.call c.1 c.2 p).trans (ih (Acct.call c.1 c.2 p))
    simpa [events, Acct.history] using this

end Mb
