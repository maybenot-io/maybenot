/-
  C14: from the counts of the stream of an exact run (`sim_exact_counts`) to the property as the
  monitor states it (`C14.holds`): sorted lists of observed times against sorted lists of
  expected times.
-/
import MbVerif.Proofs.SimExact
import MbVerif.Proofs.SimMatch
import MbVerif.Spec.C14

namespace Mb.Sim
open Mb Mb.SimSpec

theorem perm_of_counts {A B : List Int} (h : ∀ p : Int → Bool, A.countP p = B.countP p) : A.Perm B := by
  rw [List.perm_iff_count]
  intro a
  exact h (· == a)

theorem asc_eq_of_perm {A B : List Int} (hA : A.Pairwise (· ≤ ·)) (hB : B.Pairwise (· ≤ ·)) (h : A.Perm B) : A = B :=
  List.Perm.eq_of_pairwise (le := (· ≤ ·)) (fun a b _ _ h1 h2 => by omega) hA hB h

theorem sortInts_perm (l : List Int) : (sortInts l).Perm l :=
  perm_of_counts (fun p => sortInts_countP p l)

theorem sortInts_of_counts {A B : List Int} (h : ∀ p : Int → Bool, A.countP p = B.countP p) :
    sortInts A = sortInts B :=
  asc_eq_of_perm (sortInts_asc A) (sortInts_asc B)
    ((sortInts_perm A).trans ((perm_of_counts h).trans (sortInts_perm B).symm))

theorem sortInts_map_add (d : Int) (l : List Int) : sortInts (l.map (· + d)) = (sortInts l).map (· + d) := by
  apply asc_eq_of_perm (sortInts_asc _)
  · rw [List.pairwise_map]
    exact (sortInts_asc l).imp (by intro a b hab; omega)
  · exact (sortInts_perm _).trans ((sortInts_perm l).map (· + d)).symm

theorem foldl_min_spec : ∀ (r : List Int) (x m : Int), m ∈ x :: r → (∀ y ∈ x :: r, m ≤ y) → r.foldl min x = m := by
  intro r
  induction r with
  | nil =>
    intro x m hm _
    simp only [List.mem_singleton] at hm
    simp [hm]
  | cons z r ih =>
    intro x m hm hall
    simp only [List.foldl_cons]
    apply ih
    · simp only [List.mem_cons] at hm ⊢
      have hx := hall x (by simp)
      have hz := hall z (by simp)
      rcases hm with hm | hm | hm
      · left; omega
      · left; omega
      · right; exact hm
    · intro y hy
      simp only [List.mem_cons] at hy
      rcases hy with hy | hy
      · have hx := hall x (by simp)
        have hz := hall z (by simp)
        omega
      · exact hall y (by simp [hy])

theorem firstBase_eq {trace : List TraceLine} {delay : Nat} {t0 : Int}
    (h : (parseTrace trace delay).firstTime = some t0) : firstBase trace delay = t0 := by
  obtain ⟨hmin, cm, rm, hrm, hrt⟩ :=
    firstTime_min (parseTrace_ord trace delay) (parseTrace_other_empty trace delay) h
  -- every line's event is not before `t0`
  have hz : tcount (fun e => decide (e.time < t0)) (parseTrace trace delay) = 0 := by
    apply tcount_zero_iff.2
    intro c qi e he
    have := hmin c qi e he
    simp; omega
  rw [parseTrace_tcount, List.countP_eq_zero] at hz
  -- `t0` is the time of a line's event
  have hmem := parseTrace_mem trace delay cm .base rm hrm
  have htimes : ∀ l : TraceLine, (nsOf delay l).time = if l.2 then (l.1 : Int) else (l.1 : Int) - delay := by
    intro l; unfold nsOf; cases l.2 <;> rfl
  unfold firstBase
  cases htr : trace with
  | nil => rw [htr] at hmem; simp at hmem
  | cons l0 ls =>
    simp only [List.map_cons]
    apply foldl_min_spec
    · simp only [List.mem_map] at hmem
      obtain ⟨l, hl, hle⟩ := hmem
      have : t0 = if l.2 then (l.1 : Int) else (l.1 : Int) - delay := by rw [← hrt, ← hle, htimes]
      rw [htr] at hl
      rw [this]
      simp only [List.mem_cons] at hl
      rcases hl with hl | hl
      · subst hl; simp
      · simp only [List.mem_cons, List.mem_map]
        right; exact ⟨l, hl, rfl⟩
    · intro y hy
      have hy' : y ∈ (trace.map (nsOf delay)).map (·.time) := by
        rw [htr]
        simp only [List.map_cons, List.mem_cons, List.mem_map, List.map_map] at hy ⊢
        rcases hy with hy | ⟨l, hl, hy⟩
        · left; rw [hy, htimes]
        · right; exact ⟨l, hl, by rw [← hy]; simp [htimes]⟩
      simp only [List.mem_map] at hy'
      obtain ⟨e, he, hey⟩ := hy'
      have := hz e (List.mem_map.2 he)
      simp at this
      omega

/-- the observed trace of a stream: kept events, on the observation time axis -/
def obsOf (a : Args) (t0 : Int) (S : List StepRec) : List SimEvent :=
  ((S.filter a.keep).map (·.ev)).map (SimEvent.shift t0)

theorem timesOf_eq (S : List StepRec) (a : Args) (t0 : Int) (c : Bool) (ev : TEvent) (B : List Int)
    (hkeep : ∀ r ∈ S, (r.ev.client == c && r.ev.event == ev) = true → a.keep r = true)
    (hcnt : ∀ p : Int → Bool, S.countP (fun r => (r.ev.client == c && r.ev.event == ev) && p r.ev.time) = B.countP p) :
    C14.timesOf (obsOf a t0 S) c ev = sortInts (B.map (· - t0)) := by
  unfold C14.timesOf obsOf
  apply sortInts_of_counts
  intro p
  rw [List.countP_map, List.countP_map, ← hcnt (p ∘ (· - t0))]
  simp only [List.countP_filter, List.countP_map]
  apply List.countP_congr
  intro r hr
  have := hkeep r hr
  cases hF : (r.ev.client == c && r.ev.event == ev)
  · simp [SimEvent.shift, Function.comp, hF]
  · simp [SimEvent.shift, Function.comp, hF, this hF]

theorem sortedByTime_of_pairwise : ∀ (l : List SimEvent), l.Pairwise (fun x y => x.time ≤ y.time) → sortedByTime l = true := by
  intro l
  induction l with
  | nil => intro _; rfl
  | cons a r ih =>
    intro h
    cases r with
    | nil => rfl
    | cons b r' =>
      have h1 := List.pairwise_cons.1 h
      simp only [sortedByTime, Bool.and_eq_true, decide_eq_true_eq]
      exact ⟨h1.1 b (by simp), ih h1.2⟩

theorem map_sub_eq_add (l : List Int) (d : Int) : l.map (· - d) = l.map (· + (-d)) := by
  apply List.map_congr_left; intro x _; omega

theorem holds_of_counts (S : List StepRec) (a : Args) (t0 : Int) (trace : List TraceLine) (delay : Nat)
    (hflag : ∀ r ∈ S, r.net = isNetwork r.ev) (hpk : ∀ r ∈ S, pktOK r.ev = true)
    (hsorted : S.Pairwise (fun x y => x.ev.time ≤ y.ev.time))
    (hcounts : ∀ c (p : Int → Bool), S.countP (fun r => tsQ c p r.ev) = (Lof trace delay c).countP p ∧
      S.countP (fun r => trQ c p r.ev) = (Lof trace delay c).countP (fun x => p (x + delay)))
    (hfb : firstBase trace delay = t0) :
    C14.holds trace delay a.onlyClientEvents (obsOf a t0 S) = true := by
  -- network events of a visible side are kept by the filters
  have hkeep : ∀ (c : Bool) (ev : TEvent), (ev = .tunnelSent ∨ ev = .tunnelRecv) → (a.onlyClientEvents = false ∨ c = true) →
      ∀ r ∈ S, (r.ev.client == c && r.ev.event == ev) = true → a.keep r = true := by
    intro c ev hev hvis r hr hF
    simp only [Bool.and_eq_true, beq_iff_eq] at hF
    have hn : r.net = true := by
      rw [hflag r hr]
      unfold isNetwork
      rcases hev with hev | hev <;> simp [hF.2, hev]
    unfold Args.keep keep
    rw [hn, hF.1]
    rcases hvis with hvis | hvis <;> simp [hvis]
  have hTS : ∀ (c : Bool), (a.onlyClientEvents = false ∨ c = true) →
      C14.timesOf (obsOf a t0 S) c .tunnelSent = sortInts ((Lof trace delay c).map (· - t0)) := by
    intro c hvis
    apply timesOf_eq S a t0 c .tunnelSent _ (hkeep c _ (Or.inl rfl) hvis)
    intro p
    exact (hcounts c p).1
  have hTR : ∀ (c : Bool), (a.onlyClientEvents = false ∨ c = true) →
      C14.timesOf (obsOf a t0 S) c .tunnelRecv = sortInts (((Lof trace delay (!c)).map (· + (delay : Int))).map (· - t0)) := by
    intro c hvis
    apply timesOf_eq S a t0 c .tunnelRecv _ (hkeep c _ (Or.inr rfl) hvis)
    intro p
    rw [List.countP_map]
    refine Eq.trans ?_ (hcounts (!c) p).2
    apply List.countP_congr
    intro r _
    simp [trQ]
  have hS : C14.expSent trace delay = sortInts ((sTimes trace).map (· - t0)) := by
    unfold C14.expSent sTimes; rw [hfb, List.map_map]; rfl
  have hR : C14.expRecv trace delay = sortInts ((rTimes trace).map (· - t0)) := by
    unfold C14.expRecv rTimes; rw [hfb, List.map_map]; rfl
  have hLt : Lof trace delay true = sTimes trace := rfl
  have hLf : Lof trace delay false = (rTimes trace).map (· - (delay : Int)) := rfl
  unfold C14.holds
  simp only [Bool.and_eq_true, Bool.or_eq_true, beq_iff_eq]
  refine ⟨⟨⟨⟨?_, ?_⟩, ?_⟩, ?_⟩, ?_⟩
  · rw [onlyPackets_eq, List.all_eq_true]
    intro e he
    obtain ⟨e1, he1, rfl⟩ := List.mem_map.1 he
    obtain ⟨r, hr, rfl⟩ := List.mem_map.1 he1
    exact hpk r (List.mem_filter.1 hr).1
  · rw [hTS true (Or.inr rfl), hS, hLt]
  · rw [hTR true (Or.inr rfl), hR]
    show sortInts (((Lof trace delay false).map (· + (delay : Int))).map (· - t0)) = _
    rw [hLf]
    congr 2
    rw [List.map_map]
    conv => rhs; rw [← List.map_id (rTimes trace)]
    apply List.map_congr_left; intro x _; simp
  · cases hoc : a.onlyClientEvents with
    | true => left; rfl
    | false =>
      right
      constructor
      · rw [hTS false (Or.inl hoc), hR, hLf, map_sub_eq_add (sortInts _) (delay : Int), ← sortInts_map_add]
        congr 1
        rw [List.map_map, List.map_map]
        apply List.map_congr_left; intro x _; simp; omega
      · rw [hTR false (Or.inl hoc), hS, ← sortInts_map_add]
        show sortInts (((Lof trace delay true).map (· + (delay : Int))).map (· - t0)) = _
        rw [hLt]
        congr 1
        rw [List.map_map, List.map_map]
        apply List.map_congr_left; intro x _; simp; omega
  · apply sortedByTime_of_pairwise
    unfold obsOf
    rw [List.pairwise_map, List.pairwise_map]
    have := List.Pairwise.filter a.keep hsorted
    exact this.imp (by intro x y hxy; simp [SimEvent.shift]; omega)

theorem static_of_feed (W lim : Nat) (L : List Int) (hasc : Asc L)
    (hfeed : ∀ c ∈ feedCounts ⟨W, []⟩ L, c ≤ lim) :
    ∀ t ∈ L, L.countP (fun x => decide (x ≤ t) && inWin W t x) ≤ lim := by
  intro t ht
  obtain ⟨P, R, hL⟩ := List.append_of_mem ht
  apply static_window_bound W lim L hasc ?_ t R P hL
  intro P1 y R1 hL1
  apply hfeed
  rw [feedCounts_empty W L hasc]
  exact (mem_specCounts L [] _).2 ⟨P1, y, R1, hL1, by simp⟩

/-- the window bound for both sides' send times from the bounds on the counts of the trace -/
theorem Lof_static {trace : List TraceLine} {delay lim : Nat} (hs : Asc (sTimes trace)) (hr : Asc (rTimes trace))
    (hfs : ∀ c ∈ feedCounts ⟨Gen.SIM_BOTTLENECK_WINDOW_NS, []⟩ (sTimes trace), c ≤ lim)
    (hfr : ∀ c ∈ feedCounts ⟨Gen.SIM_BOTTLENECK_WINDOW_NS, []⟩ ((rTimes trace).map (· + (-(delay : Int)))), c ≤ lim) :
    WinBound lim (Lof trace delay) := by
  intro c
  cases c
  · show ∀ t ∈ (rTimes trace).map (· - (delay : Int)), _
    rw [map_sub_eq_add]
    apply static_of_feed _ _ _ ?_ hfr
    unfold Asc
    rw [List.pairwise_map]
    exact hr.imp (by intro x y hxy; omega)
  · exact static_of_feed _ _ _ hs hfs

section
variable {σ : Type} (ρ : Oracle σ)

/-- The identity, composed (in terms of the window counts of the trace): see
    `C14_identity` in Props/C14.lean -/
theorem sim_identity (budget : Nat) (trace : List TraceLine) (delay lim : Nat) (a : Args) (orc : σ)
    (hnet : a.network = ⟨delay, none⟩) (hlim : (parseTrace trace delay).maxPps = some lim)
    (hs : Asc (sTimes trace)) (hr : Asc (rTimes trace))
    (hfs : ∀ c ∈ feedCounts ⟨Gen.SIM_BOTTLENECK_WINDOW_NS, []⟩ (sTimes trace), c ≤ lim)
    (hfr : ∀ c ∈ feedCounts ⟨Gen.SIM_BOTTLENECK_WINDOW_NS, []⟩ ((rTimes trace).map (· + (-(delay : Int)))), c ≤ lim)
    (hB : ∀ l ∈ trace, ((l.1 : Nat) : Int) + 2 * (delay : Int) ≤ durMax)
    (hstop : (simAdvanced ρ budget [] [] (parseTrace trace delay) a orc).stop = .noNormal) :
    C14.holds trace delay a.onlyClientEvents
      ((simAdvanced ρ budget [] [] (parseTrace trace delay) a orc).trace.map
        (SimEvent.shift ((parseTrace trace delay).firstTime.getD 0))) = true := by
  have hstat := Lof_static hs hr hfs hfr
  have hcounts := sim_exact_counts ρ budget trace delay lim a orc hnet hlim hB hstat hstop
  cases hi : initState ρ [] [] (parseTrace trace delay) a orc with
  | error f => simp [simAdvanced, hi] at hstop
  | ok st =>
    rw [simAdvanced_of_init ρ hi, finish_stop] at hstop
    rw [simAdvanced_of_init ρ hi, finish_stream] at hcounts
    rw [simAdvanced_of_init ρ hi]
    obtain ⟨_, _, hft⟩ := initState_xinv ρ hnet hlim (Nat.le_refl _) hB hi
    have hn := initState_nomach ρ hi
    have hall := loop_nomach ρ a (loopFuel a budget) st 0 0 hn
    have hgood := loop_stream_sorted ρ a (loopFuel a budget) st 0 0
    rw [finish_trace a _ hgood.2, hstop]
    simp only [Stop.isFault, Bool.false_eq_true, if_false]
    rw [hft]
    exact holds_of_counts _ a st.now trace delay (fun r hr => (hgood.1 r hr).2) hall hgood.2 hcounts (firstBase_eq hft)

end
end Mb.Sim
