/-
  Every state change performed by `transition` / `updateCounter` / `decrementLimit` for machine
  `mi` is a finite sequence of primitive steps (`Step mi`), each carrying the evidence the
  properties need (a sampled target comes from a transition vector of the machine; an action is
  only put in a slot when the limit predicates allowed it), so that invariants are proved per
  primitive step. Here: the steps, what they leave alone (`Frame`), and the pieces of `transition`
  (sampling, `enterState`, the counter updates, `scheduleAction`) as sequences of steps.
-/
import MbVerif.Framework
import MbVerif.Proofs.FpBasic
import MbVerif.Spec.C04

namespace Mb
variable {σ : Type}

/-- the action put into a slot by `schedule_action` for machine action `act` -/
def mkAction (act : Action) (mi tmo dur : Nat) : TAction :=
  match act with
  | .cancel t => .cancel mi t
  | .sendPadding b r _ _ => .sendPadding tmo b r mi
  | .blockOutgoing b r _ _ _ => .blockOutgoing tmo dur b r mi
  | .updateTimer r _ _ => .updateTimer dur r mi

/-- `schedule_action` with the four kinds of action treated alike: sample the timeout, then the
    duration (each a no-op for the kinds that have none), and put `mkAction` in the slot -/
theorem scheduleAction_eq {σ : Type} (ρ : Oracle σ) (mi state : Nat) (s : Fw σ) :
    scheduleAction ρ mi state s =
      match s.machines[mi]? with
      | none => s.withFault .oob
      | some m =>
      match m.states[state]? with
      | none => s.withFault .oob
      | some st =>
      if mi ≥ s.actions.length then s.withFault .oob else
      match st.action with
      | none => { s with actions := s.actions.set mi none }
      | some act =>
        let p := sampleTimeout ρ act s
        let q := sampleDuration ρ act p.2
        { q.2 with actions := q.2.actions.set mi (some (mkAction act mi p.1 q.1)) } := by
  unfold scheduleAction
  cases s.machines[mi]? with
  | none => rfl
  | some m =>
  simp only []
  cases m.states[state]? with
  | none => rfl
  | some st =>
  simp only []
  cases st.action with
  | none => rfl
  | some act => cases act <;> rfl

/-- evidence that the limit predicates allowed scheduling `act` (the action of state `next` of `m`)
    for a machine whose accounting is `acct`, under globals `g` -/
def Gate (g : Globals) (m : Machine) (acct : RtAcct) (next : Nat) (act : Action) : Prop :=
  ∃ (r₁ : Runtime) (st : State), r₁.acct = acct ∧ r₁.currentState = next ∧ m.states[next]? = some st ∧
    st.action = some act ∧ belowActionLimits g r₁ m = some true

/-- `x` is a target the machine can move to from its current state: a target listed in one of the
    transition vectors of the current state (or END) -/
def TargetOK (s : Fw σ) (mi : Nat) (x : Nat) : Prop :=
  (∃ (m : Machine) (r : Runtime) (st : State) (ev : Nat) (vec : List Trans) (t : Trans),
    s.machines[mi]? = some m ∧ s.rt[mi]? = some r ∧ m.states[r.currentState]? = some st ∧
    st.transitions[ev]? = some (some vec) ∧ t ∈ vec ∧ t.target = x) ∧ x ≠ STATE_SIGNAL

/-- primitive state changes made on behalf of machine `mi`. Only the constructors that touch the
    runtime or the slot of a machine mention `mi`; `push`, `fault`, `rng` and `signal` are the same
    for every machine, and `signal` carries no evidence of who signalled (the signal slot is
    followed separately, on the log). -/
inductive Step (mi : Nat) : Fw σ → Fw σ → Prop
  | push (s : Fw σ) (e : LogEntry) : Step mi s (s.push e)
  | fault (s : Fw σ) (f : Fault) : Step mi s (s.withFault f)
  | rng (s : Fw σ) (g : σ) : Step mi s { s with rng := g }
  | setState (s : Fw σ) (x : Nat) (h : TargetOK s mi x) :
      Step mi s (s.modRt mi (fun r => { r with currentState := x }))
  | setLimit (s : Fw σ) (l : Nat) : Step mi s (s.modRt mi (fun r => { r with stateLimit := l }))
  | setCtrA (s : Fw σ) (v : Nat) : Step mi s (s.modRt mi (fun r => { r with counterA := v }))
  | setCtrB (s : Fw σ) (v : Nat) : Step mi s (s.modRt mi (fun r => { r with counterB := v }))
  | signal (s : Fw σ) (p : Option SignalTarget) : Step mi s { s with signalPending := p }
  | zeroA (s : Fw σ) : Step mi s (s.modRt mi (fun r => { r with zeroedA := true }))
  | zeroB (s : Fw σ) : Step mi s (s.modRt mi (fun r => { r with zeroedB := true }))
  | clear (s : Fw σ) (h : mi < s.actions.length) : Step mi s { s with actions := s.actions.set mi none }
  | sched (s : Fw σ) (m : Machine) (r : Runtime) (next : Nat) (act : Action) (tmo dur : Nat)
      (hm : s.machines[mi]? = some m) (hr : s.rt[mi]? = some r) (hlen : mi < s.actions.length)
      (hg : Gate s.g m r.acct next act)
      (htimes : C04.timesOK (mkAction act mi tmo dur) = true) :
      Step mi s { s with actions := s.actions.set mi (some (mkAction act mi tmo dur)) }

inductive Reach (mi : Nat) : Fw σ → Fw σ → Prop
  | refl (s : Fw σ) : Reach mi s s
  | tail {s t u : Fw σ} : Reach mi s t → Step mi t u → Reach mi s u

theorem foldl_rel {α β : Type} {R : β → β → Prop} (refl : ∀ b, R b b)
    (trans : ∀ {a b c}, R a b → R b c → R a c) (f : β → α → β) (l : List α)
    (h : ∀ b, ∀ a ∈ l, R b (f b a)) (b : β) : R b (l.foldl f b) := by
  induction l generalizing b with
  | nil => exact refl b
  | cons a l ih =>
    exact trans (h b a (List.mem_cons_self ..)) (ih (fun b x hx => h b x (List.mem_cons_of_mem _ hx)) _)

namespace Reach

theorem trans {mi : Nat} {s t u : Fw σ} (h₁ : Reach mi s t) (h₂ : Reach mi t u) : Reach mi s u := by
  induction h₂ with
  | refl => exact h₁
  | tail _ st ih => exact Reach.tail ih st

theorem single {mi : Nat} {s t : Fw σ} (h : Step mi s t) : Reach mi s t := Reach.tail (Reach.refl s) h

theorem inv {mi : Nat} (I : Fw σ → Prop) (hstep : ∀ s t, I s → Step mi s t → I t)
    {s t : Fw σ} (h : Reach mi s t) (hs : I s) : I t := by
  induction h with
  | refl => exact hs
  | tail _ st ih => exact hstep _ _ ih st

end Reach

section
variable {σ : Type}
theorem set_getElem?_some {α : Type} (l : List α) (mi i : Nat) (x y : α) (h : (l.set mi x)[i]? = some y) :
    (i = mi ∧ y = x) ∨ (i ≠ mi ∧ l[i]? = some y) := by
  by_cases hi : i = mi
  · subst hi
    left
    rw [List.getElem?_set] at h
    split at h
    · split at h
      · exact ⟨rfl, (Option.some.inj h).symm⟩
      · simp at h
    · exact absurd rfl ‹_›
  · right
    refine ⟨hi, ?_⟩
    rw [List.getElem?_set] at h
    simpa [Ne.symm hi] using h

end

namespace Fw

@[simp] theorem push_machines (s : Fw σ) (e) : (s.push e).machines = s.machines := rfl
@[simp] theorem push_g (s : Fw σ) (e) : (s.push e).g = s.g := rfl
@[simp] theorem push_rt (s : Fw σ) (e) : (s.push e).rt = s.rt := rfl
@[simp] theorem push_actions (s : Fw σ) (e) : (s.push e).actions = s.actions := rfl
@[simp] theorem push_signal (s : Fw σ) (e) : (s.push e).signalPending = s.signalPending := rfl
@[simp] theorem push_rng (s : Fw σ) (e) : (s.push e).rng = s.rng := rfl
@[simp] theorem push_fault (s : Fw σ) (e) : (s.push e).fault = s.fault := rfl

@[simp] theorem withFault_machines (s : Fw σ) (f) : (s.withFault f).machines = s.machines := by
  unfold withFault; split <;> rfl
@[simp] theorem withFault_g (s : Fw σ) (f) : (s.withFault f).g = s.g := by
  unfold withFault; split <;> rfl
@[simp] theorem withFault_rt (s : Fw σ) (f) : (s.withFault f).rt = s.rt := by
  unfold withFault; split <;> rfl
@[simp] theorem withFault_actions (s : Fw σ) (f) : (s.withFault f).actions = s.actions := by
  unfold withFault; split <;> rfl
@[simp] theorem withFault_signal (s : Fw σ) (f) : (s.withFault f).signalPending = s.signalPending := by
  unfold withFault; split <;> rfl
@[simp] theorem withFault_rng (s : Fw σ) (f) : (s.withFault f).rng = s.rng := by
  unfold withFault; split <;> rfl
@[simp] theorem withFault_log (s : Fw σ) (f) : (s.withFault f).log = s.log := by
  unfold withFault; split <;> rfl

@[simp] theorem modRt_machines (s : Fw σ) (mi f) : (s.modRt mi f).machines = s.machines := by
  unfold modRt; split <;> simp
@[simp] theorem modRt_g (s : Fw σ) (mi f) : (s.modRt mi f).g = s.g := by
  unfold modRt; split <;> simp
@[simp] theorem modRt_actions (s : Fw σ) (mi f) : (s.modRt mi f).actions = s.actions := by
  unfold modRt; split <;> simp
@[simp] theorem modRt_signal (s : Fw σ) (mi f) : (s.modRt mi f).signalPending = s.signalPending := by
  unfold modRt; split <;> simp
@[simp] theorem modRt_rng (s : Fw σ) (mi f) : (s.modRt mi f).rng = s.rng := by
  unfold modRt; split <;> simp
@[simp] theorem modRt_log (s : Fw σ) (mi f) : (s.modRt mi f).log = s.log := by
  unfold modRt; split <;> simp

@[simp] theorem modRt_rt_length (s : Fw σ) (mi f) : (s.modRt mi f).rt.length = s.rt.length := by
  unfold modRt; split <;> simp

theorem modRt_rt_self (s : Fw σ) (mi f) : (s.modRt mi f).rt[mi]? = (s.rt[mi]?).map f := by
  unfold modRt
  split
  · next r h =>
    have hlt : mi < s.rt.length := by
      rcases Nat.lt_or_ge mi s.rt.length with h' | h'
      · exact h'
      · simp [List.getElem?_eq_none h'] at h
    have hr : s.rt[mi] = r := by
      have := List.getElem?_eq_getElem hlt
      rw [this] at h; exact Option.some.inj h
    simp [hlt, hr, h]
  · next h => simp [h]

theorem modRt_rt_other (s : Fw σ) (mi j f) (h : j ≠ mi) : (s.modRt mi f).rt[j]? = s.rt[j]? := by
  unfold modRt
  split
  · simp [Ne.symm h]
  · simp

theorem modRt_of_some (s : Fw σ) (mi f) (r) (h : s.rt[mi]? = some r) :
    s.modRt mi f = { s with rt := s.rt.set mi (f r) } := by
  unfold modRt; simp [h]

end Fw

structure RngLogOnly (s t : Fw σ) : Prop where
  machines : t.machines = s.machines
  g : t.g = s.g
  rt : t.rt = s.rt
  actions : t.actions = s.actions
  signal : t.signalPending = s.signalPending
  fault : t.fault = s.fault

theorem RngLogOnly.refl (s : Fw σ) : RngLogOnly s s := ⟨rfl, rfl, rfl, rfl, rfl, rfl⟩

theorem RngLogOnly.trans {s t u : Fw σ} (h₁ : RngLogOnly s t) (h₂ : RngLogOnly t u) : RngLogOnly s u :=
  ⟨h₂.machines.trans h₁.machines, h₂.g.trans h₁.g, h₂.rt.trans h₁.rt, h₂.actions.trans h₁.actions,
   h₂.signal.trans h₁.signal, h₂.fault.trans h₁.fault⟩

section
variable (ρ : Oracle σ) (mi : Nat)

theorem distSample_spec (d : Dist) (s : Fw σ) :
    RngLogOnly s (distSample ρ d s).2 ∧ Reach mi s (distSample ρ d s).2 := by
  unfold distSample
  refine ⟨⟨rfl, rfl, rfl, rfl, rfl, rfl⟩, ?_⟩
  exact Reach.tail (Reach.single (Step.rng s _)) (Step.push _ _)

theorem sampleTimeout_spec (a : Action) (s : Fw σ) :
    RngLogOnly s (sampleTimeout ρ a s).2 ∧ Reach mi s (sampleTimeout ρ a s).2 := by
  unfold sampleTimeout
  split
  · exact distSample_spec ρ mi _ s
  · exact distSample_spec ρ mi _ s
  · exact ⟨RngLogOnly.refl s, Reach.refl s⟩

theorem sampleDuration_spec (a : Action) (s : Fw σ) :
    RngLogOnly s (sampleDuration ρ a s).2 ∧ Reach mi s (sampleDuration ρ a s).2 := by
  unfold sampleDuration
  split
  · exact distSample_spec ρ mi _ s
  · exact distSample_spec ρ mi _ s
  · exact ⟨RngLogOnly.refl s, Reach.refl s⟩

theorem sampleLimit_spec (a : Action) (s : Fw σ) :
    RngLogOnly s (sampleLimit ρ a s).2 ∧ Reach mi s (sampleLimit ρ a s).2 := by
  unfold sampleLimit
  split
  · exact ⟨RngLogOnly.refl s, Reach.refl s⟩
  · exact distSample_spec ρ mi _ s

theorem sampleValue_spec (c : Counter) (s : Fw σ) :
    RngLogOnly s (sampleValue ρ c s).2 ∧ Reach mi s (sampleValue ρ c s).2 := by
  unfold sampleValue
  split
  · exact ⟨RngLogOnly.refl s, Reach.refl s⟩
  · exact distSample_spec ρ mi _ s

end


structure Frame (mi : Nat) (s t : Fw σ) : Prop where
  machines : t.machines = s.machines
  g : t.g = s.g
  rtLen : t.rt.length = s.rt.length
  actLen : t.actions.length = s.actions.length
  rtOther : ∀ j, j ≠ mi → t.rt[j]? = s.rt[j]?
  actOther : ∀ j, j ≠ mi → t.actions[j]? = s.actions[j]?
  acct : (t.rt[mi]?).map (·.acct) = (s.rt[mi]?).map (·.acct)

theorem Frame.refl (mi : Nat) (s : Fw σ) : Frame mi s s :=
  ⟨rfl, rfl, rfl, rfl, fun _ _ => rfl, fun _ _ => rfl, rfl⟩

theorem Frame.trans {mi : Nat} {s t u : Fw σ} (h₁ : Frame mi s t) (h₂ : Frame mi t u) : Frame mi s u :=
  ⟨h₂.machines.trans h₁.machines, h₂.g.trans h₁.g, h₂.rtLen.trans h₁.rtLen, h₂.actLen.trans h₁.actLen,
   fun j hj => (h₂.rtOther j hj).trans (h₁.rtOther j hj),
   fun j hj => (h₂.actOther j hj).trans (h₁.actOther j hj), h₂.acct.trans h₁.acct⟩

theorem frame_modRt (mi : Nat) (s : Fw σ) (f : Runtime → Runtime) (hf : ∀ r, (f r).acct = r.acct) :
    Frame mi s (s.modRt mi f) := by
  refine ⟨by simp, by simp, by simp, by simp, fun j hj => Fw.modRt_rt_other s mi j f hj, by simp, ?_⟩
  rw [Fw.modRt_rt_self]
  cases h : s.rt[mi]? <;> simp [hf]

theorem Step.frame {mi : Nat} {s t : Fw σ} (h : Step mi s t) : Frame mi s t := by
  cases h with
  | push | rng | signal => exact ⟨rfl, rfl, rfl, rfl, fun _ _ => rfl, fun _ _ => rfl, rfl⟩
  | fault => exact ⟨by simp, by simp, by simp, by simp, by simp, by simp, by simp⟩
  | setState | setLimit | setCtrA | setCtrB | zeroA | zeroB => exact frame_modRt mi s _ (fun _ => rfl)
  | clear | sched =>
    refine ⟨rfl, rfl, rfl, by simp, fun _ _ => rfl, fun j hj => ?_, rfl⟩
    simp [List.getElem?_set, Ne.symm hj]

theorem Step.slot {mi : Nat} {s t : Fw σ} (h : Step mi s t) {i : Nat} {a : TAction}
    (hia : t.actions[i]? = some (some a)) :
    s.actions[i]? = some (some a) ∨ (i = mi ∧ ∃ m r next act tmo dur, s.machines[mi]? = some m ∧
      s.rt[mi]? = some r ∧ Gate s.g m r.acct next act ∧
      C04.timesOK (mkAction act mi tmo dur) = true ∧ a = mkAction act mi tmo dur) := by
  cases h with
  | clear =>
    rcases set_getElem?_some _ _ _ _ _ hia with ⟨_, h2⟩ | ⟨_, h2⟩
    · cases h2
    · exact .inl h2
  | sched m r next act tmo dur hm hr _ hg htimes =>
    rcases set_getElem?_some _ _ _ _ _ hia with ⟨h1, h2⟩ | ⟨_, h2⟩
    · exact .inr ⟨h1, m, r, next, act, tmo, dur, hm, hr, hg, htimes, Option.some.inj h2⟩
    · exact .inl h2
  | push | rng | signal => exact .inl hia
  | fault => exact .inl (by rwa [Fw.withFault_actions] at hia)
  | setState | setLimit | setCtrA | setCtrB | zeroA | zeroB =>
    exact .inl (by rwa [Fw.modRt_actions] at hia)

theorem Reach.frame {mi : Nat} {s t : Fw σ} (h : Reach mi s t) : Frame mi s t := by
  induction h with
  | refl => exact Frame.refl mi _
  | tail _ st ih => exact ih.trans st.frame


section
variable (ρ : Oracle σ)

theorem scheduleAction_reach (mi next : Nat) (s : Fw σ) (m : Machine) (r : Runtime)
    (hm : s.machines[mi]? = some m) (hr : s.rt[mi]? = some r)
    (hgate : ∀ st act, m.states[next]? = some st → st.action = some act → Gate s.g m r.acct next act) :
    Reach mi s (scheduleAction ρ mi next s) := by
  rw [scheduleAction_eq, hm]
  simp only
  cases hst : m.states[next]? with
  | none => exact Reach.single (Step.fault s _)
  | some st =>
    simp only
    split
    · exact Reach.single (Step.fault s _)
    · next hlen =>
      cases hact : st.action with
      | none => exact Reach.single (Step.clear s (by omega))
      | some act =>
        obtain ⟨hp, hre⟩ := sampleTimeout_spec ρ mi act s
        obtain ⟨hq, hre2⟩ := sampleDuration_spec ρ mi act (sampleTimeout ρ act s).2
        have hpq := hp.trans hq
        refine Reach.tail (hre.trans hre2) (Step.sched _ m r next act _ _ (by rw [hpq.machines]; exact hm)
          (by rw [hpq.rt]; exact hr) (by rw [hpq.actions]; omega) (by rw [hpq.g]; exact hgate st act hst hact) ?_)
        cases act <;> simp [mkAction, C04.timesOK, sampleTimeout, sampleDuration, toMicros_le]

theorem scheduleAction_rt (mi next : Nat) (s : Fw σ) : (scheduleAction ρ mi next s).rt = s.rt := by
  rw [scheduleAction_eq]
  split
  · simp
  · split
    · simp
    · split
      · simp
      · split
        · rfl
        · next act _ =>
          exact ((sampleDuration_spec ρ mi act _).1.rt).trans (sampleTimeout_spec ρ mi act s).1.rt

end


theorem sampleLoop_mem (r : FV) : ∀ (sum : FV) (ts : List Trans) (x : Nat),
    sampleLoop r sum ts = some x → ∃ t ∈ ts, t.target = x := by
  intro sum ts
  induction ts generalizing sum with
  | nil => intro x h; simp [sampleLoop] at h
  | cons t ts ih =>
    intro x h
    simp only [sampleLoop] at h
    split at h
    · exact ⟨t, by simp, by simpa using h⟩
    · obtain ⟨t', ht', hx⟩ := ih _ x h
      exact ⟨t', by simp [ht'], hx⟩

theorem sampleState_mem (ts : List Trans) (r : F32) (x : Nat) (h : sampleState ts r = some x) :
    ∃ t ∈ ts, t.target = x := sampleLoop_mem _ _ _ _ h

section
variable (ρ : Oracle σ)

theorem enterState_reach (mi : Nat) (m : Machine) (cur next : Nat) (s : Fw σ)
    (ht : TargetOK s mi next) : Reach mi s (enterState ρ mi m cur next s) := by
  unfold enterState
  split
  · have h1 : Reach mi s (s.modRt mi (fun r => { r with currentState := next })) :=
      Reach.single (Step.setState s next ht)
    simp only
    split
    · exact Reach.tail h1 (Step.fault _ _)
    · split
      · next a _ =>
        obtain ⟨_, hre⟩ := sampleLimit_spec ρ mi a (s.modRt mi (fun r => { r with currentState := next }))
        exact Reach.tail (Reach.tail (h1.trans hre) (Step.setLimit _ _)) (Step.push _ _)
      · exact Reach.tail (Reach.tail h1 (Step.setLimit _ _)) (Step.push _ _)
  · exact Reach.refl s

theorem counterOperand_spec (mi : Nat) (c : Counter) (other : Nat) (s : Fw σ) :
    RngLogOnly s (counterOperand ρ c other s).2 ∧ Reach mi s (counterOperand ρ c other s).2 := by
  unfold counterOperand
  split
  · exact ⟨RngLogOnly.refl s, Reach.refl s⟩
  · exact sampleValue_spec ρ mi c s

theorem storeCounterA_reach (mi : Nat) (oldA newA : Nat) (s : Fw σ) : Reach mi s (storeCounterA mi oldA newA s).1 := by
  unfold storeCounterA
  simp only
  split
  · exact Reach.tail (Reach.single (Step.setCtrA s _)) (Step.zeroA _)
  · exact Reach.single (Step.setCtrA s _)

theorem storeCounterB_reach (mi : Nat) (oldB newB : Nat) (s : Fw σ) : Reach mi s (storeCounterB mi oldB newB s).1 := by
  unfold storeCounterB
  simp only
  split
  · exact Reach.tail (Reach.single (Step.setCtrB s _)) (Step.zeroB _)
  · exact Reach.single (Step.setCtrB s _)

theorem applyCounterA_reach (mi : Nat) (c : Option Counter) (oldA oldB : Nat) (s : Fw σ) :
    Reach mi s (applyCounterA ρ mi c oldA oldB s).1 := by
  unfold applyCounterA
  cases c with
  | none => exact Reach.refl s
  | some c => exact (counterOperand_spec ρ mi c oldB s).2.trans (storeCounterA_reach mi _ _ _)

theorem applyCounterB_reach (mi : Nat) (c : Option Counter) (oldA oldB : Nat) (s : Fw σ) :
    Reach mi s (applyCounterB ρ mi c oldA oldB s).1 := by
  unfold applyCounterB
  cases c with
  | none => exact Reach.refl s
  | some c => exact (counterOperand_spec ρ mi c oldA s).2.trans (storeCounterB_reach mi _ _ _)

end

end Mb
