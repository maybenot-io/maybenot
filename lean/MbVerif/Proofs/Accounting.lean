/-
  Refinement: the accounting fields of the framework model after a call are exactly the pure
  accounting function `Acct.call` of the reported events and time.
-/
import MbVerif.Proofs.SlotGate
import MbVerif.Spec.Accounting

namespace Mb
variable {σ : Type} (ρ : Oracle σ)

def acctAt (s : Fw σ) (i : Nat) : Option RtAcct := (s.rt[i]?).map (·.acct)

theorem acctAt_congr {s t : Fw σ} {i : Nat} (h : t.rt[i]? = s.rt[i]?) : acctAt t i = acctAt s i :=
  congrArg _ h

structure SameAcct (s t : Fw σ) : Prop where
  g : t.g = s.g
  at_ : ∀ i, acctAt t i = acctAt s i

theorem SameAcct.refl (s : Fw σ) : SameAcct s s := ⟨rfl, fun _ => rfl⟩
theorem SameAcct.trans {s t u : Fw σ} (h₁ : SameAcct s t) (h₂ : SameAcct t u) : SameAcct s u :=
  ⟨h₂.g.trans h₁.g, fun i => (h₂.at_ i).trans (h₁.at_ i)⟩

theorem SameAcct.ofFrame {mi : Nat} {s t : Fw σ} (h : Frame mi s t) : SameAcct s t := by
  refine ⟨h.g, fun i => ?_⟩
  by_cases hi : i = mi
  · subst hi; exact h.acct
  · exact acctAt_congr (h.rtOther i hi)

theorem walkSameAcct : WalkCore ρ (SameAcct (σ := σ)) where
  refl := SameAcct.refl
  trans := SameAcct.trans
  transition j ev s _ := SameAcct.ofFrame (transition_reach ρ FUEL j ev s).frame
  decrement j s _ := SameAcct.ofFrame (decrementLimit_reach ρ j s).frame
  fault s f := ⟨by simp, fun i => acctAt_congr (by simp)⟩
  signal _ _ := ⟨rfl, fun _ => rfl⟩

theorem acctAt_modRt_self (s : Fw σ) (k : Nat) (f : Runtime → Runtime) :
    acctAt (s.modRt k f) k = (s.rt[k]?).map (fun r => (f r).acct) := by
  unfold acctAt; rw [Fw.modRt_rt_self]; cases s.rt[k]? <;> rfl

theorem acctAt_modRt_other (s : Fw σ) (k i : Nat) (f : Runtime → Runtime) (h : i ≠ k) :
    acctAt (s.modRt k f) i = acctAt s i :=
  acctAt_congr (Fw.modRt_rt_other s k i f h)

/-- the accounting state as a function on indices determines `Acct.ofFw` -/
theorem ofFw_eq {s : Fw σ} {g : Globals} {as : List RtAcct} (hg : s.g = g)
    (hat : ∀ i, acctAt s i = as[i]?) : Acct.ofFw s = (g, as) := by
  unfold Acct.ofFw
  rw [hg]
  congr 1
  apply List.ext_getElem?
  intro i
  rw [List.getElem?_map]
  exact hat i

theorem acctAt_ofFw (s : Fw σ) (i : Nat) : acctAt s i = (Acct.ofFw s).2[i]? := by
  unfold acctAt Acct.ofFw; simp [List.getElem?_map]

/-- `u` is `s` with machine `k`'s accounting replaced by `f` of it -/
structure AcctBump (f : RtAcct → RtAcct) (k : Nat) (s u : Fw σ) : Prop where
  g : u.g = s.g
  self : acctAt u k = (acctAt s k).map f
  other : ∀ i, i ≠ k → acctAt u i = acctAt s i

theorem AcctBump.modRt (s : Fw σ) (k : Nat) (F : Runtime → Runtime) (f : RtAcct → RtAcct)
    (hF : ∀ r, (F r).acct = f r.acct) : AcctBump f k s (s.modRt k F) := by
  refine ⟨by simp, ?_, fun i hi => acctAt_modRt_other s k i F hi⟩
  rw [acctAt_modRt_self]; unfold acctAt
  cases s.rt[k]? <;> simp [hF]

theorem AcctBump.id (s : Fw σ) (k : Nat) : AcctBump (fun a => a) k s s :=
  ⟨rfl, by cases h : acctAt s k <;> simp, fun _ _ => rfl⟩

theorem AcctBump.sameAcct {f : RtAcct → RtAcct} {k : Nat} {s u v : Fw σ} (h : AcctBump f k s u) (h2 : SameAcct u v) :
    AcctBump f k s v :=
  ⟨h2.g.trans h.g, (h2.at_ k).trans h.self, fun i hi => (h2.at_ i).trans (h.other i hi)⟩

theorem AcctBump.ofSameAcct {f : RtAcct → RtAcct} {k : Nat} {s s' u : Fw σ} (h2 : SameAcct s s') (h : AcctBump f k s' u) :
    AcctBump f k s u :=
  ⟨h.g.trans h2.g, by rw [h.self, h2.at_ k], fun i hi => by rw [h.other i hi, h2.at_ i]⟩

theorem SameAcct.ofFw {s t : Fw σ} (h : SameAcct s t) : Acct.ofFw t = Acct.ofFw s := by
  refine ofFw_eq h.g (fun i => ?_)
  rw [h.at_ i, acctAt_ofFw]; rfl

theorem acctAt_foldl {f : Nat → RtAcct → RtAcct} {F : Fw σ → Nat → Fw σ} :
    ∀ (js : List Nat) (s : Fw σ), js.Nodup → (∀ k ∈ js, ∀ s', AcctBump (f k) k s' (F s' k)) →
      (js.foldl F s).g = s.g ∧
      ∀ i, acctAt (js.foldl F s) i = if i ∈ js then (acctAt s i).map (f i) else acctAt s i
  | [], s, _, _ => ⟨rfl, fun i => by simp⟩
  | j :: js, s, hnd, hF => by
    obtain ⟨hj, hnd⟩ := List.nodup_cons.mp hnd
    have hb := hF j List.mem_cons_self s
    obtain ⟨hg, hat⟩ := acctAt_foldl js (F s j) hnd (fun k hk => hF k (List.mem_cons_of_mem _ hk))
    refine ⟨hg.trans hb.g, fun i => ?_⟩
    rw [List.foldl_cons, hat i]
    by_cases hi : i = j
    · subst hi; rw [if_neg hj, if_pos List.mem_cons_self, hb.self]
    · rw [hb.other i hi]; simp only [List.mem_cons, hi, false_or]

/-- the framework-wide step of a reported event is `Acct.gEvent` -/
theorem evGlobal_g (e : TEvent) (s : Fw σ) : (evGlobal e s).g = Acct.gEvent e s.g := by
  cases e with
  | blockingBegin _ => simp only [evGlobal, Acct.gEvent]; split <;> rfl
  | blockingEnd =>
    by_cases ha : s.g.blockingActive = true
    · simp only [evGlobal, Acct.gEvent, TEvent.blocked, ha, if_true]; split <;> simp
    · simp [evGlobal, Acct.gEvent, ha]
  | _ => rfl

theorem acctBump_blockingEnd (s : Fw σ) (k b : Nat) :
    AcctBump (fun a => if b ≠ 0 then { a with blockingDur := a.blockingDur + b } else a) k s
      (evAcct .blockingEnd b k s) := by
  have hfault : ∀ f, SameAcct s (s.withFault f) := fun f => ⟨by simp, fun i => acctAt_congr (by simp)⟩
  rw [evAcct]
  by_cases hb : b ≠ 0
  · simp only [if_pos hb]
    cases hr : s.rt[k]? with
    | none =>
      refine ⟨by simp, ?_, fun i _ => by simp [acctAt]⟩
      simp [acctAt, hr]
    | some r =>
      simp only []
      by_cases hd : r.acct.blockingDur + b > durMax
      · rw [if_pos hd]
        exact AcctBump.ofSameAcct (hfault _) (AcctBump.modRt _ k _ _ (fun _ => rfl))
      · rw [if_neg hd]
        exact AcctBump.modRt _ k _ _ (fun _ => rfl)
  · simp only [if_neg hb]
    exact AcctBump.id s k

/-- the accounting step of a reported event for a machine it is delivered to is `Acct.rEvent` -/
theorem evAcct_bump {e : TEvent} {n j : Nat} (hj : j ∈ e.targets n) (g : Globals) (s : Fw σ) :
    AcctBump (Acct.rEvent e g j) j s (evAcct e (e.blocked g) j s) := by
  cases e with
  | normalSent => exact AcctBump.modRt s j _ _ (fun _ => rfl)
  | paddingSent m =>
    have hm : m = j := by
      by_cases h : m ≥ n <;> simp [TEvent.targets, h] at hj
      exact hj.symm
    exact AcctBump.modRt s j _ _ (fun _ => by simp [Acct.rEvent, hm])
  | blockingEnd => exact acctBump_blockingEnd s j _
  | _ => exact AcctBump.id s j

theorem rEvent_of_not_mem {e : TEvent} {n i : Nat} (hi : i < n) (h : i ∉ e.targets n) (g : Globals) (a : RtAcct) :
    Acct.rEvent e g i a = a := by
  cases e with
  | paddingSent m =>
    by_cases hm : m = i
    · subst hm; simp [TEvent.targets, Nat.not_le.mpr hi] at h
    · simp [Acct.rEvent, hm]
  | timerBegin _ | timerEnd _ => rfl
  | _ => exact absurd (List.mem_range.2 hi) h

theorem processEvent_acct (e : TEvent) (s : Fw σ) :
    Acct.ofFw (processEvent ρ e s) = Acct.event e (Acct.ofFw s) := by
  have hrt0 := (evGlobal_frame e s).2.2.2.1
  rw [processEvent_eq, hrt0]
  show _ = (Acct.gEvent e s.g, (s.rt.map (·.acct)).mapIdx (Acct.rEvent e s.g))
  obtain ⟨hg, hat⟩ := acctAt_foldl (f := Acct.rEvent e s.g) (F := evStep ρ e (e.blocked s.g)) (e.targets s.rt.length)
    (evGlobal e s) (targets_nodup e _) (fun k hk s' => (evAcct_bump hk s.g s').sameAcct ((walkSameAcct ρ).evStep e _ s' k))
  refine ofFw_eq (hg.trans (evGlobal_g e s)) (fun i => ?_)
  have h0 : acctAt (evGlobal e s) i = acctAt s i := acctAt_congr (by rw [hrt0])
  rw [hat i, h0, acctAt_ofFw s i, List.getElem?_mapIdx]
  simp only [Acct.ofFw]
  split
  · rfl
  · next hni =>
    cases ha : (s.rt.map (·.acct))[i]? with
    | none => rfl
    | some a =>
      have hi : i < s.rt.length := by
        have := (List.getElem?_eq_some_iff.mp ha).1
        simpa using this
      rw [Option.map_some, rEvent_of_not_mem hi hni]

theorem triggerEvents_acct (es : List TEvent) (t : Int) (s : Fw σ) :
    Acct.ofFw (triggerEvents ρ es t s) = Acct.call es t (Acct.ofFw s) := by
  unfold triggerEvents
  rw [((walkSameAcct ρ).signalRound _).ofFw]
  unfold Acct.call
  have h0 : Acct.ofFw (s.callStart t) = ({ (Acct.ofFw s).1 with now := t }, (Acct.ofFw s).2) := by
    simp only [Acct.ofFw, Fw.callStart, List.map_map]
    congr 1
  rw [← h0]
  generalize s.callStart t = s'
  induction es generalizing s' with
  | nil => rfl
  | cons e es ih =>
    simp only [List.foldl_cons]
    rw [ih (processEvent ρ e s'), processEvent_acct]

theorem runCalls_acct (s : Fw σ) (h : List Call) :
    Acct.ofFw (runCalls ρ s h) = Acct.history h (Acct.ofFw s) := by
  unfold runCalls Acct.history
  induction h generalizing s with
  | nil => rfl
  | cons c h ih =>
    simp only [List.foldl_cons]
    rw [ih (triggerEvents ρ c.1 c.2 s), triggerEvents_acct]

theorem init_acct (ms : List Machine) (fp fb : F64) (t0 : Int) (rng : σ) :
    Acct.ofFw (Fw.init ρ ms fp fb t0 rng) = Acct.ofFw (Fw.init0 ms fp fb t0 rng) := by
  unfold Fw.init
  exact ((walkSameAcct ρ).foldl _ (fun s mi => SameAcct.ofFrame (initLimit_reach ρ s mi).frame) _ _).ofFw

end Mb
