/-
  Liveness core of C17 / C18: whatever `pick_next` decides to serve next, its offset from the
  clock is at most the offset of every pending action timer and internal timer that is not in
  the past — so nothing due is skipped.
-/
import MbVerif.Proofs.SimTotal

namespace Mb.Sim
open Mb

/-- the offset a decision serves (`none` for "nothing left") -/
def Pick.offset : Pick → Option Nat
  | .nothing => none
  | .agg => none
  | .blockExp b _ => some b
  | .queue q _ _ => some q
  | .timer i => some i
  | .action s => some s

section
variable {σ : Type}

theorem pickDecide_offset_le {st : St σ} {p : Pick} {o : Nat} (h : pickDecide st = .ok p) (ho : p.offset = some o) :
    o ≤ peekScheduledAction st.client.schedAction st.server.schedAction st.now ∧
    o ≤ peekScheduledInternalTimer st.client.schedTimer st.server.schedTimer st.now := by
  obtain ⟨r, _, hp⟩ := pickDecide_ok_iff.1 h
  have hs := Pick.choose_spec st.actOff st.timOff st.aggOff st.blkExp r
  rw [hp] at hs
  cases p <;> cases ho
  · exact ⟨hs.2.2.2.2, hs.2.2.2.1⟩
  · exact ⟨hs.2.2.2.2, hs.2.2.2.1⟩
  · exact ⟨hs.2.2.2.2, Nat.le_of_eq hs.1⟩
  · exact ⟨Nat.le_of_eq hs.1, Nat.le_of_lt hs.2.2.2.2⟩

/-- Nothing due is skipped (action timers): the offset served next is at most the offset of
    every pending action that is not in the past. -/
theorem served_before_action {st : St σ} {p : Pick} {o : Nat} (h : pickDecide st = .ok p) (ho : p.offset = some o)
    (a : SchedAction) (hm : some a ∈ st.client.schedAction ∨ some a ∈ st.server.schedAction) (hn : st.now ≤ a.time) :
    o ≤ dsince a.time st.now :=
  Nat.le_trans (pickDecide_offset_le h ho).1 (peekScheduledAction_le_mem _ _ _ a hm hn)

/-- Nothing due is skipped (internal timers) -/
theorem served_before_timer {st : St σ} {p : Pick} {o : Nat} (h : pickDecide st = .ok p) (ho : p.offset = some o)
    (t : Int) (hm : some t ∈ st.client.schedTimer ∨ some t ∈ st.server.schedTimer) (hn : st.now ≤ t) :
    o ≤ dsince t st.now :=
  Nat.le_trans (pickDecide_offset_le h ho).2 (peekScheduledInternalTimer_le_mem _ _ _ t hm hn)

end
end Mb.Sim
