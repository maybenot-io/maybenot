/-
  The v1 parser never faults: every slice / index / usize operation of parsing.rs is in range
  given the length tests that precede it.
-/
import MbVerif.ParseV1

namespace Mb
namespace V1
open Codec (Bytes)

/-- Hoare-style: `x` does not fault and, if it returns, the result satisfies `Q` -/
def Good {α} (x : P α) (Q : α → Prop) : Prop :=
  match x with
  | .ok a => Q a
  | .error .err => True
  | .error (.fault _) => False

theorem Good_ok {α} {a : α} {Q : α → Prop} (h : Q a) : Good (.ok a : P α) Q := h
theorem Good_err {α} {Q : α → Prop} : Good (.error .err : P α) Q := trivial

theorem Good_bind {α β} {x : P α} {g : α → P β} {Q : α → Prop} {R : β → Prop}
    (hx : Good x Q) (hg : ∀ a, Q a → Good (g a) R) : Good (x >>= g) R := by
  cases x with
  | ok a => exact hg a hx
  | error e =>
    cases e with
    | err => trivial
    | fault f => exact hx.elim

theorem Good_mono {α} {x : P α} {Q R : α → Prop} (hx : Good x Q) (h : ∀ a, Q a → R a) : Good x R := by
  cases x with
  | ok a => exact h a hx
  | error e => cases e <;> exact hx

theorem Good_nofault {α} {x : P α} {Q : α → Prop} (hx : Good x Q) (f : Fault) : x ≠ .error (.fault f) := by
  intro h; rw [h] at hx; exact hx

theorem cadd_ok {a b : Nat} (h : a + b < USIZE) : cadd a b = .ok (a + b) := by simp [cadd, h]
theorem cmul_ok {a b : Nat} (h : a * b < USIZE) : cmul a b = .ok (a * b) := by simp [cmul, h]

theorem slice_ok {b : Bytes} {lo hi : Nat} (h1 : lo ≤ hi) (h2 : hi ≤ b.length) :
    slice b lo hi = .ok ((b.drop lo).take (hi - lo)) := by simp [slice, h1, h2]

theorem slice_length {b : Bytes} {lo hi : Nat} (h1 : lo ≤ hi) (h2 : hi ≤ b.length) :
    ((b.drop lo).take (hi - lo)).length = hi - lo := by
  simp [List.length_take, List.length_drop]; omega

theorem sliceFrom_ok {b : Bytes} {lo : Nat} (h : lo ≤ b.length) : sliceFrom b lo = .ok (b.drop lo) := by
  simp [sliceFrom, h]

theorem byteAt_good {b : Bytes} {i : Nat} (h : i < b.length) : Good (byteAt b i) (fun _ => True) := by
  simp [byteAt, List.getElem?_eq_getElem h, Good]

theorem leVal_lt (s : Bytes) : leVal s < 256 ^ s.length := by
  induction s with
  | nil => simp [leVal]
  | cons b bs ih =>
    have := b.toNat_lt
    simp only [leVal, List.length_cons, Nat.pow_succ]
    omega

theorem parseDist_good (buf : Bytes) : Good (parseDist buf) (fun _ => True) := by
  unfold parseDist
  split
  · exact Good_err
  · rename_i h
    simp only [SERIALIZED_DIST_SIZE] at h
    have h2 : 34 ≤ buf.length := by omega
    rw [slice_ok (by decide) (by omega), slice_ok (by decide) (by omega), slice_ok (by decide) (by omega),
      slice_ok (by decide) (by omega), slice_ok (by decide) (by omega)]
    simp only [bind, Except.bind]
    split <;> exact Good_ok trivial

theorem rowLoop_good (buf : Bytes) (n : Nat) (hlen : buf.length < USIZE) :
    ∀ (k i r : Nat) (acc : List Trans), r + 8 * k ≤ buf.length →
      Good (rowLoop buf n k i r acc) (fun p => p.2 = r + 8 * k) := by
  intro k
  induction k with
  | zero => intro i r acc _; exact Good_ok (by simp)
  | succ k ih =>
    intro i r acc h
    unfold rowLoop
    rw [cadd_ok (by omega), ]
    simp only [bind, Except.bind]
    rw [slice_ok (by omega) (by omega)]
    simp only []
    have step : ∀ acc', Good (rowLoop buf n k (i + 1) (r + 8) acc') (fun p => p.2 = r + 8 * (k + 1)) :=
      fun acc' => Good_mono (ih (i + 1) (r + 8) acc' (by omega)) (fun p hp => by rw [hp]; omega)
    split
    · split
      · exact step _
      · split
        · exact Good_err
        · exact step _
    · exact step _

theorem eventLoop_good (buf : Bytes) (n cnt : Nat) (hlen : buf.length < USIZE) :
    ∀ (es : List Nat) (r : Nat) (acc : List (Nat × List Trans)), r + es.length * (8 * cnt) ≤ buf.length →
      Good (eventLoop buf n cnt es r acc) (fun _ => True) := by
  intro es
  induction es with
  | nil => intro r acc _; exact Good_ok trivial
  | cons e es ih =>
    intro r acc h
    unfold eventLoop
    have hmul : (es.length + 1) * (8 * cnt) = es.length * (8 * cnt) + 8 * cnt := by
      rw [Nat.add_mul]; omega
    simp only [List.length_cons, hmul] at h
    refine Good_bind (rowLoop_good buf n hlen cnt 0 r [] (by omega)) ?_
    intro p hp
    obtain ⟨row, r'⟩ := p
    simp only at hp
    subst hp
    exact ih _ _ (by omega)

theorem ok_bind {α β} (a : α) (g : α → P β) : ((Except.ok a : P α) >>= g) = g a := rfl

/-- The serialized length of a v1 state with `n` states in the machine: three distributions of
    34 bytes and 4 flag bytes (106), then 8 rows (the 7 v1 events and one more) of `n + 2`
    `f64` probabilities. The reader passes a `u16` for `n`; any bound that keeps the expression
    below 2^64 would do, 2^50 is the one `C11_v1_state_safe` states. -/
theorem stateLenExpr_ok (n : Nat) (h : n < 2 ^ 50) : stateLenExpr n = .ok (106 + 64 * (n + 2)) := by
  have hl : v1Events.length = 7 := rfl
  simp (disch := unfold USIZE; omega) only [stateLenExpr, SERIALIZED_DIST_SIZE, hl, cadd_ok, cmul_ok, ok_bind]
  congr 1
  omega

theorem parseState_good (buf : Bytes) (n : Nat) (hn : n < 2 ^ 50) (hlen : buf.length < USIZE) :
    Good (parseState buf n) (fun _ => True) := by
  unfold parseState
  rw [stateLenExpr_ok n hn, ok_bind]
  split
  · exact Good_err
  · rename_i hneed
    simp only [SERIALIZED_DIST_SIZE]
    rw [cadd_ok (by decide), ok_bind, slice_ok (by decide) (by omega), ok_bind]
    refine Good_bind (parseDist_good _) (fun duration _ => ?_)
    rw [cadd_ok (by decide), ok_bind, slice_ok (by decide) (by omega), ok_bind]
    refine Good_bind (parseDist_good _) (fun limit _ => ?_)
    rw [cadd_ok (by decide), ok_bind, slice_ok (by decide) (by omega), ok_bind]
    refine Good_bind (parseDist_good _) (fun timeout _ => ?_)
    refine Good_bind (byteAt_good (by omega)) (fun b1 _ => ?_)
    rw [cadd_ok (by decide), ok_bind]
    refine Good_bind (byteAt_good (by omega)) (fun b2 _ => ?_)
    rw [cadd_ok (by decide), ok_bind]
    refine Good_bind (byteAt_good (by omega)) (fun b3 _ => ?_)
    rw [cadd_ok (by decide), ok_bind]
    have hl : v1Events.length = 7 := rfl
    have tail : ∀ action : Option Action, Good (do
        let r ← cadd (0 + (2 + 8 * 4) + (2 + 8 * 4) + (2 + 8 * 4) + 1 + 1 + 1) 1
        let cnt ← cadd n 2
        let __x ← eventLoop buf n cnt v1Events r []
        (Except.ok { action := action, counterA := none, counterB := none, transitions := stateNew __x.fst } : P State))
        (fun _ => True) := by
      intro action
      rw [cadd_ok (by decide), ok_bind, cadd_ok (by unfold USIZE; omega), ok_bind]
      exact Good_bind (eventLoop_good buf n (n + 2) hlen v1Events _ [] (by rw [hl]; omega))
        (fun p _ => Good_ok trivial)
    split
    · split
      · split
        · exact Good_err
        · rw [ok_bind]; exact tail _
      · rw [ok_bind]; exact tail _
    · rw [ok_bind]; exact tail _

theorem statesLoop_good (buf : Bytes) (n : Nat) (hn : n < 2 ^ 50) (hlen : buf.length < USIZE) (esl : Nat) :
    ∀ (k r : Nat) (acc : List State), r + k * esl ≤ buf.length →
      Good (statesLoop buf n esl k r acc) (fun _ => True) := by
  intro k
  induction k with
  | zero => intro r acc _; exact Good_ok trivial
  | succ k ih =>
    intro r acc h
    rw [Nat.add_mul, Nat.one_mul] at h
    unfold statesLoop
    rw [cadd_ok (by omega), ok_bind, slice_ok (by omega) (by omega), ok_bind]
    refine Good_bind (parseState_good _ n hn ?_) (fun s _ => ih _ _ (by omega))
    rw [slice_length (by omega) (by omega)]
    omega

theorem leVal_take_lt (k : Nat) (l : Bytes) : leVal (List.take k l) < 256 ^ k := by
  have h1 := leVal_lt (List.take k l)
  have h2 : (List.take k l).length ≤ k := by simp [List.length_take]; omega
  exact Nat.lt_of_lt_of_le h1 (Nat.pow_le_pow_right (by omega) h2)

theorem parseV1States_good (buf : Bytes) (hlen : buf.length < USIZE) (app : Nat) (mpf : F64) (abm : Nat)
    (mbf : F64) (n r : Nat) (hn16 : n < 65536) (hr : r ≤ buf.length) :
    Good (parseV1States buf app mpf abm mbf n r) (fun m => Validate.machine m = true) := by
  unfold parseV1States
  rw [stateLenExpr_ok n (by omega), ok_bind, sliceFrom_ok hr, ok_bind]
  -- `n ≤ 65535` (a `u16`), so a state has at most `106 + 64 * 65537 = 4194474` bytes
  have hmul : (106 + 64 * (n + 2)) * n ≤ 4194474 * 65535 :=
    Nat.mul_le_mul (by omega) (by omega)
  rw [cmul_ok (by unfold USIZE; omega), ok_bind]
  split
  · exact Good_err
  · rename_i htot
    simp only [List.length_drop, ne_eq, Decidable.not_not] at htot
    refine Good_bind (statesLoop_good buf n (by omega) hlen _ n _ [] ?_) (fun states _ => ?_)
    · rw [Nat.mul_comm n]; omega
    · simp only []
      split
      · rename_i hv; exact Good_ok hv
      · exact Good_err

theorem parseV1_good (buf : Bytes) (hlen : buf.length < USIZE) :
    Good (parseV1 buf) (fun m => Validate.machine m = true) := by
  unfold parseV1
  split
  · exact Good_err
  · rename_i h35
    simp only []
    rw [cadd_ok (by decide), ok_bind, slice_ok (by decide) (by omega), ok_bind,
      cadd_ok (by decide), ok_bind, slice_ok (by decide) (by omega), ok_bind,
      cadd_ok (by decide), ok_bind, slice_ok (by decide) (by omega), ok_bind,
      cadd_ok (by decide), ok_bind, slice_ok (by decide) (by omega), ok_bind,
      cadd_ok (by decide), ok_bind,
      cadd_ok (by decide), ok_bind, slice_ok (by decide) (by omega), ok_bind]
    refine parseV1States_good buf hlen _ _ _ _ _ _ ?_ (by omega)
    exact Nat.lt_of_lt_of_le (leVal_take_lt _ _) (by decide)

theorem parseV1Machine_good (buf : Bytes) (hlen : buf.length < USIZE) :
    Good (parseV1Machine buf) (fun m => Validate.machine m = true) := by
  unfold parseV1Machine
  split
  · exact Good_err
  · rw [slice_ok (by omega) (by omega), ok_bind, sliceFrom_ok (by omega), ok_bind]
    split
    · exact parseV1_good _ (by simp only [List.length_drop]; omega)
    · exact Good_err

theorem parseV1Machine_nofault (buf : Bytes) (hlen : buf.length < USIZE) (f : Fault) :
    parseV1Machine buf ≠ .error (.fault f) :=
  Good_nofault (parseV1Machine_good buf hlen) f

theorem parseV1Machine_valid (buf : Bytes) (hlen : buf.length < USIZE) (m : Machine)
    (h : parseV1Machine buf = .ok m) : Validate.machine m = true := by
  have := parseV1Machine_good buf hlen
  rw [h] at this
  exact this

end V1
end Mb
