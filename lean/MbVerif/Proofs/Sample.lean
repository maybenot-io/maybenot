/-
  Helper lemmas for C13: the clamp of `Dist::sample`, the consumers, constructor preconditions.
-/
import MbVerif.Spec.C13
import MbVerif.Proofs.Validate

namespace Mb
namespace C13
open Fp

theorem gt_zero_iff_maxSet {mx : FV} : gt mx (.fin 0) = true ↔ MaxSet mx := by
  rcases mx with _ | ⟨_ | _⟩ | m <;> simp [gt, lt, MaxSet]

/-- `0.0f64.max(x)` is never NaN and never negative, whatever `x` is -/
theorem fmax_zero_nonNeg (x : FV) : NonNeg (fmax (.fin 0) x) := by
  rcases x with _ | ⟨_ | _⟩ | q
  · simp [fmax, NonNeg]
  · simp [fmax, lt, NonNeg]
  · simp [fmax, lt, NonNeg]
  · simp only [fmax, lt_fin_fin, decide_eq_true_eq]
    split
    · rename_i h; exact h.le
    · exact le_refl _

theorem nonNeg_ne_nan {v : FV} (h : NonNeg v) : v ≠ .nan := by
  intro e; subst e; exact h

/-- `r.min(max)` for a non-negative non-NaN `r` and `max > 0` -/
theorem fmin_inRange {r mx : FV} (hr : NonNeg r) (hm : MaxSet mx) :
    NonNeg (fmin r mx) ∧ AtMost mx (fmin r mx) := by
  rcases r with _ | ⟨_ | _⟩ | q
  · exact hr.elim
  · rcases mx with _ | ⟨_ | _⟩ | m
    · exact hm.elim
    · simp [fmin, lt, NonNeg, AtMost]
    · simp [MaxSet] at hm
    · simp only [MaxSet] at hm
      simp [fmin, lt, NonNeg, AtMost, hm.le]
  · simp [NonNeg] at hr
  · simp only [NonNeg] at hr
    rcases mx with _ | ⟨_ | _⟩ | m
    · exact hm.elim
    · simp [fmin, lt, NonNeg, AtMost, hr]
    · simp [MaxSet] at hm
    · simp only [MaxSet] at hm
      simp only [fmin, lt_fin_fin, decide_eq_true_eq]
      split
      · rename_i h; exact ⟨hm.le, le_refl m⟩
      · rename_i h; exact ⟨hr, not_lt.mp h⟩

/-- the body of `Dist::sample` after the family sampler returned `x - start` -/
theorem clampCore_inRange (x mx : FV) :
    InRange mx (if gt mx (.fin 0) then fmin (fmax (.fin 0) x) mx else fmax (.fin 0) x) := by
  have hr := fmax_zero_nonNeg x
  by_cases hm : gt mx (.fin 0) = true
  · rw [if_pos hm]
    have := fmin_inRange hr (gt_zero_iff_maxSet.mp hm)
    exact ⟨this.1, fun _ => this.2⟩
  · rw [if_neg hm]
    exact ⟨hr, fun h => absurd (gt_zero_iff_maxSet.mpr h) hm⟩

theorem finite_eq_isFinite (v : FV) : finite v = Validate.isFinite v := by cases v <;> rfl

/-- a distribution accepted by `Dist::validate` meets every precondition of the constructor call
    (and of `gen_range`) made by `dist_sample` -/
theorem ctorOK_of_validate {d : DistType} (h : Validate.distType d = true) : ctorOK d = true := by
  cases d with
  | uniform lo hi =>
    obtain ⟨a, b, hl, hh, hab, hs⟩ := Validate.distType_uniform h
    simp only [ctorOK, hl, hh, sub_fin_fin, hs, feq, lt_fin_fin, finite, Bool.and_true]
    by_cases e : a = b
    · simp [e]
    · simp [e, lt_of_le_of_ne hab e]
  | normal mean stdev => exact (finite_eq_isFinite _).trans h
  | skewNormal loc scale shape =>
    obtain ⟨h1, h2, h3⟩ := Validate.distType_skewNormal h
    simp only [ctorOK, finite_eq_isFinite, h1, h3, show gt (val64 scale) (.fin 0) = true from h2,
      Bool.and_self]
  | logNormal mu sigma => exact (finite_eq_isFinite _).trans h
  | binomial trials p =>
    obtain ⟨_, _, h3, h4⟩ := Validate.distType_binomial h
    exact Bool.and_eq_true_iff.mpr ⟨h3, h4⟩
  | geometric p =>
    obtain ⟨_, h2, h3, h4⟩ := Validate.distType_geometric h
    simp only [ctorOK, finite_eq_isFinite, h2, show lt (val64 p) (.fin 0) = false from h3,
      show gt (val64 p) (.fin 1) = false from h4, Bool.not_false, Bool.and_self]
  | pareto scale shape => exact Bool.and_eq_true_iff.mpr (Validate.two_guards h)
  | poisson lambda => exact (Validate.distType_poisson h).2
  | weibull scale shape => exact Bool.and_eq_true_iff.mpr (Validate.two_guards h)
  | gamma scale shape =>
    obtain ⟨h1, h2, h3⟩ := Validate.distType_gamma h
    exact Bool.and_eq_true_iff.mpr ⟨Bool.and_eq_true_iff.mpr ⟨h1, h2⟩, h3⟩
  | beta alpha beta => exact Bool.and_eq_true_iff.mpr (Validate.two_guards h)

theorem le_zero_of_nonNeg {v : FV} (h : NonNeg v) : le (.fin 0) v = true := by
  rcases v with _ | ⟨_ | _⟩ | q <;> simp_all [NonNeg, le]

theorem le_of_atMost {mx v : FV} (h : AtMost mx v) : le v mx = true := by
  rcases v with _ | ⟨_ | _⟩ | q <;> rcases mx with _ | ⟨_ | _⟩ | m <;> simp_all [AtMost, le]

theorem clamp_eq (d : Dist) (raw : F64) :
    d.clamp raw =
      (if gt (val64 d.max) (.fin 0) then
        fmin (fmax (.fin 0) (add f64 (val64 raw) (val64 d.start))) (val64 d.max)
      else fmax (.fin 0) (add f64 (val64 raw) (val64 d.start))) := rfl

theorem unit64_nonneg (w : UInt64) : 0 ≤ unit64 w := by unfold unit64; positivity

/-- what validation gives for a proper range: real bounds `a < b` and a finite scale `s ≥ 0` -/
theorem uniform_range_facts {lo hi : F64} (h : Validate.distType (.uniform lo hi) = true)
    (hne : feq (val64 lo) (val64 hi) = false) :
    ∃ a b s : ℚ, val64 lo = .fin a ∧ val64 hi = .fin b ∧ a < b ∧
      sub f64 (val64 hi) (val64 lo) = .fin s ∧ 0 ≤ s := by
  obtain ⟨a, b, hl, hh, hab, hs⟩ := Validate.distType_uniform h
  rw [hl, hh] at hne ⊢
  have hne' : a ≠ b := by simpa [feq] using hne
  exact ⟨a, b, _, rfl, rfl, lt_of_le_of_ne hab hne', (sub_fin_fin f64 b a).trans hs,
    rne_nonneg _ _ (sub_nonneg.mpr hab)⟩

/-- `debug_assert!(low <= res)` inside the `gen_range` loop cannot fire -/
theorem uniformRes_ge_low {lo hi : F64} (h : Validate.distType (.uniform lo hi) = true)
    (hne : feq (val64 lo) (val64 hi) = false) (w : UInt64) :
    le (val64 lo) (uniformRes lo hi w) = true := by
  obtain ⟨a, b, s, hl, hh, _, hs, hs0⟩ := uniform_range_facts h hne
  have hself := val64_round_self lo hl
  unfold uniformRes
  simp only []
  rw [hs, hl]
  simp only [mul]
  have hv := unit64_nonneg w
  rcases Fmt.round_of_nonneg f64 (mul_nonneg hv hs0) with hr | ⟨hr, hy⟩
  · rw [hr]; rfl
  · rw [hr]
    simp only [add]
    have := Fmt.round_mono f64 (by decide) (show a ≤ rne f64.p f64.emin (unit64 w * s) + a by linarith)
    rwa [hself] at this

/-- a word whose 52 mantissa bits are all zero ends the loop at once with `low` -/
theorem uniformF64_zero_word {lo hi : F64} (h : Validate.distType (.uniform lo hi) = true)
    (hne : feq (val64 lo) (val64 hi) = false) (w : UInt64) (hw : w.toNat / 2 ^ 12 = 0) :
    uniformF64 lo hi w = some (val64 lo) := by
  obtain ⟨a, b, s, hl, hh, hab, hs, _⟩ := uniform_range_facts h hne
  have hself := val64_round_self lo hl
  have hu : unit64 w = 0 := by unfold unit64; rw [hw]; simp
  have hres : uniformRes lo hi w = .fin a := by
    unfold uniformRes
    simp only []
    rw [hs, hl]
    simp only [hu, mul, zero_mul]
    have h0 : f64.round 0 = .fin 0 := Fmt.round_eq_self_of_rep f64 (rep_zero _ _) (pow2_pos _) (by have := pow2_pos f64.emax; linarith)
    rw [h0]
    simp only [add, zero_add]
    exact hself
  unfold uniformF64
  rw [hres, hh, hl]
  simp [hab]

end C13
end Mb
