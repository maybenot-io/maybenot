/-
  `C02.monitor` and `C03.monitor` on the model's own trace (`LL.modelTrace`, the records the driver
  would build from the model, ghost log emptied before every call).

  Both monitors walk the calls in order, keep their own recount of the reported events (packet
  counts / blocking periods) over ALL calls (single events and batches), stop at the first call
  that did not return `ok`, and test the actions returned by single-event calls only.  Both proofs
  have the same three parts:

  * the walk `LL.callRecs_accept` with an invariant that ties the monitor's recount to the model's
    accounting pair `Acct.ofFw s` (C02: `CntRel` from the initial pair; C03: `BlkRel`), kept by
    `CntRel.call` / `BlkRel.call`;
  * `single_gated` — after a single-event call every returned action was gated (`GateConseq`) with
    the accounting pair after the event;
  * `test_ok` — on a pair that agrees with the recount, the gate's conclusion (`QPad`: the double
    comparison `padOKF`; `QBlock`: `blockOKF`) is the monitor's test.  For C02 this needs
    `below_exact`, hence fewer than 2^53 reported packets; for C03 the two tests are the same
    expression (both use the double share).

  `C02acc.reject_big`: the schema of a model trace beyond 2^53 packets that the monitor rejects (a
  batch of `n` PaddingSent reports for an unused id is evaluated symbolically,
  `triggerEvents_pad_unknown`; instantiated in Props/C02.lean).
-/
import MbVerif.Proofs.LimitMonitor
import MbVerif.Proofs.C02Exact
import MbVerif.Proofs.C03

namespace Mb
variable {σ : Type} (ρ : Oracle σ)

theorem ofFw_resetLog (s : Fw σ) : Acct.ofFw (LL.resetLog s) = Acct.ofFw s := rfl

theorem single_gated {Q : Globals → RtAcct → Machine → TAction → Prop} (hQ : GateConseq Q)
    {ms : List Machine} {s : Fw σ} (hL : LL.Live ms s) (e : TEvent) (t : Int) {a : TAction}
    (ha : a ∈ (triggerEvents ρ [e] t (LL.resetLog s)).actionsOut) :
    ∃ m ra, ms[a.machine]? = some m ∧ (Acct.call [e] t (Acct.ofFw s)).2[a.machine]? = some ra ∧
      Q (Acct.call [e] t (Acct.ofFw s)).1 ra m a :=
  single_event_gated ρ hQ (s := LL.resetLog s) hL.machines (LL.inv04_resetLog hL.inv) e t ha

namespace C02acc

/-- the packet counters of an accounting pair are the recount of `evs` -/
structure Cnt (fp : F64) (evs : List TEvent) (p : Globals × List RtAcct) : Prop where
  padAll : p.1.paddingSent = C02.countPadAll evs
  normal : p.1.normalSent = C02.countNormal evs
  frac : p.1.maxPaddingFrac = fp
  at_ : ∀ i a, p.2[i]? = some a → a.paddingSent = C02.countPad i evs ∧ a.normalSent = C02.countNormal evs

/-- counters that started from the initial pair are the recount of the events since -/
theorem Cnt.ofRel {ms : List Machine} {fp fb : F64} {t0 : Int} {rng : σ} {evs : List TEvent}
    {p : Globals × List RtAcct} (h : CntRel evs (Acct.ofFw (Fw.init0 ms fp fb t0 rng)) p) :
    Cnt fp evs p := by
  refine ⟨h.padAll.trans (Nat.zero_add _), h.normal.trans (Nat.zero_add _), h.frac, fun i a ha => ?_⟩
  have hlt : i < (Acct.ofFw (Fw.init0 ms fp fb t0 rng)).2.length :=
    h.len ▸ (List.getElem?_eq_some_iff.1 ha).1
  obtain ⟨a', ha', hp, hn⟩ := h.at_ i _ (List.getElem?_eq_getElem hlt)
  cases ha.symm.trans ha'
  simp only [Acct.ofFw, Fw.init0, List.getElem_map, Nat.zero_add] at hp hn
  exact ⟨hp, hn⟩

/-- the number of packets (sent normal or padding, any machine) among the events -/
def packets (evs : List TEvent) : Nat := C02.countPadAll evs + C02.countNormal evs

theorem packets_append (a b : List TEvent) : packets (a ++ b) = packets a + packets b := by
  simp [packets, C02.countPadAll, C02.countNormal, List.countP_append]; omega

theorem countPad_le_all (mi : Nat) (evs : List TEvent) : C02.countPad mi evs ≤ C02.countPadAll evs := by
  unfold C02.countPad C02.countPadAll
  apply List.countP_mono_left
  intro x _ hx
  cases x <;> simp_all

/-- the double comparison of the code implies the monitor's exact test below 2^53 packets -/
theorem padOK_of_F (m : Machine) (fp : F64) (evs : List TEvent) (mi : Nat) (hsmall : packets evs < 2 ^ 53)
    (hok : padOKF m.allowedPaddingPackets m.maxPaddingFrac fp (C02.countPad mi evs) (C02.countNormal evs)
      (C02.countPadAll evs) (C02.countNormal evs)) :
    C02.padOK m fp (C02.countPad mi evs) (C02.countNormal evs) (C02.countPadAll evs) = true := by
  have hle := countPad_le_all mi evs
  unfold packets at hsmall
  unfold C02.padOK
  unfold padOKF at hok
  simp only [Bool.or_eq_true, Bool.and_eq_true, decide_eq_true_eq]
  rcases hok with hb | ⟨h1, h2⟩
  · exact Or.inl hb
  · right
    constructor
    · have hh := below_exact (C02.countPad mi evs) (C02.countNormal evs + C02.countPad mi evs) m.maxPaddingFrac
        (by omega) (by omega) h1
      rwa [Nat.add_comm] at hh
    · exact below_exact (C02.countPadAll evs) (C02.countPadAll evs + C02.countNormal evs) fp (by omega) (by omega) h2

/-- the monitor's test of one returned action -/
def badAct (t : FwTrace) (hist : List TEvent) (a : TAction) : Bool :=
  match a with
  | .sendPadding _ _ _ mi =>
    match t.machines[mi]? with
    | some m => !C02.padOK m t.fp (C02.countPad mi hist) (C02.countNormal hist) (C02.countPadAll hist)
    | none => true
  | _ => false

theorem go_nil (t : FwTrace) (i : Nat) (hist : List TEvent) : C02.monitor.go t i hist [] = none := by
  rw [C02.monitor.go]

theorem go_fault (t : FwTrace) (i : Nat) (hist : List TEvent) (c : CallRec) (cs : List CallRec)
    (h : c.res ≠ .ok) : C02.monitor.go t i hist (c :: cs) = none := by
  rw [C02.monitor.go]
  simp [h]

/-- a call that returned `ok` and, if it reports a single event, no action failing the test -/
theorem go_ok (t : FwTrace) (i : Nat) (hist : List TEvent) (c : CallRec) (cs : List CallRec) (h : c.res = .ok)
    (hb : c.events.length = 1 → ∀ a ∈ c.actions, badAct t (hist ++ c.events) a = false) :
    C02.monitor.go t i hist (c :: cs) = C02.monitor.go t (i + 1) (hist ++ c.events) cs := by
  rw [C02.monitor.go, h]
  simp only [bne_self_eq_false, Bool.false_eq_true, if_false]
  by_cases hl : c.events.length = 1
  · rw [if_pos (beq_iff_eq.2 hl)]
    generalize hfind : List.find? _ c.actions = r
    have hr : r = none := by
      rw [← hfind, List.find?_eq_none]
      exact fun a ha => Bool.eq_false_iff.1 (hb hl a ha)
    rw [hr]
  · rw [if_neg (fun h => hl (beq_iff_eq.1 h))]

theorem test_ok {t : FwTrace} {evs : List TEvent} {p : Globals × List RtAcct} (hc : Cnt t.fp evs p)
    (hsmall : packets evs < 2 ^ 53) {a : TAction} {m : Machine} {ra : RtAcct}
    (hm : t.machines[a.machine]? = some m) (hra : p.2[a.machine]? = some ra) (hq : QPad p.1 ra m a) :
    badAct t evs a = false := by
  cases a with
  | sendPadding tmo b r mi =>
    obtain ⟨hp, hn⟩ := hc.at_ mi _ hra
    simp only [QPad] at hq
    rw [hp, hn, hc.padAll, hc.normal, hc.frac] at hq
    have hm' : t.machines[mi]? = some m := hm
    simp only [badAct, hm', padOK_of_F m t.fp evs mi hsmall hq]
    rfl
  | _ => rfl

theorem monitor_model (ms : List Machine) (fp fb : F64) (t0 : Int) (rng : σ) (h : List Call)
    (hsmall : packets (events h) < 2 ^ 53) :
    C02.monitor (LL.modelTrace ρ ms fp fb t0 rng h) = none := by
  unfold C02.monitor
  refine LL.callRecs_accept ρ (go := C02.monitor.go _)
    (fun h hist s => LL.Live ms s ∧ CntRel hist (Acct.ofFw (Fw.init0 ms fp fb t0 rng)) (Acct.ofFw s) ∧
      packets (hist ++ events h) < 2 ^ 53)
    (go_nil _) (go_fault _) ?_ h 1 [] _
    ⟨LL.Live.init ρ ms fp fb t0 rng, init_acct ρ ms fp fb t0 rng ▸ CntRel.refl _, hsmall⟩
  rintro i hist s c h cs ⟨hL, hc, hsmall⟩ hok
  have hc' := hc.trans (CntRel.call c.1 c.2 _)
  rw [show hist ++ events (c :: h) = hist ++ c.1 ++ events h by simp [events]] at hsmall
  refine ⟨hist ++ c.1, ⟨hL.call ρ c, by rw [triggerEvents_acct, ofFw_resetLog]; exact hc', hsmall⟩,
    go_ok _ i hist _ _ ((LL.resOf_ok _).2 hok) (fun hl a ha => ?_)⟩
  obtain ⟨e, (he : c.1 = [e])⟩ := List.length_eq_one_iff.1 hl
  change a ∈ (triggerEvents ρ c.1 c.2 (LL.resetLog s)).actionsOut at ha
  show badAct _ (hist ++ c.1) a = false
  rw [he] at ha hc'
  rw [packets_append] at hsmall
  obtain ⟨m, ra, hm, hra, hq⟩ := single_gated ρ gateConseq_QPad hL e c.2 ha
  exact he ▸ test_ok (Cnt.ofRel hc') (by rw [← he]; omega) hm hra hq

/-! Beyond 2^53 packets the monitor rejects a trace of the model. A batch of `n` PaddingSent
reports for an id `k` no machine has only bumps the framework-wide padding counter, so the state after it is an explicit term for every `n` (no evaluation of the
batch needed); a following single-event call is then a closed computation. -/

/-- the framework-wide padding counter raised by `n` -/
def bump (n : Nat) (s : Fw σ) : Fw σ := { s with g := { s.g with paddingSent := s.g.paddingSent + n } }

theorem processEvent_pad_unknown (s : Fw σ) (k : Nat) (hk : s.rt.length ≤ k) :
    processEvent ρ (.paddingSent k) s = bump 1 s := by
  simp [processEvent, bump, hk]

theorem fold_pad_unknown (n k : Nat) : ∀ (s : Fw σ), s.rt.length ≤ k →
    (List.replicate n (TEvent.paddingSent k)).foldl (fun s e => processEvent ρ e s) s = bump n s := by
  induction n with
  | zero => intro s _; rfl
  | succ n ih =>
    intro s hk
    rw [List.replicate_succ, List.foldl_cons, processEvent_pad_unknown ρ s k hk, ih (bump 1 s) hk]
    simp [bump, Nat.add_assoc, Nat.add_comm 1 n]

theorem triggerEvents_pad_unknown (n k : Nat) (t : Int) (s : Fw σ) (hk : s.rt.length ≤ k)
    (hsig : s.signalPending = none) :
    triggerEvents ρ (List.replicate n (.paddingSent k)) t s = bump n (s.callStart t) := by
  unfold triggerEvents
  rw [fold_pad_unknown ρ n k _ (by simpa [Fw.callStart] using hk)]
  exact C09.sr_round_none ρ _ hsig

theorem go_reject (t : FwTrace) (i : Nat) (hist : List TEvent) (c : CallRec) (cs : List CallRec)
    (h : c.res = .ok) (hl : c.events.length = 1) (a : TAction) (ha : a ∈ c.actions)
    (hb : badAct t (hist ++ c.events) a = true) : C02.monitor.go t i hist (c :: cs) ≠ none := by
  rw [C02.monitor.go]
  simp only [h, bne_self_eq_false, Bool.false_eq_true, if_false, hl, beq_self_eq_true, if_true]
  generalize hfind : List.find? _ c.actions = r
  have hr : c.actions.find? (badAct t (hist ++ c.events)) = r := hfind
  cases r with
  | some x => simp
  | none =>
    rw [List.find?_eq_none] at hr
    exact absurd hb (hr a ha)

theorem callRecs_two (s : Fw σ) (es1 es2 : List TEvent) (t1 t2 : Int) :
    LL.callRecs ρ s [(es1, t1), (es2, t2)] =
      [LL.callRec ρ s (es1, t1), LL.callRec ρ (triggerEvents ρ es1 t1 (LL.resetLog s)) (es2, t2)] := by
  rw [LL.callRecs, LL.callRecs, LL.callRecs]

theorem badAct_pad (t : FwTrace) (hist : List TEvent) (tmo : Nat) (b r : Bool) (mi : Nat) (m : Machine)
    (hmi : t.machines[mi]? = some m)
    (hpad : C02.padOK m t.fp (C02.countPad mi hist) (C02.countNormal hist) (C02.countPadAll hist) = false) :
    badAct t hist (.sendPadding tmo b r mi) = true := by
  simp only [badAct, hmi, hpad, Bool.not_false]

/-- a batch followed by a single-event call with a rejected action -/
theorem reject_two (T : FwTrace) (c1 c2 : CallRec) (h1 : c1.res = .ok) (hl1 : c1.events.length ≠ 1)
    (h2 : c2.res = .ok) (hl2 : c2.events.length = 1) (a : TAction) (ha : a ∈ c2.actions)
    (hb : badAct T ([] ++ c1.events ++ c2.events) a = true) : C02.monitor.go T 1 [] [c1, c2] ≠ none := by
  rw [go_ok T 1 [] c1 [c2] h1 (fun h => absurd h hl1)]
  exact go_reject T 2 _ c2 [] h2 hl2 a ha hb

theorem counts_big (n k mi : Nat) (e : TEvent) (hkm : k ≠ mi) :
    C02.countPad mi ([] ++ List.replicate n (.paddingSent k) ++ [e]) = C02.countPad mi [e] ∧
    C02.countNormal ([] ++ List.replicate n (.paddingSent k) ++ [e]) = C02.countNormal [e] ∧
    C02.countPadAll ([] ++ List.replicate n (.paddingSent k) ++ [e]) = n + C02.countPadAll [e] := by
  refine ⟨?_, ?_, ?_⟩
  · simp [C02.countPad, List.countP_append, List.countP_replicate, hkm]
  · simp [C02.countNormal, List.countP_append, List.countP_replicate]
  · simp [C02.countPadAll, List.countP_append, List.countP_replicate]

/-- `C02.monitor` rejects a trace of the model with more than 2^53 packets (schema): after a
    batch of `n` PaddingSent reports for an id `k` that no machine has, a single-event call `[e]` in
    which the model returns SendPadding for `mi` although the exact test fails on the counts -/
theorem reject_big (ms : List Machine) (fp fb : F64) (t0 : Int) (rng : σ) (n k : Nat) (t1 t2 : Int) (e : TEvent)
    (tmo : Nat) (b r : Bool) (mi : Nat) (m : Machine)
    (hk : ms.length ≤ k) (hn : n ≠ 1)
    (hf0 : (Fw.init ρ ms fp fb t0 rng).fault = none)
    (hsig : (Fw.init ρ ms fp fb t0 rng).signalPending = none)
    (hres : (triggerEvents ρ [e] t2
      (LL.resetLog (bump n ((LL.resetLog (Fw.init ρ ms fp fb t0 rng)).callStart t1)))).fault = none)
    (ha : TAction.sendPadding tmo b r mi ∈ (triggerEvents ρ [e] t2
      (LL.resetLog (bump n ((LL.resetLog (Fw.init ρ ms fp fb t0 rng)).callStart t1)))).actionsOut)
    (hmi : ms[mi]? = some m) (hkm : k ≠ mi)
    (hpad : C02.padOK m fp (C02.countPad mi [e]) (C02.countNormal [e]) (n + C02.countPadAll [e]) = false) :
    C02.monitor (LL.modelTrace ρ ms fp fb t0 rng [(List.replicate n (.paddingSent k), t1), ([e], t2)]) ≠ none := by
  have hlen : (LL.resetLog (Fw.init ρ ms fp fb t0 rng)).rt.length ≤ k := by
    have h1 := (Inv04.init ρ ms fp fb t0 rng).rtLen
    rw [LL.machines_run (init_run ρ ms fp fb t0 rng)] at h1
    exact h1.trans_le hk
  have hs1 := triggerEvents_pad_unknown ρ n k t1 (LL.resetLog (Fw.init ρ ms fp fb t0 rng)) hlen hsig
  unfold C02.monitor
  show C02.monitor.go _ 1 [] (LL.callRecs ρ (Fw.init ρ ms fp fb t0 rng) _) ≠ none
  rw [callRecs_two]
  refine reject_two _ _ _ ?_ (fun h => hn (List.length_replicate.symm.trans h)) ?_ rfl _ ?_
    (badAct_pad _ ([] ++ List.replicate n (.paddingSent k) ++ [e]) tmo b r mi m hmi ?_)
  · show LL.resOf (triggerEvents ρ _ t1 _).fault = .ok
    rw [hs1]; exact (LL.resOf_ok _).2 hf0
  · show LL.resOf (triggerEvents ρ [e] t2 (LL.resetLog (triggerEvents ρ _ t1 _))).fault = .ok
    rw [hs1]; exact (LL.resOf_ok _).2 hres
  · show _ ∈ (triggerEvents ρ [e] t2 (LL.resetLog (triggerEvents ρ _ t1 _))).actionsOut
    rw [hs1]; exact ha
  · obtain ⟨c1, c2, c3⟩ := counts_big n k mi e hkm
    rw [c1, c2, c3]; exact hpad

end C02acc

namespace C03acc

/-- the monitor's test of one returned action -/
def badAct (t : FwTrace) (now : Int) (b : C03.BlockAcc) (a : TAction) : Bool :=
  match a with
  | .blockOutgoing _ _ _ rp mi =>
    match t.machines[mi]? with
    | some m => !C03.blockOK m.allowedBlockedMicrosec m.maxBlockingFrac t.fb rp t.t0 now b
    | none => true
  | _ => false

theorem go_nil (t : FwTrace) (i : Nat) (b : C03.BlockAcc) : C03.monitor.go t i b [] = none := by
  rw [C03.monitor.go]

theorem go_fault (t : FwTrace) (i : Nat) (b : C03.BlockAcc) (c : CallRec) (cs : List CallRec)
    (h : c.res ≠ .ok) : C03.monitor.go t i b (c :: cs) = none := by
  rw [C03.monitor.go]
  simp [h]

/-- a call that returned `ok` and, if it reports a single event, no action failing the test -/
theorem go_ok (t : FwTrace) (i : Nat) (b : C03.BlockAcc) (c : CallRec) (cs : List CallRec) (h : c.res = .ok)
    (hb : c.events.length = 1 → ∀ a ∈ c.actions, badAct t c.t (C03.blockCall (c.events, c.t) b) a = false) :
    C03.monitor.go t i b (c :: cs) = C03.monitor.go t (i + 1) (C03.blockCall (c.events, c.t) b) cs := by
  rw [C03.monitor.go, h]
  simp only [bne_self_eq_false, Bool.false_eq_true, if_false]
  by_cases hl : c.events.length = 1
  · rw [if_pos (beq_iff_eq.2 hl)]
    generalize hfind : List.find? _ c.actions = r
    have hr : r = none := by
      rw [← hfind, List.find?_eq_none]
      exact fun a ha => Bool.eq_false_iff.1 (hb hl a ha)
    rw [hr]
  · rw [if_neg (fun h => hl (beq_iff_eq.1 h))]

/-- the allowance table of a machine list (ns) -/
def allow (ms : List Machine) (i : Nat) : Nat := (ms[i]?.map (·.allowedBlockedMicrosec * 1000)).getD 0

theorem blk_init (ms : List Machine) (fp fb : F64) (t0 : Int) (rng : σ) :
    BlkRel t0 fb (allow ms) { active := false, started := t0, total := 0 } (Acct.ofFw (Fw.init ρ ms fp fb t0 rng)) := by
  rw [init_acct]
  refine ⟨rfl, rfl, rfl, rfl, rfl, fun j a ha => ?_⟩
  simp only [Acct.ofFw, Fw.init0, List.getElem?_map] at ha
  cases hmj : ms[j]? with
  | none => simp [hmj] at ha
  | some mj =>
    simp only [hmj, Option.map_some, Option.some.injEq] at ha
    subst ha
    simp [allow, hmj]

theorem test_ok {t : FwTrace} {B : C03.BlockAcc} {p : Globals × List RtAcct} {tm : Int}
    (hrel : BlkRel t.t0 t.fb (allow t.machines) B p) (hnow : p.1.now = tm) {a : TAction} {m : Machine}
    {ra : RtAcct} (hm : t.machines[a.machine]? = some m) (hra : p.2[a.machine]? = some ra)
    (hq : QBlock p.1 ra m a) : badAct t tm B a = false := by
  cases a with
  | blockOutgoing tmo dur bp rp mi =>
    have hm' : t.machines[mi]? = some m := hm
    obtain ⟨hp1, hp2, hp3⟩ := hrel.per mi ra hra
    have hal : ra.allowedBlocked = m.allowedBlockedMicrosec * 1000 := by
      rw [hp3]; simp [allow, hm']
    simp only [QBlock, blockOKF] at hq
    rw [hp1, hp2, hal, hrel.active, hrel.started, hrel.total, hrel.start, hrel.frac, hnow] at hq
    have : C03.blockOK m.allowedBlockedMicrosec m.maxBlockingFrac t.fb rp t.t0 tm B = true := by
      simp only [C03.blockOK, C03.blockedNow, Bool.or_eq_true, Bool.and_eq_true, or_assoc]
      exact hq.imp_right (Or.imp_left decide_eq_true)
    simp only [badAct, hm', this]
    rfl
  | _ => rfl

theorem monitor_model (ms : List Machine) (fp fb : F64) (t0 : Int) (rng : σ) (h : List Call) :
    C03.monitor (LL.modelTrace ρ ms fp fb t0 rng h) = none := by
  unfold C03.monitor
  refine LL.callRecs_accept ρ (go := C03.monitor.go _)
    (fun _ b s => LL.Live ms s ∧ BlkRel t0 fb (allow ms) b (Acct.ofFw s))
    (go_nil _) (go_fault _) ?_ h 1 _ _ ⟨LL.Live.init ρ ms fp fb t0 rng, blk_init ρ ms fp fb t0 rng⟩
  rintro i b s c _ cs ⟨hL, hb⟩ hok
  obtain ⟨hrel, hnow⟩ := hb.call c
  refine ⟨C03.blockCall c b, ⟨hL.call ρ c, by rw [triggerEvents_acct, ofFw_resetLog]; exact hrel⟩,
    go_ok _ i b _ _ ((LL.resOf_ok _).2 hok) (fun hl a ha => ?_)⟩
  obtain ⟨e, (he : c.1 = [e])⟩ := List.length_eq_one_iff.1 hl
  change a ∈ (triggerEvents ρ c.1 c.2 (LL.resetLog s)).actionsOut at ha
  show badAct _ c.2 (C03.blockCall c b) a = false
  rw [he] at ha hrel hnow
  obtain ⟨m, ra, hm, hra, hq⟩ := single_gated ρ gateConseq_QBlock hL e c.2 ha
  exact test_ok hrel hnow hm hra hq

end C03acc

end Mb
