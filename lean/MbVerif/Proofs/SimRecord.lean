/-
  The stream of the main loop is ordered by time, does not depend on the output filters, and
  respects the iteration cap.  Recording is a pure function of it: the final stable sort is the
  identity on the (time-ordered) stream, and filtering the stream with the run's filters is
  filtering the recorded events.
-/
import MbVerif.Proofs.SimLoopInd

namespace Mb.Sim
open Mb Mb.SimSpec

section
variable {σ : Type} (ρ : Oracle σ)

theorem loop_stream_sorted (args : Args) : ∀ (fuel : Nat) (st : St σ) (iters cnt : Nat),
    (∀ r ∈ (loop ρ args fuel st iters cnt).stream, st.now ≤ r.ev.time ∧ r.net = isNetwork r.ev) ∧
    (loop ρ args fuel st iters cnt).stream.Pairwise (fun a b => a.ev.time ≤ b.ev.time) := by
  refine loop_induct ρ args (P := fun _ st _ _ o =>
    (∀ r ∈ o.stream, st.now ≤ r.ev.time ∧ r.net = isNetwork r.ev) ∧
    o.stream.Pairwise (fun a b => a.ev.time ≤ b.ev.time)) ?_ ?_ ?_ ?_ ?_
  · exact fun _ _ _ => ⟨fun _ h => (nomatch h), .nil⟩
  · exact fun _ _ _ _ _ _ => ⟨fun _ h => (nomatch h), .nil⟩
  · exact fun _ _ _ _ _ => ⟨fun _ h => (nomatch h), .nil⟩
  · intro n st i c r st' s hs _
    have hsp := step_spec ρ hs
    refine ⟨fun r' hr' => ?_, List.pairwise_singleton _ _⟩
    cases List.mem_singleton.1 hr'
    exact ⟨by omega, hsp.2.2⟩
  · intro n st i c r st' o hs _ ih
    have hsp := step_spec ρ hs
    have hle : ∀ r' ∈ o.stream, r.ev.time ≤ r'.ev.time := fun r' hr' => by
      have := (ih.1 r' hr').1; omega
    refine ⟨fun r' hr' => ?_, List.pairwise_cons.2 ⟨hle, ih.2⟩⟩
    rcases List.mem_cons.1 hr' with rfl | hr'
    · exact ⟨by omega, hsp.2.2⟩
    · exact ⟨by have := hle r' hr'; omega, (ih.1 r' hr').2⟩

/-- two argument records that differ at most in the output filters -/
def sameButFilters (a b : Args) : Prop :=
  a.network = b.network ∧ a.maxTraceLength = b.maxTraceLength ∧ a.maxSimIterations = b.maxSimIterations ∧
  a.continueAfterAllNormal = b.continueAfterAllNormal ∧ a.fpClient = b.fpClient ∧ a.fbClient = b.fbClient ∧
  a.fpServer = b.fpServer ∧ a.fbServer = b.fbServer

theorem stopCheck_nocap (a b : Args) (hab : sameButFilters a b) (hcap : a.maxTraceLength = 0) (st : St σ)
    (iters c c' : Nat) : stopCheck a st iters c = stopCheck b st iters c' := by
  obtain ⟨_, h2, h3, h4, _⟩ := hab
  have hcapb : b.maxTraceLength = 0 := by rw [← h2]; exact hcap
  simp [stopCheck, hcap, hcapb, ← h3, ← h4]

theorem loop_filter_indep (a b : Args) (hab : sameButFilters a b) (hcap : a.maxTraceLength = 0) :
    ∀ (fuel : Nat) (st : St σ) (iters cnt cnt' : Nat),
      loop ρ a fuel st iters cnt = loop ρ b fuel st iters cnt' :=
  fun fuel st iters cnt cnt' =>
    (loop_follow ρ a b (fun _ _ => True) (fun _ => False) (fun _ _ _ _ => trivial)
      (fun st i c c' _ h => stopCheck_nocap a b hab hcap st i c c' ▸ h)
      (fun st i c c' s _ h _ => stopCheck_nocap a b hab hcap st i c c' ▸ h)
      fuel st iters cnt fuel cnt' trivial id (Or.inl rfl)).symm

theorem loop_iters (a : Args) (hm : a.maxSimIterations > 0) : ∀ (fuel : Nat) (st : St σ) (iters cnt : Nat),
    iters < a.maxSimIterations → a.maxSimIterations ≤ fuel + iters →
    (loop ρ a fuel st iters cnt).stream.length + iters ≤ a.maxSimIterations ∧
    (loop ρ a fuel st iters cnt).stop ≠ .loopFuel := by
  refine loop_induct ρ a (P := fun n _ i _ o => i < a.maxSimIterations → a.maxSimIterations ≤ n + i →
    o.stream.length + i ≤ a.maxSimIterations ∧ o.stop ≠ .loopFuel) ?_ ?_ ?_ ?_ ?_
  · intro st i c h1 h2; omega
  · intro n st i c f _ h1 _
    exact ⟨by simp only [List.length_nil]; omega, fun h => nomatch h⟩
  · intro n st i c _ h1 _
    exact ⟨by simp only [List.length_nil]; omega, fun h => nomatch h⟩
  · intro n st i c r st' s _ hsc h1 _
    refine ⟨by simp only [List.length_cons, List.length_nil]; omega, ?_⟩
    rcases stopCheck_eq_some hsc with ⟨rfl, _⟩ | ⟨rfl, _⟩ | ⟨rfl, _⟩ <;> exact fun h => nomatch h
  · intro n st i c r st' o _ hsc ih h1 h2
    have := ih (by have := (stopCheck_eq_none.1 hsc).2.1; omega) (by omega)
    exact ⟨by simp only [List.length_cons]; omega, this.2⟩

end

/-- a stream as the main loop produces it: ordered by time, network flag determined by the event -/
def GoodStream (s : List StepRec) : Prop :=
  (∀ r ∈ s, r.net = isNetwork r.ev) ∧ s.Pairwise (fun a b => a.ev.time ≤ b.ev.time)

theorem record_eq_filter (args : Args) (s : List StepRec) (h : s.Pairwise (fun a b => a.ev.time ≤ b.ev.time)) :
    record args s = (s.filter args.keep).map (·.ev) := by
  unfold record
  apply List.mergeSort_of_pairwise
  rw [List.pairwise_map]
  have := List.Pairwise.filter args.keep h
  exact this.imp (by intro a b hab; simpa using hab)

theorem keep_eq_keepObs (on oc : Bool) (r : StepRec) (h : r.net = isNetwork r.ev) :
    keep on oc r = keepObs on oc r.ev := by
  simp [keep, keepObs, h]

theorem filter_stream_eq (on oc : Bool) (s : List StepRec) (h : ∀ r ∈ s, r.net = isNetwork r.ev) :
    (s.filter (keep on oc)).map (·.ev) = (s.map (·.ev)).filter (keepObs on oc) := by
  rw [List.filter_map]
  congr 1
  apply List.filter_congr
  intro r hr
  simpa using keep_eq_keepObs on oc r (h r hr)

theorem filter_keep_none (s : List StepRec) : s.filter (keep false false) = s := by
  apply List.filter_eq_self.2
  intro r _
  simp [keep]

section
variable {σ : Type}

theorem finish_fault (args : Args) (o : LoopOut σ) (f : SimFault) (h : o.stop = .fault f) :
    finish args o = ⟨[], o.stream, .fault f, none⟩ := by
  unfold finish; rw [h]

theorem finish_ok (args : Args) (o : LoopOut σ) (h : ∀ f, o.stop ≠ .fault f) :
    finish args o = ⟨record args o.stream, o.stream, o.stop, o.final⟩ := by
  unfold finish
  cases hs : o.stop with
  | fault f => exact absurd hs (h f)
  | queueEmpty | maxTrace | maxIter | noNormal | loopFuel => rfl

theorem finish_stop (args : Args) (o : LoopOut σ) : (finish args o).stop = o.stop := by
  unfold finish
  cases hs : o.stop <;> rfl

theorem finish_stream (args : Args) (o : LoopOut σ) : (finish args o).stream = o.stream := by
  unfold finish
  cases hs : o.stop <;> rfl

theorem finish_trace (args : Args) (o : LoopOut σ) (hp : o.stream.Pairwise (fun a b => a.ev.time ≤ b.ev.time)) :
    (finish args o).trace = if o.stop.isFault then [] else (o.stream.filter args.keep).map (·.ev) := by
  cases hs : o.stop with
  | fault f => rw [finish_fault args o f hs]; simp [Stop.isFault]
  | queueEmpty | maxTrace | maxIter | noNormal | loopFuel =>
    rw [finish_ok args o (by intro f h; rw [hs] at h; cases h)]
    simp only [Stop.isFault]
    exact record_eq_filter args _ hp

end

theorem sameButFilters_unfiltered (a : Args) : sameButFilters a a.unfiltered := by
  simp [sameButFilters, Args.unfiltered]

theorem initState_unfiltered {σ : Type} (ρ : Oracle σ) (mc ms : List Machine) (sq : SimQueue) (a : Args) (orc : σ) :
    initState ρ mc ms sq a.unfiltered orc = initState ρ mc ms sq a orc := rfl

/-! a concrete two-packet state without machines, built directly so that the kernel can evaluate
    runs from it (used by the non-vacuity examples of the property files).  `exArgs` filters on
    client events so that the examples see a filter that removes something: the run has events of
    both sides. -/
def exArgs : Args :=
  { network := ⟨10, none⟩, maxTraceLength := 0, maxSimIterations := 0, continueAfterAllNormal := false,
    onlyClientEvents := true, onlyNetworkActivity := false, fpClient := 0, fbClient := 0, fpServer := 0, fbServer := 0 }
def exOracle : Oracle Unit := ⟨fun u => (0, u), fun _ u => (0, u)⟩
def exSide : Side Unit :=
  { fw := Fw.init exOracle [] 0 0 0 (), schedAction := [], schedTimer := [], blockingUntil := none, blockingBypassable := false }
def exState : Option (St Unit) :=
  let sq := parseTrace [(0, true), (1000, false)] 10
  match Bottleneck.new ⟨10, none⟩ 1000000000 sq.maxPps with
  | .ok net => some { sq := sq, client := exSide, server := exSide, net := net, now := 0, orc := () }
  | .error _ => none

end Mb.Sim
