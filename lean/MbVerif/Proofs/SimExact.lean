/-
  C14, the exact identity: without machines, for a time-ordered parsed trace, every packet is
  sent into the tunnel at exactly its trace time and received exactly one network delay later.
  Ingredients: the heap order (the served event is a minimum of everything queued, so nothing is
  ever served late), the window-covering lemma (the trace-derived packets-per-second limit is
  never exceeded, so the bottleneck adds nothing) and exact counting of the queued events.
-/
import MbVerif.Proofs.SimOnlyPackets
import MbVerif.Proofs.HeapOrder
import MbVerif.Proofs.SimWindow

namespace Mb.Sim
open Mb

theorem simEvent_totalPre : TotalPre SimEvent.le := by
  constructor
  · intro a b
    simp only [SimEvent.le, keyLe, Bool.or_eq_true, Bool.and_eq_true, decide_eq_true_eq, beq_iff_eq]
    omega
  · intro a b c
    simp only [SimEvent.le, keyLe, Bool.or_eq_true, Bool.and_eq_true, decide_eq_true_eq, beq_iff_eq]
    omega

theorem SimEvent.le_time {y x : SimEvent} (h : SimEvent.le y x = true) : x.time ≤ y.time := by
  simp only [SimEvent.le, keyLe, Bool.or_eq_true, Bool.and_eq_true, decide_eq_true_eq, beq_iff_eq] at h
  omega

def SimQueue.AllE (s : SimQueue) (p : SimEvent → Prop) : Prop :=
  ∀ c qi, ∀ e ∈ ((s.side c).heap qi).data, p e

/-- all queued events, in the order in which `tcount` adds up the eight heaps -/
def SimQueue.events (s : SimQueue) : List SimEvent :=
  s.client.base.data ++ s.client.blocking.data ++ s.client.bypassable.data ++ s.client.internal.data ++
    (s.server.base.data ++ s.server.blocking.data ++ s.server.bypassable.data ++ s.server.internal.data)

theorem tcount_eq_countP (P : SimEvent → Bool) (s : SimQueue) : tcount P s = s.events.countP P := by
  simp only [SimQueue.events, List.countP_append, tcount, qcount]

theorem SimQueue.len_eq_length (s : SimQueue) : s.len = s.events.length := by
  simp only [SimQueue.events, List.length_append, SimQueue.len, EventQueue.len, Heap.len]
  omega

theorem SimQueue.mem_events {s : SimQueue} {e : SimEvent} :
    e ∈ s.events ↔ ∃ c qi, e ∈ ((s.side c).heap qi).data := by
  simp only [SimQueue.events, List.mem_append]
  constructor
  · rintro ((((h | h) | h) | h) | (((h | h) | h) | h))
    · exact ⟨true, .base, h⟩
    · exact ⟨true, .blocking, h⟩
    · exact ⟨true, .bypassable, h⟩
    · exact ⟨true, .internal, h⟩
    · exact ⟨false, .base, h⟩
    · exact ⟨false, .blocking, h⟩
    · exact ⟨false, .bypassable, h⟩
    · exact ⟨false, .internal, h⟩
  · rintro ⟨c, qi, h⟩
    cases c <;> cases qi <;> simp only [SimQueue.side, EventQueue.heap, if_true, Bool.false_eq_true, if_false] at h <;>
      simp only [h, true_or, or_true]

theorem tcount_zero_iff {P : SimEvent → Bool} {sq : SimQueue} :
    tcount P sq = 0 ↔ sq.AllE fun e => P e = false := by
  rw [tcount_eq_countP, List.countP_eq_zero]
  constructor
  · intro h c qi e he
    simpa using h e (SimQueue.mem_events.2 ⟨c, qi, he⟩)
  · intro h e he
    obtain ⟨c, qi, he⟩ := SimQueue.mem_events.1 he
    simp [h c qi e he]

theorem tcount_le_len (P : SimEvent → Bool) (sq : SimQueue) : tcount P sq ≤ sq.len := by
  rw [tcount_eq_countP, SimQueue.len_eq_length]; exact List.countP_le_length

theorem tcount_mono {P Q : SimEvent → Bool} (h : ∀ e, P e = true → Q e = true) (sq : SimQueue) :
    tcount P sq ≤ tcount Q sq := by
  rw [tcount_eq_countP, tcount_eq_countP]; exact List.countP_mono_left (fun e _ he => h e he)

/-- `SimQueue::peek` without aggregate delays, all queued events within `Duration::MAX` after
    the clock: the selected event is the head of the named heap of its side, its offset is exact
    and it is not later than the head of any heap of either side -/
theorem SimQueue.peek_min {s : SimQueue} {now : Int} {ev : SimEvent} {qi : Queue} {d : Nat} (hw : s.WF)
    (hr : s.AllE fun e => now ≤ e.time ∧ e.time - now ≤ durMax)
    (h : s.peek 0 0 now = .ok (some ev, qi, d)) :
    ((s.side ev.client).heap qi).peek = some ev ∧ (d : Int) = ev.time - now ∧
    ∀ c qj r, ((s.side c).heap qj).peek = some r → ev.time ≤ r.time := by
  obtain ⟨g1, g2⟩ := SimQueue.peek_own hw h
  obtain ⟨_, _, _, g3⟩ := SimQueue.peek_spec h
  have hrng := hr _ qi ev (Heap.peek_mem g1)
  simp only [qShift_zero, Int.add_zero, ite_self] at g2 g3
  have hd := dsince_in_range hrng.1 hrng.2
  refine ⟨g1, g2 ▸ hd, fun c qj r hrr => ?_⟩
  have hr2 := hr c qj r (Heap.peek_mem hrr)
  have := dsince_in_range hr2.1 hr2.2
  have := g3 c qj r hrr
  omega

/-- the heap `EventQueue::push` routes an event to -/
def route (e : SimEvent) : Queue :=
  match e.event with
  | .tunnelSent => if e.bypass then .bypassable else .blocking
  | .normalSent => .base
  | _ => .internal

theorem EventQueue.push_heap (q : EventQueue) (e : SimEvent) (qi : Queue) :
    (q.push e).heap qi = if qi = route e then (q.heap qi).push e else q.heap qi := by
  unfold EventQueue.push route
  cases hev : e.event <;> cases hb : e.bypass <;> cases qi <;> simp [EventQueue.heap]

theorem SimQueue.pushSim_heap (s : SimQueue) (e : SimEvent) (c : Bool) (qi : Queue) :
    ((s.pushSim e).side c).heap qi =
      if c = e.client ∧ qi = route e then ((s.side c).heap qi).push e else (s.side c).heap qi := by
  unfold SimQueue.pushSim SimQueue.setSide SimQueue.side
  cases c <;> cases hc : e.client <;> simp [EventQueue.push_heap]

theorem EventQueue.pop_qcount0 (P : SimEvent → Bool) {q q' : EventQueue} {qi : Queue} {e : SimEvent}
    (h : q.pop qi 0 = .ok (some (e, q'))) : qcount P q = qcount P q' + b2n (P e) := by
  obtain ⟨hd, hc, he⟩ := pop_qcount P h
  rw [qShift_zero, Int.add_zero] at he
  rw [he]; exact hc

theorem SimQueue.pop_heap0 {s s' : SimQueue} {qi : Queue} {cl : Bool} {e : SimEvent}
    (h : s.pop qi cl 0 = .ok (some (e, s'))) :
    ∃ h', Heap.pop SimEvent.le ((s.side cl).heap qi) = some (e, h') ∧
      ∀ c qj, (s'.side c).heap qj = if c = cl ∧ qj = qi then h' else (s.side c).heap qj := by
  obtain ⟨hd, h', hp, he, hq⟩ := SimQueue.pop_heap h
  rw [qShift_zero, Int.add_zero] at he
  exact ⟨h', he ▸ hp, hq⟩

def SimQueue.Ord (s : SimQueue) : Prop := ∀ c qi, HeapInv SimEvent.le ((s.side c).heap qi).data

theorem SimQueue.pushSim_ord {s : SimQueue} (e : SimEvent) (h : s.Ord) : (s.pushSim e).Ord := by
  intro c qi
  rw [SimQueue.pushSim_heap]
  split
  · exact heapInv_push simEvent_totalPre e (h c qi)
  · exact h c qi

theorem SimQueue.pushSim_allE {s : SimQueue} {p : SimEvent → Prop} {e : SimEvent} (h : s.AllE p) (he : p e) :
    (s.pushSim e).AllE p := by
  intro c qi y hy
  rw [SimQueue.pushSim_heap] at hy
  split at hy
  · rcases heap_push_mem hy with hy | hy
    · exact h c qi y hy
    · exact hy ▸ he
  · exact h c qi y hy

theorem SimQueue.allE_mono {s : SimQueue} {p p' : SimEvent → Prop} (h : s.AllE p) (hpp : ∀ e, p e → p' e) : s.AllE p' :=
  fun c qi e he => hpp e (h c qi e he)

/-- popping (no aggregate delay) keeps the heap order, keeps "for all", returns the head of the
    named heap, and — if that head is not later than any other head — leaves only events that
    are not earlier than it -/
theorem SimQueue.pop_spec0 {s s' : SimQueue} {qi : Queue} {cl : Bool} {e : SimEvent} (ho : s.Ord)
    (h : s.pop qi cl 0 = .ok (some (e, s'))) :
    s'.Ord ∧ (∀ p : SimEvent → Prop, s.AllE p → s'.AllE p ∧ p e) ∧ ((s.side cl).heap qi).peek = some e ∧
    ((∀ c qj r, ((s.side c).heap qj).peek = some r → e.time ≤ r.time) → s'.AllE fun y => e.time ≤ y.time) := by
  obtain ⟨h', hp, hq⟩ := SimQueue.pop_heap0 h
  have hpk := (heap_pop_countP (fun _ => true) SimEvent.le hp).2
  -- a heap of `s'` is the popped one or is unchanged
  have hcase : ∀ c qj, (c = cl ∧ qj = qi ∧ (s'.side c).heap qj = h') ∨
      (s'.side c).heap qj = (s.side c).heap qj := by
    intro c qj
    rw [hq]
    by_cases hc : c = cl ∧ qj = qi
    · exact Or.inl ⟨hc.1, hc.2, if_pos hc⟩
    · exact Or.inr (if_neg hc)
  refine ⟨fun c qj => ?_, fun p hall => ⟨fun c qj y hy => ?_, hall cl qi e (Heap.peek_mem hpk)⟩, hpk,
    fun hmin c qj y hy => ?_⟩
  · rcases hcase c qj with ⟨rfl, rfl, he⟩ | he <;> rw [he]
    · exact heapInv_pop simEvent_totalPre (ho c qj) hp
    · exact ho c qj
  · rcases hcase c qj with ⟨rfl, rfl, he⟩ | he <;> rw [he] at hy
    · exact hall c qj y (heap_pop_mem hp y hy)
    · exact hall c qj y hy
  · rcases hcase c qj with ⟨rfl, rfl, he⟩ | he <;> rw [he] at hy
    · exact SimEvent.le_time ((heap_pop_max simEvent_totalPre (ho c qj) hp).2 y hy)
    · cases hd : ((s.side c).heap qj).data with
      | nil => rw [hd] at hy; cases hy
      | cons r rest =>
        have hpr : ((s.side c).heap qj).peek = some r := by simp [Heap.peek, hd]
        have h1 := hmin c qj r hpr
        have := SimEvent.le_time (heap_root_max simEvent_totalPre (ho c qj) y hy r hpr)
        omega

/-- what a plain packet event queues when it is processed: NormalSent → TunnelSent (same side and
    time), TunnelSent → TunnelRecv (other side, one network delay later), TunnelRecv →
    NormalRecv (same side and time) -/
def succL (delay : Nat) (e : SimEvent) : List SimEvent :=
  match e.event with
  | .normalSent => [⟨.tunnelSent, e.time, e.client, false, false, false⟩]
  | .tunnelSent => [⟨.tunnelRecv, e.time + delay, !e.client, false, false, false⟩]
  | .tunnelRecv => [⟨.normalRecv, e.time, e.client, false, false, false⟩]
  | _ => []

/-- the bottleneck after counting a packet of side `c` at `now` -/
def winUpd (net : Bottleneck) (c : Bool) (now : Int) : Bottleneck :=
  if c then { net with clientWindow := (net.clientWindow.add now).2 }
  else { net with serverWindow := (net.serverWindow.add now).2 }

def winOf (net : Bottleneck) (c : Bool) : WindowCount := if c then net.clientWindow else net.serverWindow

/-- within the packets-per-second limit `sample` only counts the packet: the delay is the configured one -/
theorem Bottleneck.sample_within {b : Bottleneck} {now : Int} {c : Bool} (hcount : ((winOf b c).add now).1 ≤ b.ppsLimit) :
    b.sample now c = .ok ((b.network.delay, none), winUpd b c now) := by
  have hlim : (winUpd b c now).ppsLimit = b.ppsLimit := by unfold winUpd; split <;> rfl
  have hdl : (winUpd b c now).network = b.network := by unfold winUpd; split <;> rfl
  have hd : (winUpd b c now).ppsDelay ((winOf b c).add now).1 = .ok 0 := by
    unfold Bottleneck.ppsDelay
    rw [hlim, if_neg (by omega)]; rfl
  have hs : b.sample now c = ((winUpd b c now).ppsDelay ((winOf b c).add now).1 >>= (winUpd b c now).sampleResult) := by
    unfold Bottleneck.sample winUpd winOf
    cases c <;> rfl
  rw [hs, hd]
  show (winUpd b c now).sampleResult 0 = _
  unfold Bottleneck.sampleResult
  rw [if_neg (by omega), hdl]; rfl

theorem netTunnelSent_within {next : SimEvent} {sq : SimQueue} {net : Bottleneck} {now : Int}
    (hpad : next.containsPadding = false) (hnow : next.time = now)
    (hcount : ((winOf net next.client).add now).1 ≤ net.ppsLimit) :
    netTunnelSent next sq net now =
      .ok (sq.pushSim ⟨.tunnelRecv, next.time + net.network.delay, !next.client, false, false, false⟩,
        winUpd net next.client now) := by
  unfold netTunnelSent
  rw [Bottleneck.sample_within hcount]
  have : recvFor next net.network.delay now = ⟨.tunnelRecv, next.time + net.network.delay, !next.client, false, false, false⟩ := by
    unfold recvFor
    rw [hpad, Int.max_eq_left (by omega)]; rfl
  simp only [bind, Except.bind, ppsAgg, pure, Except.pure, this]

/-- the network stack on a plain packet within the packets-per-second limit queues the packet's
    successor and, for a TunnelSent, counts it in the sender's window -/
theorem simNetworkStack_within {next : SimEvent} {sq : SimQueue} {byp : Bool} {net : Bottleneck} {now : Int}
    (hok : pktOK next = true) (hnow : next.time = now)
    (hcount : next.event = .tunnelSent → ((winOf net next.client).add now).1 ≤ net.ppsLimit) :
    simNetworkStack next sq byp net now = .ok (SimSpec.isNetwork next, pushAll sq (succL net.network.delay next),
      if next.event = .tunnelSent then winUpd net next.client now else net) := by
  have hpad := pktOK_pad hok
  unfold simNetworkStack SimSpec.isNetwork succL pushAll
  rcases pktOK_event hok with hev | hev | hev | hev <;> simp only [hev]
  · rfl
  · rw [netTunnelSent_within hpad hnow (hcount hev)]; rfl
  · simp only [hpad]; rfl
  · rfl
theorem SimQueue.pop_tcount0 (P : SimEvent → Bool) {s s' : SimQueue} {qi : Queue} {cl : Bool} {e : SimEvent}
    (h : s.pop qi cl 0 = .ok (some (e, s'))) : tcount P s = tcount P s' + b2n (P e) := by
  obtain ⟨q', hr, rfl⟩ := SimQueue.pop_ok_iff.1 h
  have := EventQueue.pop_qcount0 P hr
  cases cl <;> simp only [tcount, SimQueue.side, SimQueue.setSide, if_true, Bool.false_eq_true, if_false] at this ⊢ <;> omega
theorem pushAll_ord : ∀ (l : List SimEvent) (sq : SimQueue), sq.Ord → (pushAll sq l).Ord := by
  intro l
  induction l with
  | nil => intro sq h; exact h
  | cons a r ih => intro sq h; exact ih _ (SimQueue.pushSim_ord a h)

theorem pushAll_allE {p : SimEvent → Prop} : ∀ (l : List SimEvent) (sq : SimQueue), sq.AllE p → (∀ e ∈ l, p e) →
    (pushAll sq l).AllE p := by
  intro l
  induction l with
  | nil => intro sq h _; exact h
  | cons a r ih =>
    intro sq h hl
    exact ih _ (SimQueue.pushSim_allE h (hl a (by simp))) (fun e he => hl e (by simp [he]))

/-- `WindowCount::add` on a time-ordered window at a time not before its stamps -/
theorem window_add_spec (w : WindowCount) (t : Int) (hasc : Asc w.stamps) (hle : ∀ o ∈ w.stamps, o ≤ t) :
    (w.add t).1 = w.stamps.countP (fun x => decide (x ≤ t) && inWin w.window t x) + 1 ∧
    (w.add t).2.window = w.window ∧ Asc (w.add t).2.stamps ∧ (∀ o ∈ (w.add t).2.stamps, o ≤ t) ∧
    ∀ p : Int → Bool, (w.add t).2.stamps.countP p ≤ w.stamps.countP p + b2n (p t) := by
  have hasc' : Asc (w.stamps ++ [t]) := by
    unfold Asc
    rw [List.pairwise_append]
    refine ⟨hasc, by simp, ?_⟩
    intro a ha b hb
    simp only [List.mem_singleton] at hb
    subst hb; exact hle a ha
  have hle' : ∀ o ∈ w.stamps ++ [t], o ≤ t := by
    intro o ho
    simp only [List.mem_append, List.mem_singleton] at ho
    rcases ho with ho | ho
    · exact hle o ho
    · omega
  have hpr := prune_eq_filter w.window t (w.stamps ++ [t]) hasc' hle'
  have htt : inWin w.window t t = true := by
    unfold inWin dsince durSince; simp
  unfold WindowCount.add
  simp only []
  rw [hpr]
  refine ⟨?_, by first | rfl | trivial, ?_, ?_, ?_⟩
  · rw [← List.countP_eq_length_filter, List.countP_append]
    simp only [List.countP_cons, List.countP_nil, htt, if_true, Nat.zero_add, Nat.add_right_cancel_iff]
    apply List.countP_congr
    intro x hx
    have := hle x hx
    simp [this]
  · exact List.Pairwise.sublist List.filter_sublist hasc'
  · intro o ho
    exact hle' o (List.mem_filter.1 ho).1
  · intro p
    have h1 : (List.filter (inWin w.window t) (w.stamps ++ [t])).countP p ≤ (w.stamps ++ [t]).countP p :=
      List.Sublist.countP_le List.filter_sublist
    rw [List.countP_append] at h1
    have : List.countP p [t] = b2n (p t) := by simp [List.countP_cons, b2n]
    omega

/-- the static form of the window bound: in a time-ordered list whose every "count at a
    packet" is at most `lim`, the closed window of length `W` ending at any packet holds at most
    `lim` packets that are not later than it -/
theorem static_window_bound (W lim : Nat) (L : List Int) (hasc : Asc L)
    (hM : ∀ P y R, L = P ++ y :: R → cnt W P y ≤ lim) (t : Int) :
    ∀ (R P : List Int), L = P ++ t :: R → L.countP (fun x => decide (x ≤ t) && inWin W t x) ≤ lim := by
  intro R
  induction R with
  | nil =>
    intro P hL
    have := hM P t [] hL
    unfold cnt at this
    rw [← hL] at this
    have h2 : L.countP (fun x => decide (x ≤ t) && inWin W t x) ≤ L.countP (inWin W t) := by
      apply List.countP_mono_left
      intro x _ hx
      simp only [Bool.and_eq_true] at hx
      exact hx.2
    rw [← List.countP_eq_length_filter] at this
    omega
  | cons x R' ih =>
    intro P hL
    by_cases hxt : x = t
    · subst hxt
      exact ih (P ++ [x]) (by rw [hL]; simp)
    · -- everything after `t` is strictly later
      have hasc2 := hasc
      rw [hL] at hasc2
      have hRgt : ∀ z ∈ x :: R', t < z := by
        have h1 := (List.pairwise_append.1 hasc2).2.1
        have h2 := List.pairwise_cons.1 h1
        have htx : t ≤ x := h2.1 x (by simp)
        have h3 := List.pairwise_cons.1 h2.2
        intro z hz
        simp only [List.mem_cons] at hz
        rcases hz with hz | hz
        · subst hz; omega
        · have := h3.1 z hz; omega
      have := hM P t (x :: R') hL
      unfold cnt at this
      have h0 : (x :: R').countP (fun z => decide (z ≤ t) && inWin W t z) = 0 := by
        rw [List.countP_eq_zero]
        intro z hz
        have := hRgt z hz
        simp; omega
      have hsplit : L = (P ++ [t]) ++ (x :: R') := by rw [hL]; simp
      rw [hsplit, List.countP_append, h0]
      have h2 : (P ++ [t]).countP (fun x => decide (x ≤ t) && inWin W t x) ≤ (P ++ [t]).countP (inWin W t) := by
        apply List.countP_mono_left
        intro x _ hx
        simp only [Bool.and_eq_true] at hx
        exact hx.2
      rw [← List.countP_eq_length_filter] at this
      omega

section
variable {σ : Type} (ρ : Oracle σ)

/-- the bottleneck of a run in which nothing was ever delayed -/
structure NetQuiet (delay lim : Nat) (net : Bottleneck) : Prop where
  ca : net.clientAgg = 0
  sa : net.serverAgg = 0
  aq : net.aggQueue.data = []
  dl : net.network.delay = delay
  lm : net.ppsLimit = lim

theorem NetQuiet.aggOff {delay lim : Nat} {st : St σ} (hq : NetQuiet delay lim st.net) : st.aggOff = durMax := by
  unfold St.aggOff Bottleneck.peekAggregateDelay Heap.peek
  rw [hq.aq]; rfl

/-- without machines and aggregate delays `peek_queue` hands through what `SimQueue::peek` reports -/
theorem peekQueue_exact {st : St σ} {delay lim : Nat} (hn : NoMach st) (hq : NetQuiet delay lim st.net)
    {r : Nat × Queue × Bool} (h : peekQueue st durMax = .ok r) :
    r.1 = durMax ∨ ∃ pk, st.sq.peek 0 0 st.now = .ok (some pk, r.2.1, r.1) ∧ r.2.2 = pk.client := by
  rcases peekQueue_ok_iff.1 h with ⟨_, hr⟩ | ⟨_, _, _, _, _, hr⟩ | ⟨pk, qu, dur, hpk, _, _, hr⟩ | ⟨pk, _, _, _, _, hp, _⟩
  · exact Or.inl (by rw [hr])
  · exact Or.inl (by rw [hr])
  · rw [hq.ca, hq.sa] at hpk
    exact Or.inr ⟨pk, by rw [hr]; exact hpk, by rw [hr]⟩
  · rw [hn.passes pk] at hp; cases hp

theorem pickDecide_exact {st : St σ} {delay lim : Nat} (hn : NoMach st) (hq : NetQuiet delay lim st.net) {p : Pick}
    (h : pickDecide st = .ok p) :
    p = .nothing ∨ p = .agg ∨
      ∃ pk qid dur, p = .queue dur qid pk.client ∧ st.sq.peek 0 0 st.now = .ok (some pk, qid, dur) := by
  rcases pickDecide_nomach hn h with h0 | h0 | ⟨q, qid, c, rfl⟩
  · exact Or.inl h0
  · exact Or.inr (Or.inl h0)
  · right; right
    obtain ⟨r, hr, hp⟩ := pickDecide_ok_iff.1 h
    obtain ⟨hs, hi, hb⟩ := hn.offsets
    have hb' : st.bound = durMax := by unfold St.bound; rw [hs, hi, hb, hq.aggOff]; simp
    obtain ⟨rfl, h1, _⟩ := Pick.choose_queue hp
    rw [hb'] at hr
    rcases peekQueue_exact hn hq hr with h2 | ⟨pk, hpk, hc⟩
    · rw [hq.aggOff] at h1; simp only [] at h2; omega
    · exact ⟨pk, qid, q, by rw [show c = pk.client from hc], hpk⟩
/-- `pick_next` without machines and aggregate delays: it pops the selected event, which is not
    later than the head of any heap, unchanged (not moved in time), and changes nothing else -/
theorem pickNext_exact {delay lim : Nat} (fuel : Nat) (st st' : St σ) (e : SimEvent) (hn : NoMach st)
    (hq : NetQuiet delay lim st.net) (hw : st.sq.WF)
    (hr : st.sq.AllE fun e => st.now ≤ e.time ∧ e.time - st.now ≤ durMax)
    (h : pickNext fuel st = some (.ok (some e, st'))) :
    st'.client = st.client ∧ st'.server = st.server ∧ st'.net = st.net ∧ st'.now = st.now ∧ st'.orc = st.orc ∧
    ∃ qi, st.sq.pop qi e.client 0 = .ok (some (e, st'.sq)) ∧
      (∀ c qj r, ((st.sq.side c).heap qj).peek = some r → e.time ≤ r.time) := by
  refine pickNext_ok_induct (motive := fun st o st' => NoMach st → NetQuiet delay lim st.net → st.sq.WF →
    (st.sq.AllE fun e => st.now ≤ e.time ∧ e.time - st.now ≤ durMax) → ∀ e, o = some e →
    st'.client = st.client ∧ st'.server = st.server ∧ st'.net = st.net ∧ st'.now = st.now ∧ st'.orc = st.orc ∧
    ∃ qi, st.sq.pop qi e.client 0 = .ok (some (e, st'.sq)) ∧
      (∀ c qj r, ((st.sq.side c).heap qj).peek = some r → e.time ≤ r.time))
    ?_ ?_ ?_ ?_ ?_ ?_ fuel st st' _ h hn hq hw hr e rfl
  · intro st _ _ _ _ _ e h; cases h
  · intro st st1 o st' _ ha _ _ hq
    have := (pickAgg_ok_iff.1 ha).1
    unfold Heap.len at this
    rw [hq.aq] at this; exact absurd rfl this
  · intro st b c e st' hd _ hn
    rcases pickDecide_nomach hn hd with h | h | ⟨_, _, _, h⟩ <;> cases h
  · intro st q qid c e st' hd hpq hn hq hw hr e' he
    cases he
    rcases pickDecide_exact hn hq hd with h0 | h0 | ⟨pk, qid', dur, h0, hpk⟩
    · cases h0
    · cases h0
    · cases h0
      obtain ⟨m1, m2, m3⟩ := SimQueue.peek_min hw hr hpk
      obtain ⟨tmp, sq, hpop, rfl, rfl⟩ := pickQueue_ok_iff.1 hpq
      have hagg : st.net.agg pk.client = 0 := by
        unfold Bottleneck.agg; cases pk.client <;> simp [hq.ca, hq.sa]
      rw [hagg] at hpop
      -- the popped event is the one peeked, and it is not moved
      obtain ⟨_, hpk2, _⟩ := SimQueue.pop_heap0 hpop
      have hpk3 := (heap_pop_countP (fun _ => true) SimEvent.le hpk2).2
      rw [m1] at hpk3
      cases hpk3
      have hnm : ¬ st.now + (q : Int) > pk.time := by omega
      rw [Int.max_eq_left (Int.not_lt.1 hnm), if_neg hnm]
      exact ⟨rfl, rfl, rfl, rfl, rfl, qid, hpop, m3⟩
  · intro st st1 i o st' hd _ _ hn
    rcases pickDecide_nomach hn hd with h | h | ⟨_, _, _, h⟩ <;> cases h
  · intro st st1 s o st' hd _ _ hn
    rcases pickDecide_nomach hn hd with h | h | ⟨_, _, _, h⟩ <;> cases h

theorem pushAll_heap_other : ∀ (l : List SimEvent) (sq : SimQueue) (c : Bool) (qi : Queue),
    (∀ e ∈ l, route e = .base) → qi ≠ .base → ((pushAll sq l).side c).heap qi = (sq.side c).heap qi := by
  intro l
  induction l with
  | nil => intro sq c qi _ _; rfl
  | cons a r ih =>
    intro sq c qi hl hq
    show ((pushAll (sq.pushSim a) r).side c).heap qi = _
    rw [ih _ c qi (fun e he => hl e (by simp [he])) hq, SimQueue.pushSim_heap]
    have := hl a (by simp)
    rw [this]
    simp [hq]

theorem side_congr {a b : SimQueue} (h1 : a.client = b.client) (h2 : a.server = b.server) (c : Bool) :
    a.side c = b.side c := by
  unfold SimQueue.side; cases c <;> simp [h1, h2]

theorem empty_ord : SimQueue.empty.Ord := by
  intro c qi
  cases c <;> cases qi <;> exact heapInv_empty _

theorem parseTrace_heap (trace : List TraceLine) (delay : Nat) (c : Bool) :
    (parseTrace trace delay).side c = (pushAll SimQueue.empty (trace.map (nsOf delay))).side c :=
  side_congr (parseTrace_sides trace delay).1 (parseTrace_sides trace delay).2 c

theorem parseTrace_ord (trace : List TraceLine) (delay : Nat) : (parseTrace trace delay).Ord := fun c qi => by
  rw [parseTrace_heap]; exact pushAll_ord _ _ empty_ord c qi

theorem parseTrace_mem (trace : List TraceLine) (delay : Nat) :
    (parseTrace trace delay).AllE fun e => e ∈ trace.map (nsOf delay) := fun c qi e he => by
  rw [parseTrace_heap] at he
  exact pushAll_allE (p := fun e => e ∈ trace.map (nsOf delay)) _ _
    (by intro c qi e he; cases c <;> cases qi <;> cases he) (fun e he => he) c qi e he

theorem parseTrace_other_empty (trace : List TraceLine) (delay : Nat) :
    ∀ c qi, qi ≠ .base → (((parseTrace trace delay).side c).heap qi).data = [] := by
  have hroute : ∀ e ∈ trace.map (nsOf delay), route e = .base := by
    intro e he
    obtain ⟨l, _, rfl⟩ := List.mem_map.1 he
    unfold nsOf route; cases l.2 <;> rfl
  intro c qi hq
  rw [parseTrace_heap, pushAll_heap_other _ _ c qi hroute hq]
  cases c <;> cases qi <;> first | rfl | exact absurd rfl hq

/-- the first base time is the time of a queued event and not later than any queued event, when
    only the base heaps hold events -/
theorem firstTime_min {s : SimQueue} {t0 : Int} (ho : s.Ord)
    (hemp : ∀ c qi, qi ≠ .base → ((s.side c).heap qi).data = []) (h : s.firstTime = some t0) :
    (s.AllE fun e => t0 ≤ e.time) ∧ ∃ c r, r ∈ ((s.side c).heap .base).data ∧ r.time = t0 := by
  -- it suffices that `t0` is not after the head of either base heap
  have fin : (∀ r, ((s.side true).heap .base).peek = some r → t0 ≤ r.time) →
      (∀ r, ((s.side false).heap .base).peek = some r → t0 ≤ r.time) → s.AllE fun e => t0 ≤ e.time := by
    intro hlc hls c qi e he
    by_cases hq : qi = .base
    · subst hq
      cases hd : ((s.side c).heap .base).data with
      | nil => rw [hd] at he; cases he
      | cons r rest =>
        have hpr : ((s.side c).heap .base).peek = some r := by simp [Heap.peek, hd]
        have hre := SimEvent.le_time (heap_root_max simEvent_totalPre (ho c .base) e he r hpr)
        cases c
        · exact Int.le_trans (hls r hpr) hre
        · exact Int.le_trans (hlc r hpr) hre
    · rw [hemp c qi hq] at he; cases he
  have hc : s.client.base = (s.side true).heap .base := rfl
  have hs : s.server.base = (s.side false).heap .base := rfl
  unfold SimQueue.firstTime EventQueue.firstBaseTime at h
  rw [hc, hs] at h
  cases hpc : ((s.side true).heap .base).peek <;> cases hps : ((s.side false).heap .base).peek <;>
    simp only [hpc, hps, Option.map_none, Option.map_some, Option.some.injEq, reduceCtorEq] at h
  · rename_i rs
    exact ⟨fin (fun r hr => by rw [hpc] at hr; cases hr) (fun r hr => by rw [hps] at hr; cases hr; omega), false, rs, Heap.peek_mem hps, h⟩
  · rename_i rc
    exact ⟨fin (fun r hr => by rw [hpc] at hr; cases hr; omega) (fun r hr => by rw [hps] at hr; cases hr), true, rc, Heap.peek_mem hpc, h⟩
  · rename_i rc rs
    refine ⟨fin (fun r hr => by rw [hpc] at hr; cases hr; omega) (fun r hr => by rw [hps] at hr; cases hr; omega), ?_⟩
    by_cases hle : rc.time ≤ rs.time
    · exact ⟨true, rc, Heap.peek_mem hpc, by omega⟩
    · exact ⟨false, rs, Heap.peek_mem hps, by omega⟩

/-- the latest time an event or its descendants reach: packets still to cross the network
    count with the network delay -/
def reach (delay : Nat) (e : SimEvent) : Int := if isNS e || isTS e then e.time + delay else e.time

/-- a packet of side `c` that has not been sent into the tunnel yet, with its time in `p` -/
def sendPend (c : Bool) (p : Int → Bool) (e : SimEvent) : Bool := (e.client == c) && (isNS e || isTS e) && p e.time

theorem succL_props {delay : Nat} {next : SimEvent} :
    ∀ e ∈ succL delay next, next.time ≤ e.time ∧ reach delay e ≤ reach delay next := by
  intro e he
  unfold succL at he
  cases hev : next.event <;> simp only [hev, List.mem_singleton, List.not_mem_nil] at he <;> subst he <;>
    simp [reach, isNS, isTS, hev] <;> omega

theorem succL_sendPend {delay : Nat} {next : SimEvent} (c : Bool) (p : Int → Bool) :
    (succL delay next).countP (sendPend c p) = if isNS next then b2n (sendPend c p next) else 0 := by
  unfold succL
  cases hev : next.event <;> simp [sendPend, isNS, isTS, hev, b2n, List.countP_cons]

/-- the window bound an exact run needs of the send times `L c` of each side: the one-second window
    that ends at a send time holds at most `lim` of the send times that are not later -/
def WinBound (lim : Nat) (L : Bool → List Int) : Prop :=
  ∀ c t, t ∈ L c → (L c).countP (fun x => decide (x ≤ t) && inWin Gen.SIM_BOTTLENECK_WINDOW_NS t x) ≤ lim

/-- the state of a run without machines in which, so far, nothing was delayed: heap-ordered
    queues holding only events at or after the clock, a quiet bottleneck, time-ordered windows,
    and for every side the packets still to be sent plus the stamps in the window are covered by
    the side's list of send times `L c` (`Lof` for a parsed trace).  `B` is a horizon no queued
    event nor any of its successors gets past (`reach`); it stays within `Duration::MAX` of the
    clock, so every offset `pick_next` computes is exact -/
structure XInv (delay lim : Nat) (L : Bool → List Int) (B : Int) (st : St σ) : Prop where
  nm : NoMach st
  nq : NetQuiet delay lim st.net
  wf : st.sq.WF
  ord : st.sq.Ord
  fut : st.sq.AllE fun e => st.now ≤ e.time ∧ reach delay e ≤ B
  bnd : B - st.now ≤ durMax
  win : ∀ c, (winOf st.net c).window = Gen.SIM_BOTTLENECK_WINDOW_NS ∧ Asc (winOf st.net c).stamps ∧
    ∀ o ∈ (winOf st.net c).stamps, o ≤ st.now
  bud : ∀ c p, tcount (sendPend c p) st.sq + (winOf st.net c).stamps.countP p ≤ (L c).countP p

theorem winOf_winUpd (net : Bottleneck) (c c' : Bool) (t : Int) :
    winOf (winUpd net c t) c' = if c' = c then ((winOf net c).add t).2 else winOf net c' := by
  unfold winOf winUpd
  cases c <;> cases c' <;> simp

theorem netQuiet_winUpd {delay lim : Nat} {net : Bottleneck} (h : NetQuiet delay lim net) (c : Bool) (t : Int) :
    NetQuiet delay lim (winUpd net c t) := by
  unfold winUpd
  cases c <;> exact ⟨h.ca, h.sa, h.aq, h.dl, h.lm⟩

theorem XInv.range {delay lim : Nat} {L : Bool → List Int} {B : Int} {st : St σ} (hx : XInv delay lim L B st) :
    st.sq.AllE fun e => st.now ≤ e.time ∧ e.time - st.now ≤ durMax :=
  SimQueue.allE_mono hx.fut fun e he => ⟨he.1, by
    have h1 := hx.bnd
    have h2 := he.2
    unfold reach at h2
    split at h2 <;> omega⟩

/-- the window count of a TunnelSent that is served next is within the limit: the packet is one
    of those still to be sent, so together with the stamps in the window it is covered by the
    side's send times, of which at most `lim` lie in the window that ends at it -/
theorem XInv.window_le {delay lim : Nat} {L : Bool → List Int} {B : Int} {st : St σ} (hx : XInv delay lim L B st)
    (hstat : WinBound lim L)
    {next : SimEvent} {qi : Queue} {sq1 : SimQueue} (hpop : st.sq.pop qi next.client 0 = .ok (some (next, sq1)))
    (hev : next.event = .tunnelSent) : ((winOf st.net next.client).add next.time).1 ≤ lim := by
  obtain ⟨w1, w2, w3⟩ := hx.win next.client
  have hge := ((SimQueue.pop_spec0 hx.ord hpop).2.1 _ hx.fut).2.1
  have hle : ∀ o ∈ (winOf st.net next.client).stamps, o ≤ next.time := fun o ho => by
    have := w3 o ho; omega
  rw [(window_add_spec _ next.time w2 hle).1, w1]
  have hin : ∀ p : Int → Bool, p next.time = true →
      (winOf st.net next.client).stamps.countP p + 1 ≤ (L next.client).countP p := by
    intro p hpt
    have hb := hx.bud next.client p
    have hc := SimQueue.pop_tcount0 (sendPend next.client p) hpop
    have : sendPend next.client p next = true := by simp [sendPend, isTS, hev, hpt]
    rw [this] at hc
    simp only [b2n, if_true] at hc
    omega
  have hmem : next.time ∈ L next.client := by
    have := hin (fun x => x == next.time) (by simp)
    have hpos : 0 < (L next.client).countP (fun x => x == next.time) := by omega
    obtain ⟨z, hz, hzz⟩ := List.countP_pos_iff.1 hpos
    have : z = next.time := by simpa using hzz
    exact this ▸ hz
  have h1 := hin (fun x => decide (x ≤ next.time) && inWin Gen.SIM_BOTTLENECK_WINDOW_NS next.time x)
    (by simp [inWin, dsince, durSince])
  have h2 := hstat next.client next.time hmem
  omega

/-- One iteration of an exact run: the event is a plain packet, it is removed from the
    queues, its successor is queued (exactly one network delay later for a TunnelSent), nothing
    else changes, and the invariant is kept. -/
theorem step_exact {delay lim : Nat} {L : Bool → List Int} {B : Int}
    (hstat : WinBound lim L)
    {st st' : St σ} {r : StepRec} (hx : XInv delay lim L B st) (h : step ρ st = .ok (some (r, st'))) :
    XInv delay lim L B st' ∧ pktOK r.ev = true ∧
    ∀ P, tcount P st'.sq + b2n (P r.ev) = tcount P st.sq + (succL delay r.ev).countP P := by
  have hnm := step_nomach ρ hx.nm h
  have hwf := (step_conserve ρ hx.wf h).1
  obtain ⟨st1, sq, net, hp, -, hs, ht⟩ := (step_some_iff ρ).1 h
  obtain ⟨next, na, acts⟩ := r
  simp only [] at hp hs ht hnm ⊢
  obtain ⟨e1, e2, e3, e4, e5, qi, hpop, hmin⟩ := pickNext_exact _ _ _ _ hx.nm hx.nq hx.wf hx.range hp
  obtain ⟨ho1, hall1, -, hmin1⟩ := SimQueue.pop_spec0 hx.ord hpop
  obtain ⟨hfut1, hfn⟩ := hall1 _ hx.fut
  have hq : Quiet (({ st1 with now := next.time, sq := sq, net := net } : St σ).side next.client).fw := by
    unfold St.side
    simp only [e1, e2]
    cases next.client
    · exact hx.nm.qs
    · exact hx.nm.qc
  obtain ⟨-, t1, -, t3, -⟩ := triggerUpdate_quiet ρ hq ht
  have t4 : st'.now = next.time := triggerUpdate_now ρ ht
  rw [simNetworkStack_within hnm.2 rfl (by rw [e3, hx.nq.lm]; exact hx.window_le hstat hpop), e3, hx.nq.dl] at hs
  simp only [Except.ok.injEq, Prod.mk.injEq] at hs
  obtain ⟨-, rfl, rfl⟩ := hs
  have hsq : st'.sq = pushAll st1.sq (succL delay next) := t1
  -- the window of side `c` changes exactly when a TunnelSent of that side is served
  have hwin : ∀ c, winOf st'.net c = if next.event = .tunnelSent ∧ c = next.client
      then ((winOf st.net c).add next.time).2 else winOf st.net c := by
    intro c
    rw [t3]
    show winOf (if next.event = .tunnelSent then winUpd st.net next.client next.time else st.net) c = _
    by_cases hev : next.event = .tunnelSent
    · rw [if_pos hev, winOf_winUpd]
      by_cases hc : c = next.client
      · rw [if_pos hc, if_pos ⟨hev, hc⟩, hc]
      · rw [if_neg hc, if_neg (fun h => hc h.2)]
    · rw [if_neg hev, if_neg (fun h => hev h.1)]
  have hadd : ∀ c, c = next.client → _ := fun c hc => by
    obtain ⟨-, w2, w3⟩ := hx.win c
    exact window_add_spec (winOf st.net c) next.time w2 (fun o ho => by have := w3 o ho; omega)
  have hcnt : ∀ P, tcount P st'.sq + b2n (P next) = tcount P st.sq + (succL delay next).countP P := by
    intro P
    rw [hsq, pushAll_tcount, SimQueue.pop_tcount0 P hpop]; omega
  refine ⟨⟨hnm.1, ?_, hwf, ?_, ?_, ?_, ?_, ?_⟩, hnm.2, hcnt⟩
  · rw [t3]
    show NetQuiet delay lim (if next.event = .tunnelSent then winUpd st.net next.client next.time else st.net)
    split
    · exact netQuiet_winUpd hx.nq _ _
    · exact hx.nq
  · rw [hsq]; exact pushAll_ord _ _ ho1
  · rw [hsq, t4]
    refine pushAll_allE _ _ (fun c qj y hy => ⟨hmin1 hmin c qj y hy, (hfut1 c qj y hy).2⟩) (fun e he => ?_)
    have := succL_props e he
    exact ⟨this.1, by omega⟩
  · rw [t4]; have := hx.bnd; omega
  · intro c
    rw [hwin, t4]
    obtain ⟨w1, w2, w3⟩ := hx.win c
    split
    · rename_i hc
      obtain ⟨-, a2, a3, a4, -⟩ := hadd c hc.2
      exact ⟨by rw [a2, w1], a3, a4⟩
    · exact ⟨w1, w2, fun o ho => by have := w3 o ho; omega⟩
  · intro c p
    have hb := hx.bud c p
    have hc := hcnt (sendPend c p)
    rw [succL_sendPend] at hc
    rw [hwin]
    split
    · rename_i hcc
      obtain ⟨hev, rfl⟩ := hcc
      have := (hadd _ rfl).2.2.2.2 p
      have hsp : sendPend next.client p next = p next.time := by simp [sendPend, isTS, hev]
      rw [if_neg (by simp [isNS, hev]), hsp] at hc
      omega
    · split at hc <;> omega

/-- The main loop of an exact run: for every pair of event predicates `P` (what is counted in
    the queues) and `Q` (what is counted in the stream) such that processing a plain packet `e`
    moves `P`-weight from `e` to its successor except for the `Q` events, which consume it, the
    `P`-count of the initial queues is the `P`-count of the final queues plus the `Q`-count of the
    stream. -/
theorem loop_exact {delay lim : Nat} {L : Bool → List Int} {B : Int}
    (hstat : WinBound lim L)
    (args : Args) (P Q : SimEvent → Bool)
    (hPQ : ∀ e, pktOK e = true → (succL delay e).countP P + b2n (Q e) = b2n (P e)) :
    ∀ (fuel : Nat) (st : St σ) (iters cnt : Nat), XInv delay lim L B st →
      ∀ stf, (loop ρ args fuel st iters cnt).final = some stf →
        XInv delay lim L B stf ∧
        tcount P st.sq = tcount P stf.sq + (loop ρ args fuel st iters cnt).stream.countP (fun r => Q r.ev) := by
  have hstep : ∀ {st st' : St σ} {r : StepRec}, XInv delay lim L B st → step ρ st = .ok (some (r, st')) →
      XInv delay lim L B st' ∧ tcount P st.sq = tcount P st'.sq + b2n (Q r.ev) := by
    intro st st' r hx hs
    obtain ⟨hx', hok, hc⟩ := step_exact ρ hstat hx hs
    have h1 := hc P
    have h2 := hPQ r.ev hok
    exact ⟨hx', by omega⟩
  refine loop_induct ρ args (P := fun _ st _ _ o => XInv delay lim L B st → ∀ stf, o.final = some stf →
    XInv delay lim L B stf ∧ tcount P st.sq = tcount P stf.sq + o.stream.countP (fun r => Q r.ev)) ?_ ?_ ?_ ?_ ?_
  · intro st i c hx stf h
    cases h; exact ⟨hx, rfl⟩
  · intro n st i c f _ _ stf h
    cases h
  · intro n st i c _ hx stf h
    cases h; exact ⟨hx, rfl⟩
  · intro n st i c r st' s hs _ hx stf h
    cases h
    obtain ⟨hx', hc⟩ := hstep hx hs
    refine ⟨hx', ?_⟩
    rw [hc, List.countP_singleton]; rfl
  · intro n st i c r st' o hs _ ih hx stf h
    obtain ⟨hx', hc⟩ := hstep hx hs
    obtain ⟨i1, i2⟩ := ih hx' stf h
    refine ⟨i1, ?_⟩
    rw [hc, i2, List.countP_cons]
    unfold b2n; omega

/-- the send times of a side: the client sends at its `s` times, the server one network delay
    before the client's `r` times -/
def Lof (trace : List TraceLine) (delay : Nat) (c : Bool) : List Int :=
  if c then sTimes trace else (rTimes trace).map (· - (delay : Int))

theorem init_budget (delay : Nat) (c : Bool) (p : Int → Bool) : ∀ (trace : List TraceLine),
    (trace.map (nsOf delay)).countP (sendPend c p) = (Lof trace delay c).countP p := by
  intro trace
  induction trace with
  | nil => cases c <;> rfl
  | cons l ls ih =>
    rw [List.map_cons, List.countP_cons, ih]
    cases c <;> cases hl : l.2 <;>
      simp [Lof, sTimes, rTimes, List.filter_cons, hl, nsOf, sendPend, isNS, isTS, List.countP_cons]

/-- The run lives between the first base time, which is at least `-delay` (the server sends a
    received packet one delay before its line's time), and one delay after the last line's time:
    a span of at most the largest line time plus `2 * delay`, which `hB` keeps within the horizon. -/
theorem initState_xinv {trace : List TraceLine} {delay lim : Nat} {a : Args} {orc : σ} {st : St σ}
    (hnet : a.network = ⟨delay, none⟩) (hlim : (parseTrace trace delay).maxPps = some lim)
    {H : Nat} (hH : H ≤ durMax) (hB : ∀ l ∈ trace, ((l.1 : Nat) : Int) + 2 * (delay : Int) ≤ H)
    (h : initState ρ [] [] (parseTrace trace delay) a orc = .ok st) :
    XInv delay lim (Lof trace delay) (st.now + H) st ∧ st.sq = parseTrace trace delay ∧
    (parseTrace trace delay).firstTime = some st.now := by
  have hnm := initState_nomach ρ h
  have hord := parseTrace_ord trace delay
  have hemp := parseTrace_other_empty trace delay
  have hrange : (parseTrace trace delay).AllE fun e => -(delay : Int) ≤ e.time ∧ e.time + 2 * (delay : Int) ≤ H := by
    refine SimQueue.allE_mono (parseTrace_mem trace delay) fun e he => ?_
    obtain ⟨l, hl, rfl⟩ := List.mem_map.1 he
    have := hB l hl
    unfold nsOf; split <;> simp <;> omega
  obtain ⟨t0, c, o1, sv, o2, net, ht0, -, -, hnew, rfl⟩ := (initState_ok_iff ρ).1 h
  simp only [] at hnm ⊢
  have hft : (parseTrace trace delay).firstTime = some t0 := by
    unfold firstTimeE at ht0
    split at ht0
    · rename_i t hh; cases ht0; exact hh
    · cases ht0
  obtain ⟨hmin, cm, rm, hrm, hrt⟩ := firstTime_min hord hemp hft
  have ht0lo : -(delay : Int) ≤ t0 := by rw [← hrt]; exact (hrange cm .base rm hrm).1
  have hnetq : NetQuiet delay lim net ∧ net.clientWindow = ⟨Gen.SIM_BOTTLENECK_WINDOW_NS, []⟩ ∧
      net.serverWindow = ⟨Gen.SIM_BOTTLENECK_WINDOW_NS, []⟩ := by
    unfold Bottleneck.new at hnew
    simp only [hnet, hlim, Option.getD_none, Option.getD_some] at hnew
    split at hnew
    · cases hnew
    · cases hnew
      exact ⟨⟨rfl, rfl, rfl, rfl, rfl⟩, rfl, rfl⟩
  obtain ⟨hq, hcw, hsw⟩ := hnetq
  refine ⟨⟨hnm, hq, (parseTrace_spec trace delay).1, hord, ?_, by show t0 + (H : Int) - t0 ≤ durMax; omega, ?_, ?_⟩, trivial, hft⟩
  · intro c' qi e he
    have h1 := hmin c' qi e he
    have h2 := hrange c' qi e he
    refine ⟨h1, ?_⟩
    unfold reach; split <;> omega
  · intro c'
    unfold winOf
    cases c' <;> simp [hcw, hsw, Asc]
  · intro c' p
    have : (winOf net c').stamps = [] := by unfold winOf; cases c' <;> simp [hcw, hsw]
    rw [this, parseTrace_tcount, init_budget]
    simp

/-- "no normal packets" on a well-formed side: no NormalSent, TunnelSent or TunnelRecv is queued,
    and the internal heap holds no padding -/
theorem EventQueue.noNormal_iff {q : EventQueue} {c : Bool} (hw : q.WF c) :
    q.noNormalPackets = true ↔ ∀ qi, ∀ e ∈ (q.heap qi).data,
      isNS e = false ∧ isTS e = false ∧ (e.event == .tunnelRecv) = false ∧ (qi = .internal → e.containsPadding = false) := by
  -- a blocked heap holds only TunnelSent events, the base heap only NormalSent events
  have wbl : ∀ e, e ∈ q.blocking.data ∨ e ∈ q.bypassable.data → isTS e = true := by
    rintro e (he | he)
    · have := List.countP_eq_zero.1 hw.blocking e he; simp at this; exact this.1.1
    · have := List.countP_eq_zero.1 hw.bypassable e he; simp at this; exact this.1.1
  have wb : ∀ e ∈ q.base.data, isNS e = true := fun e he => by
    have := List.countP_eq_zero.1 hw.base e he; simp at this; exact this.1
  have wi : ∀ e ∈ q.internal.data, isTS e = false ∧ isNS e = false := fun e he => by
    have := List.countP_eq_zero.1 hw.internal e he; simp at this; exact this.1
  simp only [EventQueue.noNormalPackets, Heap.isEmpty, Heap.toList, Bool.and_eq_true, List.isEmpty_iff,
    List.all_eq_true, bne_iff_ne, Bool.not_eq_true']
  constructor
  · rintro ⟨⟨⟨hb, hbl⟩, hby⟩, hin⟩ qi e he
    cases qi <;> simp only [EventQueue.heap] at he
    · exact absurd (by simpa [isTS] using wbl e (Or.inl he)) (hbl e he).1
    · exact absurd (by simpa [isTS] using wbl e (Or.inr he)) (hby e he).1
    · exact ⟨(wi e he).2, (wi e he).1, by simpa using (hin e he).1, fun _ => (hin e he).2⟩
    · rw [hb] at he; cases he
  · intro h
    refine ⟨⟨⟨List.eq_nil_iff_forall_not_mem.2 fun e he => ?_, fun e he => ?_⟩, fun e he => ?_⟩, fun e he => ?_⟩
    · have := (h .base e he).1; rw [wb e he] at this; cases this
    · have := (h .blocking e he).2.1; rw [wbl e (Or.inl he)] at this; cases this
    · have := (h .bypassable e he).2.1; rw [wbl e (Or.inr he)] at this; cases this
    · exact ⟨by simpa using (h .internal e he).2.2.1, (h .internal e he).2.2.2 rfl⟩
/-- when all normal packets are processed the queues hold no NormalSent, no TunnelSent and no
    TunnelRecv -/
theorem noNormal_no_packets {sq : SimQueue} (hw : sq.WF) (h : sq.noNormalPackets = true) :
    ∀ c qi, ∀ e ∈ ((sq.side c).heap qi).data, isNS e = false ∧ isTS e = false ∧ (e.event == .tunnelRecv) = false := by
  unfold SimQueue.noNormalPackets at h
  rw [Bool.and_eq_true] at h
  intro c qi e he
  have := (EventQueue.noNormal_iff (c := c) (by cases c; exact hw.server; exact hw.client)).1
    (by cases c; exact h.2; exact h.1) qi e he
  exact ⟨this.1, this.2.1, this.2.2.1⟩

/-- TunnelSent of side `c` with time in `p` -/
def tsQ (c : Bool) (p : Int → Bool) (e : SimEvent) : Bool := (e.client == c) && isTS e && p e.time
/-- TunnelRecv at the other side of `c` with time in `p` -/
def trQ (c : Bool) (p : Int → Bool) (e : SimEvent) : Bool := (e.client == !c) && (e.event == .tunnelRecv) && p e.time
/-- a packet of side `c` on its way whose arrival time at the other side is in `p` -/
def trP (delay : Nat) (c : Bool) (p : Int → Bool) (e : SimEvent) : Bool :=
  sendPend c (fun x => p (x + delay)) e || trQ c p e

theorem hPQ_ts (delay : Nat) (c : Bool) (p : Int → Bool) (e : SimEvent) (hok : pktOK e = true) :
    (succL delay e).countP (sendPend c p) + b2n (tsQ c p e) = b2n (sendPend c p e) := by
  rcases pktOK_event hok with hev | hev | hev | hev <;>
    simp [succL, sendPend, tsQ, isNS, isTS, hev, b2n]

theorem hPQ_tr (delay : Nat) (c : Bool) (p : Int → Bool) (e : SimEvent) (hok : pktOK e = true) :
    (succL delay e).countP (trP delay c p) + b2n (trQ c p e) = b2n (trP delay c p e) := by
  rcases pktOK_event hok with hev | hev | hev | hev <;>
    simp [succL, trP, sendPend, trQ, isNS, isTS, hev, b2n]

/-- The stream of an exact run.  A run without machines on a parsed trace (network without an
    explicit packets-per-second limit, times within `Duration::MAX`), whose trace-derived limit
    covers every one-second window (`hstat`), that ended because all normal packets were
    processed: for every side `c` and every set of times `p`, the TunnelSent events of side `c`
    with time in `p` are as many as the side's send times in `p`, and the TunnelRecv events at the
    other side with time in `p` are as many as the send times `x` with `x + delay` in `p`. -/
theorem sim_exact_counts (budget : Nat) (trace : List TraceLine) (delay lim : Nat) (a : Args) (orc : σ)
    (hnet : a.network = ⟨delay, none⟩) (hlim : (parseTrace trace delay).maxPps = some lim)
    (hB : ∀ l ∈ trace, ((l.1 : Nat) : Int) + 2 * (delay : Int) ≤ durMax)
    (hstat : WinBound lim (Lof trace delay))
    (hstop : (simAdvanced ρ budget [] [] (parseTrace trace delay) a orc).stop = .noNormal) (c : Bool) (p : Int → Bool) :
    (simAdvanced ρ budget [] [] (parseTrace trace delay) a orc).stream.countP (fun r => tsQ c p r.ev) =
      (Lof trace delay c).countP p ∧
    (simAdvanced ρ budget [] [] (parseTrace trace delay) a orc).stream.countP (fun r => trQ c p r.ev) =
      (Lof trace delay c).countP (fun x => p (x + delay)) := by
  cases hi : initState ρ [] [] (parseTrace trace delay) a orc with
  | error f => simp [simAdvanced, hi] at hstop
  | ok st =>
    rw [simAdvanced_of_init ρ hi, finish_stop] at hstop
    rw [simAdvanced_of_init ρ hi, finish_stream]
    obtain ⟨hx, hsq, _⟩ := initState_xinv ρ hnet hlim (Nat.le_refl _) hB hi
    obtain ⟨stf, hfin, hnn⟩ := loop_noNormal ρ a _ st 0 0 hstop
    -- what is counted in the queues and vanishes with the normal packets ends up in the stream
    have key : ∀ P Q : SimEvent → Bool,
        (∀ e, pktOK e = true → (succL delay e).countP P + b2n (Q e) = b2n (P e)) →
        (∀ e, isNS e = false → isTS e = false → (e.event == .tunnelRecv) = false → P e = false) →
        (loop ρ a (loopFuel a budget) st 0 0).stream.countP (fun r => Q r.ev) = (trace.map (nsOf delay)).countP P := by
      intro P Q hPQ hP
      obtain ⟨hxf, hc⟩ := loop_exact ρ hstat a P Q hPQ _ st 0 0 hx stf hfin
      have hz : tcount P stf.sq = 0 := tcount_zero_iff.2 fun c' qi e he => by
        obtain ⟨n1, n2, n3⟩ := noNormal_no_packets hxf.wf hnn c' qi e he
        exact hP e n1 n2 n3
      rw [hz, hsq, parseTrace_tcount] at hc
      omega
    refine ⟨(key _ _ (hPQ_ts delay c p) fun e n1 n2 _ => by simp [sendPend, n1, n2]).trans (init_budget ..),
      (key _ _ (hPQ_tr delay c p) fun e n1 n2 n3 => by simp [trP, sendPend, trQ, n1, n2, n3]).trans ?_⟩
    rw [← init_budget]
    apply List.countP_congr
    intro e he
    obtain ⟨l, _, rfl⟩ := List.mem_map.1 he
    unfold nsOf
    cases l.2 <;> simp [trP, trQ]

end
end Mb.Sim
