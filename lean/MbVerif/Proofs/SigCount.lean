/-
  C09: no machine receives more than one Signal per call (counted on the ghost log).
-/
import MbVerif.Proofs.WorkBound

namespace Mb
variable {σ : Type} (ρ : Oracle σ)

def μSig (mi0 : Nat) : LogEntry → Nat
  | .trans m ev _ => if m = mi0 ∧ ev = Gen.EV_Signal then 1 else 0
  | _ => 0

theorem μSig_transOnly (mi0 : Nat) : TransOnly (μSig mi0) := by
  intro e he
  cases e with
  | trans m ev st => exact absurd rfl (he m ev st)
  | _ => rfl

def sigOf (mi0 : Nat) (s : Fw σ) : Nat := wsum (μSig mi0) s.log

theorem toNat_signal (ev : Event) : ev.toNat = Gen.EV_Signal ↔ ev = .signal := by
  cases ev <;> decide

theorem sig_transition (mi0 j : Nat) (ev : Event) (s : Fw σ) :
    sigOf mi0 (transition ρ FUEL j ev s).1 ≤ sigOf mi0 s + (if j = mi0 ∧ ev = .signal then 1 else 0) := by
  have := (count_main ρ (μSig_transOnly mi0) 0 FUEL).1 j ev (if j = mi0 ∧ ev = .signal then 1 else 0) s
    (fun st => by
      simp only [μSig, toNat_signal]
      split <;> simp_all)
    (fun st => by
      simp only [μSig]
      have : ¬ (Event.counterZero.toNat = Gen.EV_Signal) := by decide
      simp [this])
  unfold sigOf; omega

theorem sig_transition_other (mi0 j : Nat) (ev : Event) (s : Fw σ) (h : ev ≠ .signal) :
    sigOf mi0 (transition ρ FUEL j ev s).1 ≤ sigOf mi0 s := by
  have := sig_transition ρ mi0 j ev s
  simp only [h, and_false, if_false] at this
  exact this

theorem sig_decrement (mi0 j : Nat) (s : Fw σ) : sigOf mi0 (decrementLimit ρ j s) ≤ sigOf mi0 s :=
  decrementLimit_rel ρ (Q := fun s t : Fw σ => sigOf mi0 t ≤ sigOf mi0 s) j
    (fun h₁ h₂ => Nat.le_trans h₂ h₁) (fun s => Nat.le_of_eq (quiet_withFault s _).w)
    (fun s l => Nat.le_of_eq ((quiet_modRt s j _).trans
      (quiet_push (μSig_transOnly mi0) _ _ (fun _ _ _ h => by cases h))).w)
    (fun s _ => Nat.le_refl _) (fun s => sig_transition_other ρ mi0 j .limitReached s (by decide)) s

theorem sig_fold0 {α : Type} (mi0 : Nat) (F : Fw σ → α → Fw σ) (h : ∀ s j, sigOf mi0 (F s j) ≤ sigOf mi0 s)
    (l : List α) (s : Fw σ) : sigOf mi0 (l.foldl F s) ≤ sigOf mi0 s :=
  foldl_rel (R := fun s t : Fw σ => sigOf mi0 t ≤ sigOf mi0 s) (fun _ => Nat.le_refl _)
    (fun h₁ h₂ => Nat.le_trans h₂ h₁) F l (fun s j _ => h s j) s

/-- processing an external event delivers no Signal to anybody -/
theorem sig_processEvent (mi0 : Nat) (e : TEvent) (s : Fw σ) : sigOf mi0 (processEvent ρ e s) ≤ sigOf mi0 s :=
  processEvent_walk ρ (R := fun s t : Fw σ => sigOf mi0 t ≤ sigOf mi0 s) (fun _ => Nat.le_refl _)
    (fun h₁ h₂ => Nat.le_trans h₂ h₁)
    (fun j e s => sig_transition_other ρ mi0 j e.kind s e.kind_outside.2.2)
    (fun j s _ => sig_decrement ρ mi0 j s) (fun s f => Nat.le_of_eq (quiet_withFault s f).w)
    (fun _ _ => Nat.le_refl _) (fun s j f _ => Nat.le_of_eq (quiet_modRt s j f).w) e s

theorem sum_indicator_nodup (mi0 : Nat) (l : List Nat) (h : l.Nodup) :
    (l.map (fun j => if j = mi0 then 1 else 0)).sum ≤ (if mi0 ∈ l then 1 else 0) := by
  induction l with
  | nil => simp
  | cons a l ih =>
    rw [List.nodup_cons] at h
    have := ih h.2
    simp only [List.map_cons, List.sum_cons, List.mem_cons]
    by_cases ha : a = mi0
    · subst ha
      have hn : ¬ a ∈ l := h.1
      simp only [hn, if_false] at this
      simp; omega
    · have hne : ¬ mi0 = a := fun h' => ha h'.symm
      simp only [ha, if_false, hne, false_or]
      omega

theorem sig_signalRound (mi0 : Nat) (s : Fw σ) : sigOf mi0 (signalRound ρ s) ≤ sigOf mi0 s + 1 := by
  unfold sigOf
  rcases signalRound_cases ρ s with h | ⟨ex, _, h⟩
  · rw [h]; omega
  have key := h _ rfl
  have hnd : ((List.range s.rt.length).filter (fun j => !(ex == some j))).Nodup :=
    C09.sr_targets_nodup s.rt.length ex
  have hnot : ∀ x, ex = some x → x ∉ (List.range s.rt.length).filter (fun j => !(ex == some j)) :=
    fun x hx => hx ▸ C09.sr_excluded_not_visited _ x
  generalize List.filter _ _ = l at key hnd hnot
  have hf := wsum_foldl (μ := μSig mi0) (fun s j => (transition ρ FUEL j .signal s).1)
    (fun j => if j = mi0 then 1 else 0)
    (fun s j => by
      have := sig_transition ρ mi0 j .signal s
      simp only [and_true] at this
      exact this) l { s with signalPending := none }
  have hs := sum_indicator_nodup mi0 l hnd
  rw [show ({ s with signalPending := none } : Fw σ).log = s.log from rfl] at hf
  generalize List.foldl _ _ _ = s2 at hf key
  rcases key with h | ⟨_, h⟩ | ⟨x, hx, h⟩ <;> rw [h]
  · split at hs <;> omega
  · show wsum (μSig mi0) s2.log ≤ _
    split at hs <;> omega
  · -- the excluded machine was not visited before
    have h2 : wsum (μSig mi0) _ ≤ wsum (μSig mi0) s2.log + _ :=
      sig_transition ρ mi0 x .signal { s2 with signalPending := none }
    simp only [and_true] at h2
    by_cases hxm : x = mi0
    · rw [if_neg (hxm ▸ hnot x hx)] at hs
      rw [if_pos hxm] at h2
      omega
    · rw [if_neg hxm] at h2
      split at hs <;> omega

/-- In one call no machine receives more than one Signal. -/
theorem sig_triggerEvents (mi0 : Nat) (es : List TEvent) (t : Int) (s : Fw σ) :
    sigOf mi0 (triggerEvents ρ es t s) ≤ sigOf mi0 s + 1 := by
  unfold triggerEvents
  have h1 : sigOf mi0 (es.foldl (fun s e => processEvent ρ e s) (s.callStart t)) ≤ sigOf mi0 (s.callStart t) :=
    sig_fold0 mi0 _ (fun s e => sig_processEvent ρ mi0 e s) _ _
  have h2 := sig_signalRound ρ mi0 (es.foldl (fun s e => processEvent ρ e s) (s.callStart t))
  have e0 : sigOf mi0 (s.callStart t) = sigOf mi0 s := rfl
  omega

end Mb
