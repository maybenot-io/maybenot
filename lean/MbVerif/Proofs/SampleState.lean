/-
  Helper lemmas for C06: `sampleLoop` against the bands of running sums, monotonicity of the
  running sums of a validated vector, and the counting lemma.
-/
import MbVerif.Spec.C06
import MbVerif.Spec.C12
import MbVerif.Proofs.Fp

namespace Mb
namespace C06
open Fp

theorem bands_targets (c : FV) (ts : List Trans) : (bands c ts).map (·.target) = ts.map (·.target) := by
  induction ts generalizing c with
  | nil => rfl
  | cons t ts ih => simp [bands, ih]

/-- in a monotone vector every band starts at or above the start value and is non-empty or empty
    but never inverted -/
theorem mono_bands {c : FV} {ts : List Trans} (h : Mono c ts) :
    ∀ b ∈ bands c ts, le c b.lo = true ∧ le b.lo b.hi = true := by
  induction ts generalizing c with
  | nil => intro b hb; simp [bands] at hb
  | cons t ts ih =>
    intro b hb
    simp only [bands, List.mem_cons] at hb
    obtain ⟨h1, h2⟩ := h
    have hc : c ≠ .nan := by intro e; subst e; simp at h1
    rcases hb with rfl | hb
    · exact ⟨le_refl_of_ne_nan hc, h1⟩
    · obtain ⟨i1, i2⟩ := ih h2 b hb
      exact ⟨le_trans' h1 i1, i2⟩

theorem mono_total {c : FV} {ts : List Trans} (h : Mono c ts) (hc : c ≠ .nan) : le c (total c ts) = true := by
  induction ts generalizing c with
  | nil => exact le_refl_of_ne_nan hc
  | cons t ts ih =>
    obtain ⟨h1, h2⟩ := h
    have hc' : add f32 c (val32 t.prob) ≠ .nan := by intro e; rw [e] at h1; simp at h1
    exact le_trans' h1 (ih h2 hc')

/-- which transition is taken: with non-decreasing running sums, the loop returns target `t`
    exactly when the draw lies in a band of `t` -/
theorem sampleLoop_some_iff {r c : FV} {ts : List Trans} (hm : Mono c ts) (hr : le c r = true) (t : Nat) :
    sampleLoop r c ts = some t ↔ ∃ b ∈ bands c ts, b.target = t ∧ le b.lo r = true ∧ lt r b.hi = true := by
  induction ts generalizing c with
  | nil => simp [sampleLoop, bands]
  | cons t0 ts ih =>
    obtain ⟨h1, h2⟩ := hm
    have hrn : r ≠ .nan := by intro e; subst e; simp at hr
    simp only [sampleLoop, bands]
    set c' := add f32 c (val32 t0.prob) with hc'
    have hcn : c' ≠ .nan := by intro e; rw [e] at h1; simp at h1
    by_cases hlt : lt r c' = true
    · rw [if_pos hlt]
      constructor
      · intro h
        injection h with h
        exact ⟨_, List.mem_cons_self, h, hr, hlt⟩
      · rintro ⟨b, hb, hbt, hlo, hhi⟩
        rcases List.mem_cons.mp hb with rfl | hb
        · simp only at hbt; rw [hbt]
        · -- a later band starts at or above c' > r: impossible
          have := (mono_bands h2 b hb).1
          have hlt' : lt r b.lo = true := lt_of_lt_of_le' hlt this
          have : lt r r = true := lt_of_lt_of_le' hlt' hlo
          rw [lt_irrefl] at this; exact absurd this (by simp)
    · rw [if_neg hlt]
      have hge : le c' r = true := by
        have := lt_or_ge_of_ne_nan hrn hcn
        rw [this] at hlt; simpa using hlt
      rw [ih h2 hge]
      constructor
      · rintro ⟨b, hb, rest⟩; exact ⟨b, List.mem_cons_of_mem _ hb, rest⟩
      · rintro ⟨b, hb, hbt, hlo, hhi⟩
        rcases List.mem_cons.mp hb with rfl | hb
        · exact absurd hhi hlt
        · exact ⟨b, hb, hbt, hlo, hhi⟩

/-- no transition exactly when the draw is at or above the last running sum -/
theorem sampleLoop_none_iff {r c : FV} {ts : List Trans} (hm : Mono c ts) (hr : le c r = true) :
    sampleLoop r c ts = none ↔ le (total c ts) r = true := by
  induction ts generalizing c with
  | nil => simp [sampleLoop, total, hr]
  | cons t0 ts ih =>
    obtain ⟨h1, h2⟩ := hm
    have hrn : r ≠ .nan := by intro e; subst e; simp at hr
    simp only [sampleLoop, total]
    set c' := add f32 c (val32 t0.prob) with hc'
    have hcn : c' ≠ .nan := by intro e; rw [e] at h1; simp at h1
    by_cases hlt : lt r c' = true
    · rw [if_pos hlt]
      constructor
      · intro h; exact absurd h (by simp)
      · intro h
        have h3 : le c' (total c' ts) = true := mono_total h2 hcn
        have : lt r r = true := lt_of_lt_of_le' hlt (le_trans' h3 h)
        rw [lt_irrefl] at this; exact absurd this (by simp)
    · rw [if_neg hlt]
      have hge : le c' r = true := by
        have := lt_or_ge_of_ne_nan hrn hcn
        rw [this] at hlt; simpa using hlt
      exact ih h2 hge

/-- a running sum: `+inf`, or a non-negative f32 value -/
def Good : FV → Prop
  | .fin a => 0 ≤ a ∧ Rep 24 (-149) a ∧ a < pow2 128
  | .inf neg => neg = false
  | .nan => False

/-- the only infinite running sum is `+inf` -/
theorem good_inf {s : Bool} : Good (.inf s) ↔ s = false := Iff.rfl

theorem good_zero : Good (.fin 0) := ⟨le_refl _, rep_zero _ _, pow2_pos _⟩

theorem good_step {c p : FV} (hc : Good c) (hp : C12.Prob p) :
    le c (add f32 c p) = true ∧ Good (add f32 c p) := by
  rcases p with _ | _ | q
  · exact hp.elim
  · exact hp.elim
  · rcases c with _ | s | a
    · exact hc.elim
    · obtain rfl := good_inf.1 hc; exact ⟨rfl, good_inf.2 rfl⟩
    · obtain ⟨ha0, harep, halt⟩ := hc
      obtain ⟨hq0, _⟩ := hp
      simp only [add]
      have hle : a ≤ a + q := by linarith
      have hmono := Fmt.round_mono f32 (by decide) hle
      have hself : f32.round a = .fin a :=
        Fmt.round_eq_self_of_rep f32 harep halt (by have := pow2_pos f32.emax; linarith)
      rw [hself] at hmono
      refine ⟨hmono, ?_⟩
      rcases Fmt.round_of_nonneg f32 (by linarith : 0 ≤ a + q) with h | ⟨h, hr⟩
      · rw [h]; rfl
      · have hb := Fmt.round_fin_bound f32 h
        rw [h]
        exact ⟨hr, rne_rep 24 (by decide) (-149) _, hb.2.1⟩

theorem mono_of_probs {c : FV} {ts : List Trans} (hc : Good c)
    (hp : ∀ t ∈ ts, C12.Prob (val32 t.prob)) : Mono c ts := by
  induction ts generalizing c with
  | nil => trivial
  | cons t ts ih =>
    obtain ⟨h1, h2⟩ := good_step hc (hp t List.mem_cons_self)
    exact ⟨h1, ih h2 (fun t' ht' => hp t' (List.mem_cons_of_mem _ ht'))⟩

theorem good_bands {c : FV} {ts : List Trans} (hc : Good c)
    (hp : ∀ t ∈ ts, C12.Prob (val32 t.prob)) : ∀ b ∈ bands c ts, Good b.lo ∧ Good b.hi := by
  induction ts generalizing c with
  | nil => intro b hb; simp [bands] at hb
  | cons t ts ih =>
    intro b hb
    obtain ⟨_, h2⟩ := good_step hc (hp t List.mem_cons_self)
    rcases List.mem_cons.mp hb with rfl | hb
    · exact ⟨hc, h2⟩
    · exact ih h2 (fun t' ht' => hp t' (List.mem_cons_of_mem _ ht')) b hb

theorem good_total {c : FV} {ts : List Trans} (hc : Good c)
    (hp : ∀ t ∈ ts, C12.Prob (val32 t.prob)) : Good (total c ts) := by
  induction ts generalizing c with
  | nil => exact hc
  | cons t ts ih =>
    exact ih (good_step hc (hp t List.mem_cons_self)).2 (fun t' ht' => hp t' (List.mem_cons_of_mem _ ht'))

theorem total_eq_foldl (c : FV) (ts : List Trans) :
    total c ts = ts.foldl (fun s t => add f32 s (val32 t.prob)) c := by
  induction ts generalizing c with
  | nil => rfl
  | cons t ts ih => exact ih _

theorem total_eq_f32sum (ts : List Trans) : total (.fin 0) ts = C12.f32sum ts :=
  total_eq_foldl _ ts

theorem good_ne_nan {v : FV} (h : Good v) : v ≠ .nan := by
  intro e; subst e; exact h

theorem count_interval (n lo hi : Nat) :
    ((List.range n).filter (fun k => decide (lo ≤ k ∧ k < hi))).length = min n hi - lo := by
  rw [← List.countP_eq_length_filter]
  induction n with
  | zero => simp
  | succ n ih =>
    rw [List.range_succ, List.countP_append, ih, List.countP_singleton]
    simp only [decide_eq_true_eq]
    split <;> omega

theorem count_congr {P Q : Nat → Bool} (h : ∀ k, k < N → P k = Q k) : count P = count Q := by
  unfold count
  rw [List.filter_congr (fun k hk => h k (List.mem_range.mp hk))]

theorem count_congr_iff {P : Nat → Prop} [DecidablePred P] {Q : Nat → Bool}
    (h : ∀ k, k < N → (P k ↔ Q k = true)) : count (fun k => decide (P k)) = count Q :=
  count_congr fun k hk => by rw [Bool.eq_iff_iff, decide_eq_true_iff]; exact h k hk

theorem N_pos : (0 : ℚ) < (N : ℚ) := by unfold N; norm_num

/-- for `q ≥ 0` the clipped ceiling as an integer; the facts below are read off from it -/
theorem ceilN_cast {q : ℚ} (h0 : 0 ≤ q) :
    ((ceilN (.fin q) : Nat) : Int) = min (N : Int) ⌈q * (N : ℚ)⌉ := by
  have hc : (0 : Int) ≤ ⌈q * (N : ℚ)⌉ := Int.ceil_nonneg (mul_nonneg h0 N_pos.le)
  simp only [ceilN, ceil_eq]
  omega

theorem ceilN_fin {q : ℚ} (h0 : 0 ≤ q) (k : Nat) (hk : k < N) :
    ceilN (.fin q) ≤ k ↔ q ≤ (k : ℚ) / (N : ℚ) := by
  rw [le_div_iff₀ N_pos, ← Int.cast_natCast k, ← Int.ceil_le]
  have := ceilN_cast h0
  omega

theorem ceilN_mono {a c : ℚ} (ha : 0 ≤ a) (hac : a ≤ c) : ceilN (.fin a) ≤ ceilN (.fin c) := by
  have h1 := ceilN_cast ha
  have h2 := ceilN_cast (ha.trans hac)
  have := Int.ceil_le_ceil (mul_le_mul_of_nonneg_right hac N_pos.le)
  omega

theorem N_cast : (N : ℚ) = 2 ^ 23 := by unfold N; norm_num

theorem ceilN_bounds {q : ℚ} (h0 : 0 ≤ q) (h1 : q ≤ 1) :
    q * 2 ^ 23 ≤ (ceilN (.fin q) : ℚ) ∧ (ceilN (.fin q) : ℚ) < q * 2 ^ 23 + 1 := by
  have hcN : ⌈q * (N : ℚ)⌉ ≤ (N : Int) :=
    Int.ceil_le.mpr (by simpa using mul_le_mul_of_nonneg_right h1 N_pos.le)
  have h : ((ceilN (.fin q) : Nat) : Int) = ⌈q * (N : ℚ)⌉ := by have := ceilN_cast h0; omega
  rw [← N_cast, ← Int.cast_natCast (ceilN _), h]
  exact ⟨Int.le_ceil _, Int.ceil_lt_add_one _⟩

/-- counting lemma: the number of `k < N` with `a ≤ k/N < b` is `⌈bN⌉ − ⌈aN⌉` (clipped) -/
theorem count_band {a b : ℚ} (ha : 0 ≤ a) (hb : 0 ≤ b) :
    count (fun k => decide (a ≤ (k : ℚ) / (N : ℚ)) && decide ((k : ℚ) / (N : ℚ) < b)) =
      ceilN (.fin b) - ceilN (.fin a) := by
  have hB : ceilN (.fin b) ≤ N := by simp only [ceilN]; exact Nat.min_le_left _ _
  rw [count_congr (Q := fun k => decide (ceilN (.fin a) ≤ k ∧ k < ceilN (.fin b)))]
  · unfold count
    rw [count_interval, Nat.min_eq_right hB]
  · intro k hk
    simp only [← not_le, ← ceilN_fin ha k hk, ← ceilN_fin hb k hk, Bool.decide_and]

theorem ceilN_le_N (v : FV) : ceilN v ≤ N := by
  rcases v with _ | ⟨_ | _⟩ | q <;> simp [ceilN]

/-- counting for bands whose ends are running sums (`+inf` ends included) -/
theorem count_good_band {lo hi : FV} (hlo : Good lo) (hhi : Good hi) :
    count (fun k => le lo (draw k) && lt (draw k) hi) = ceilN hi - ceilN lo := by
  rcases lo with _ | s | a
  · exact hlo.elim
  · -- lo = +inf: no outcome, and ceilN lo = N
    obtain rfl := good_inf.1 hlo
    have : count (fun k => le (.inf false) (draw k) && lt (draw k) hi) = count (fun _ => false) := by
      apply count_congr; intro k _; simp [draw, le]
    rw [this]
    have : ceilN (.inf false) = N := rfl
    rw [this]
    have := ceilN_le_N hi
    simp [count]; omega
  · rcases hi with _ | s | b
    · exact hhi.elim
    · obtain rfl := good_inf.1 hhi
      have h1 : count (fun k => le (.fin a) (draw k) && lt (draw k) (.inf false)) =
          count (fun k => decide (a ≤ (k : ℚ) / (N : ℚ)) && decide ((k : ℚ) / (N : ℚ) < 1)) := by
        apply count_congr; intro k hk
        have : (k : ℚ) / (N : ℚ) < 1 := by
          rw [div_lt_one N_pos]; exact_mod_cast hk
        simp [draw, lt, this]
      rw [h1, count_band hlo.1 (by norm_num)]
      have : ceilN (.fin 1) = N := by
        simp only [ceilN, one_mul]
        have : ((N : ℚ)).ceil = (N : Int) := by exact_mod_cast Rat.ceil_intCast (N : Int)
        rw [this]; simp
      rw [this]; rfl
    · have h1 : count (fun k => le (.fin a) (draw k) && lt (draw k) (.fin b)) =
          count (fun k => decide (a ≤ (k : ℚ) / (N : ℚ)) && decide ((k : ℚ) / (N : ℚ) < b)) := by
        apply count_congr; intro k _; simp [draw]
      rw [h1, count_band hlo.1 hhi.1]

theorem bands_hi_eq (c : FV) (ts : List Trans) : ∀ b ∈ bands c ts, b.hi = add f32 b.lo b.p := by
  induction ts generalizing c with
  | nil => intro b hb; simp [bands] at hb
  | cons t ts ih =>
    intro b hb
    rcases List.mem_cons.mp hb with rfl | hb
    · rfl
    · exact ih _ b hb

theorem bands_p_mem (c : FV) (ts : List Trans) : ∀ b ∈ bands c ts, ∃ t ∈ ts, b.p = val32 t.prob ∧ b.target = t.target := by
  induction ts generalizing c with
  | nil => intro b hb; simp [bands] at hb
  | cons t ts ih =>
    intro b hb
    rcases List.mem_cons.mp hb with rfl | hb
    · exact ⟨t, List.mem_cons_self, rfl, rfl⟩
    · obtain ⟨t', ht', h⟩ := ih _ b hb
      exact ⟨t', List.mem_cons_of_mem _ ht', h⟩

theorem mono_band_le_total {c : FV} {ts : List Trans} (h : Mono c ts) :
    ∀ b ∈ bands c ts, le b.hi (total c ts) = true := by
  induction ts generalizing c with
  | nil => intro b hb; simp [bands] at hb
  | cons t ts ih =>
    intro b hb
    obtain ⟨h1, h2⟩ := h
    have hc' : add f32 c (val32 t.prob) ≠ .nan := by intro e; rw [e] at h1; simp at h1
    rcases List.mem_cons.mp hb with rfl | hb
    · exact mono_total h2 hc'
    · exact ih h2 b hb

theorem rep_two : Rep 24 (-149) 2 := ⟨1, 1, by decide, by decide, by simp [pow2_one]⟩

/-- the share of a band differs from the declared probability by less than the resolution of
    the draw (`2^-23`) plus one f32 rounding of a sum below 2 (`2^-24`) -/
theorem band_share_close {lo hi p : FV} (hlo : Good lo) (hp : C12.Prob p) (hhi : hi = add f32 lo p)
    {c : ℚ} (hc : hi = .fin c) (hc1 : c ≤ 1) :
    ∃ pq : ℚ, p = .fin pq ∧
      |(((ceilN hi - ceilN lo : Nat)) : ℚ) / (N : ℚ) - pq| < 1 / 2 ^ 23 + 1 / 2 ^ 24 := by
  rcases p with _ | _ | pq
  · exact hp.elim
  · exact hp.elim
  obtain ⟨hpq0, hpq1⟩ := hp
  refine ⟨pq, rfl, ?_⟩
  rcases lo with _ | s | a
  · exact hlo.elim
  · obtain rfl := good_inf.1 hlo
    rw [hhi] at hc; simp [add] at hc
  obtain ⟨ha0, harep, halt⟩ := hlo
  have hround : f32.round (a + pq) = .fin c := by rw [← hc, hhi]; rfl
  have hceq : c = rne 24 (-149) (a + pq) := (Fmt.round_fin_bound f32 hround).1
  have hsum_pos : 0 < a + pq := by linarith
  have hac : a ≤ c := by
    rw [hceq]; exact le_rne_of_rep_le 24 (by decide) (-149) harep (by linarith)
  -- `a + pq < 2`, otherwise `c ≥ 2`; so one rounding moves the sum by at most `2^-24`
  have hlt2 : a + pq < pow2 1 := by
    rw [pow2_one]
    by_contra hge
    have := le_rne_of_rep_le 24 (by decide) (-149) rep_two (not_lt.mp hge)
    rw [← hceq] at this; linarith
  have herr := rne_err_of_lt_pow2 24 (-149) hsum_pos hlt2 (by decide)
  rw [← hceq, show (1 : Int) - ((24 : Nat) : Int) = -((23 : Nat) : Int) from rfl, pow2_neg_eq,
    abs_le] at herr
  -- `⌈cN⌉ − ⌈aN⌉` is within one of `(c − a)·N`
  obtain ⟨hc_lo, hc_hi⟩ := ceilN_bounds (le_trans ha0 hac) hc1
  obtain ⟨ha_lo, ha_hi⟩ := ceilN_bounds ha0 (le_trans hac hc1)
  rw [hc, Nat.cast_sub (ceilN_mono ha0 hac), N_cast, abs_lt]
  constructor <;> linarith

theorem rep_one : Rep 24 (-149) 1 := ⟨1, 0, by decide, by decide, by simp [pow2_zero]⟩

/-- f32 values in `[0, 1]` are far from the overflow threshold -/
theorem round_self_of_le_one {v : ℚ} (hrep : Rep 24 (-149) v) (h0 : 0 ≤ v) (h1 : v ≤ 1) :
    f32.round v = .fin v :=
  Fmt.round_eq_self_of_rep f32 hrep
    (lt_of_le_of_lt h1 (pow2_zero ▸ pow2_lt_pow2 (by decide : (0 : Int) < f32.emax)))
    (lt_of_lt_of_le (neg_lt_zero.mpr (pow2_pos _)) h0)

theorem round_one : f32.round 1 = .fin 1 := round_self_of_le_one rep_one zero_le_one le_rfl

theorem rep_unit (k : Nat) (hk : k < 2 ^ 23) : Rep 24 (-149) ((k : ℚ) / ((2 ^ 23 : Nat) : ℚ)) := by
  refine ⟨k, -23, by decide, ?_, ?_⟩
  · rw [abs_of_nonneg (by positivity)]
    have : (k : Int) < 2 ^ 23 := by exact_mod_cast hk
    omega
  · rw [pow2_eq_zpow]; push_cast
    rw [zpow_neg]; norm_num; ring

end C06
end Mb
