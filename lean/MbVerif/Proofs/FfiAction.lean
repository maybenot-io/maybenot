/-
  Helper lemmas for C20: the action slot round trip `decodeAction (encodeAction c) = some c`
  for every action whose values fit their fields, from the generic byte lemma and facts about
  the header-derived layout that the kernel evaluates (`layout_facts`).
-/
import MbVerif.Proofs.FfiBytes

namespace Mb.Ffi

/-- the leaf sizes of each variant, in the order of `Variant.paths`, can hold `usize`, `u64`,
    `u32`, `bool`, and the timer enum (kernel-evaluated from the header) -/
def sizesOK : Bool :=
  (Variant.cancel.leaves.map (·.size) == [8, 4]) &&
  (Variant.sendPadding.leaves.map (·.size) == [8, 8, 4, 1, 1]) &&
  (Variant.blockOutgoing.leaves.map (·.size) == [8, 8, 4, 1, 1, 8, 4]) &&
  (Variant.updateTimer.leaves.map (·.size) == [8, 8, 4, 1])

/-- All that the proofs use of the layout computed from maybenot.h, in one statement: within one
    declaration the kernel shares the evaluation of `actionL` and `eventL` among the conjuncts, so
    the layout function (dear, because every type and field is found by comparing names) runs
    once.  The last three conjuncts are the x86-64 numbers. -/
theorem layout_facts :
    actionLayoutOK = true ∧ sizesOK = true ∧ eventLayoutOK = true ∧
    evTypeLeaf.size = 4 ∧ evMachineLeaf.size = 8 ∧
    actionL.size = 56 ∧ actionL.align = 8 ∧ eventL.size = 16 := by
  decide +kernel

theorem sizesOK_true : sizesOK = true := layout_facts.2.1

theorem variantOK_all (v : Variant) : variantOK v = true := by
  have h := layout_facts.1
  simp only [actionLayoutOK, Bool.and_eq_true, List.all_eq_true] at h
  exact h.1 v (by cases v <;> decide)

/-- the header's timer constants are distinct and fit the 32-bit field -/
theorem timerCode_facts (t : Timer) : timerOfCode (timerCode t) = some t ∧ timerCode t < 256 ^ 4 := by
  have h : ∀ t ∈ [Timer.action, .internal, .all],
      timerOfCode (timerCode t) = some t ∧ timerCode t < 256 ^ 4 := by decide +kernel
  exact h t (by cases t <;> decide)

theorem boolOf_boolVal (b : Bool) : boolOf (boolVal b) = some b := by
  cases b <;> rfl

theorem build_values (c : CAction) : CAction.build c.variant c.values = some c := by
  cases c <;> simp [CAction.variant, CAction.values, CAction.build, timerCode_facts, boolOf_boolVal]

theorem values_length (c : CAction) : c.values.length = c.variant.paths.length := by
  cases c <;> rfl

theorem leaves_length (v : Variant) : v.leaves.length = v.paths.length :=
  List.length_map _

theorem writes_fst (c : CAction) : c.writes.map (·.1) = tagLeaf :: c.variant.leaves := by
  rw [CAction.writes, List.map_cons, List.map_fst_zip]
  rw [leaves_length, values_length]; exact Nat.le_refl _

theorem zip_snd_mod (ls : List Leaf) (vs : List Nat) (hlen : vs.length = ls.length)
    (hfit : (ls.zip vs).all (fun w => decide (w.2 < 256 ^ w.1.size)) = true) :
    (ls.zip vs).map (fun w => w.2 % 256 ^ w.1.size) = vs := by
  rw [List.all_eq_true] at hfit
  rw [List.map_congr_left (fun w hw => Nat.mod_eq_of_lt (of_decide_eq_true (hfit w hw))),
    List.map_snd_zip (Nat.le_of_eq hlen)]

theorem variantOK_parts (v : Variant) :
    leavesOK actionL.size (tagLeaf :: v.leaves) = true ∧ v.tag < 256 ^ tagLeaf.size ∧
    variantOfTag v.tag = some v := by
  have h := variantOK_all v
  simp only [variantOK, Bool.and_eq_true, decide_eq_true_eq, beq_iff_eq] at h
  exact ⟨h.1.1.1.1.1, h.1.1.1.2, h.1.1.2⟩

theorem writes_leavesOK (c : CAction) : leavesOK actionL.size (c.writes.map (·.1)) = true := by
  rw [writes_fst]; exact (variantOK_parts c.variant).1

theorem encodeAction_length (c : CAction) : (encodeAction c).length = actionL.size :=
  (blank_writeAll _ _ (writes_leavesOK c)).1

theorem read_encode (c : CAction) (hfit : c.fits = true) :
    readLeaf (encodeAction c) tagLeaf = c.variant.tag ∧
    c.variant.leaves.map (readLeaf (encodeAction c)) = c.values := by
  have hrt := (blank_writeAll _ _ (writes_leavesOK c)).2
  rw [writes_fst] at hrt
  simp only [CAction.writes, List.map_cons, List.cons.injEq] at hrt
  refine ⟨?_, ?_⟩
  · rw [encodeAction, CAction.writes, hrt.1, Nat.mod_eq_of_lt (variantOK_parts c.variant).2.1]
  · rw [encodeAction, CAction.writes, hrt.2]
    exact zip_snd_mod _ _ (by rw [leaves_length, values_length]) hfit

/-- decoding the bytes of an action with the header-derived layout gives
    the action back, field for field -/
theorem decode_encode (c : CAction) (hfit : c.fits = true) : decodeAction (encodeAction c) = some c := by
  obtain ⟨htag, hvals⟩ := read_encode c hfit
  simp only [decodeAction, encodeAction_length, ne_eq, not_true_eq_false, if_false, htag,
    (variantOK_parts c.variant).2.2, hvals, build_values]

theorem decodeEvent_encodeEvent (e : CEvent) (ht : e.eventType < 256 ^ evTypeLeaf.size)
    (hm : e.machine < 256 ^ evMachineLeaf.size) : decodeEvent (encodeEvent e) = some e := by
  have hok := layout_facts.2.2.1
  simp only [eventLayoutOK, Bool.and_eq_true] at hok
  -- the `map` is reduced first: left to the unifier, it unfolds `evTypeLeaf` down to the layout function
  obtain ⟨hlen, hrt⟩ :=
    blank_writeAll eventL.size [(evTypeLeaf, e.eventType), (evMachineLeaf, e.machine)]
      (by simp only [List.map_cons, List.map_nil]; exact hok.1.1.1)
  simp only [List.map_cons, List.map_nil, List.cons.injEq, and_true] at hrt
  rw [decodeEvent, encodeEvent, if_neg (fun h => h hlen), hrt.1, hrt.2, Nat.mod_eq_of_lt ht, Nat.mod_eq_of_lt hm]

theorem durOfMicros_eq_splitNanos (us : Nat) : durOfMicros us = splitNanos us := by
  simp only [durOfMicros, splitNanos, CDuration.mk.injEq]
  omega

theorem convertAction_eq_view (a : TAction) : convertAction a = view a := by
  cases a <;> simp [convertAction, view, durOfMicros_eq_splitNanos]

theorem splitNanos_inj {a b : Nat} : splitNanos a = splitNanos b ↔ a = b := by
  simp only [splitNanos, CDuration.mk.injEq]
  omega

theorem view_inj {a b : TAction} (h : view a = view b) : a = b := by
  cases a <;> cases b <;>
    simp only [view, CAction.cancel.injEq, CAction.sendPadding.injEq, CAction.blockOutgoing.injEq,
      CAction.updateTimer.injEq, splitNanos_inj, reduceCtorEq] at h
  · obtain ⟨rfl, rfl⟩ := h; rfl
  · obtain ⟨rfl, rfl, rfl, rfl⟩ := h; rfl
  · obtain ⟨rfl, rfl, rfl, rfl, rfl⟩ := h; rfl
  · obtain ⟨rfl, rfl, rfl⟩ := h; rfl

theorem durOfMicros_bounds (us : Nat) (h : us < 2 ^ 64) :
    (durOfMicros us).secs < 2 ^ 64 ∧ (durOfMicros us).nanos < 2 ^ 32 := by
  simp only [durOfMicros]; omega

theorem boolVal_lt (b : Bool) : boolVal b < 256 ^ 1 := by
  cases b <;> decide

/-- the widths of a variant's fields, in the order of `Variant.paths` -/
def Variant.sizes : Variant → List Nat
  | .cancel => [8, 4]
  | .sendPadding => [8, 8, 4, 1, 1]
  | .blockOutgoing => [8, 8, 4, 1, 1, 8, 4]
  | .updateTimer => [8, 8, 4, 1]

theorem leaves_sizes (v : Variant) : v.leaves.map (·.size) = v.sizes := by
  have h := sizesOK_true
  simp only [sizesOK, Bool.and_eq_true, beq_iff_eq] at h
  cases v
  · exact h.1.1.1
  · exact h.1.1.2
  · exact h.1.2
  · exact h.2

theorem fits_via_sizes (ls : List Leaf) (vs : List Nat) :
    (ls.zip vs).all (fun w => decide (w.2 < 256 ^ w.1.size)) =
    ((ls.map (·.size)).zip vs).all (fun w => decide (w.2 < 256 ^ w.1)) := by
  rw [List.zip_map_left, List.all_map]; rfl

theorem fits_iff (c : CAction) :
    c.fits = (c.variant.sizes.zip c.values).all (fun w => decide (w.2 < 256 ^ w.1)) := by
  rw [CAction.fits, fits_via_sizes, leaves_sizes]

theorem convertAction_fits (a : TAction) (h : inRange a) : (convertAction a).fits = true := by
  rw [fits_iff]
  cases a <;>
    simp only [convertAction, CAction.variant, CAction.values, Variant.sizes, List.zip_cons_cons,
      List.zip_nil_right, List.all_cons, List.all_nil, Bool.and_true, Bool.and_eq_true, decide_eq_true_eq]
  · exact ⟨h, (timerCode_facts _).2⟩
  · exact ⟨h.1, (durOfMicros_bounds _ h.2).1, (durOfMicros_bounds _ h.2).2, boolVal_lt _, boolVal_lt _⟩
  · exact ⟨h.1, (durOfMicros_bounds _ h.2.1).1, (durOfMicros_bounds _ h.2.1).2, boolVal_lt _, boolVal_lt _,
      (durOfMicros_bounds _ h.2.2).1, (durOfMicros_bounds _ h.2.2).2⟩
  · exact ⟨h.1, (durOfMicros_bounds _ h.2).1, (durOfMicros_bounds _ h.2).2, boolVal_lt _⟩

end Mb.Ffi
