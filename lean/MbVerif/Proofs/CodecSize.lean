/-
  What the bincode model decodes is representable and was paid for in input bytes.

  Every decoder is `Sound dec P w`: from `dec bs = some (x, r)` follow `P x` (the integers of `x`
  are below 2^64, every state has `EVENT_NUM` transition slots) and `w x + r.length ≤ bs.length`,
  with the weight read off the wire format: a varint and an enum tag are at least 1 byte, a bool 1,
  an `f64` 8, an `f32` 4, an `Option` tag 1, a `Vec` length prefix at least 1.  Hence
      Dist ≥ 25 bytes, Trans ≥ 5, a present transition vector ≥ 1 + 5 per entry,
      State ≥ 16 (three option tags and 13 slot tags) + its contents, Machine header ≥ 19,
  so no decoder returns more cells (`Machine.cells`, Spec/C11.lean) than it consumed bytes.

  A `Vec` length prefix that exceeds the number of remaining bytes makes `decVec` fail at once
  (`decVec_prefix_too_large`): `hasAtLeast n r` inspects at most `n` cells of `r` and the decoder
  does not iterate, let alone build anything, when it is false.
-/
import MbVerif.Spec.C11
import MbVerif.Proofs.CodecRoundtrip
import MbVerif.Proofs.CodecBase64
import MbVerif.Proofs.CodecStr

namespace Mb
namespace Codec

/-- whatever `dec` returns satisfies `P` and took at least `w` bytes of the input -/
structure Sound {α} (dec : Bytes → Option (α × Bytes)) (P : α → Prop) (w : α → Nat) : Prop where
  prop : ∀ {bs a r}, dec bs = some (a, r) → P a
  size : ∀ {bs a r}, dec bs = some (a, r) → w a + r.length ≤ bs.length

variable {α} {dec : Bytes → Option (α × Bytes)} {P : α → Prop} {w : α → Nat}

theorem Sound.of (h : ∀ bs a r, dec bs = some (a, r) → P a ∧ w a + r.length ≤ bs.length) :
    Sound dec P w :=
  ⟨fun e => (h _ _ _ e).1, fun e => (h _ _ _ e).2⟩

theorem of_ite_eq {α} {c : Prop} [Decidable c] {a b y : α} (h : (if c then a else b) = y) :
    a = y ∨ b = y := by
  split at h
  · exact .inl h
  · exact .inr h

theorem readLE_sound {k : Nat} {bs r : Bytes} {v : Nat} (h : readLE k bs = some (v, r)) :
    v < 256 ^ k ∧ r.length + k = bs.length := by
  induction k generalizing bs v with
  | zero => cases h; exact ⟨Nat.one_pos, rfl⟩
  | succ k ih =>
    cases bs with
    | nil => cases h
    | cons b bs =>
      simp only [readLE] at h
      split at h
      · cases h
      · rename_i hv
        cases h
        have := ih hv
        have := b.toNat_lt
        simp only [List.length_cons, Nat.pow_succ]
        omega

theorem decVarint_sound : Sound decVarint (· < U64) (fun _ => 1) :=
  Sound.of fun bs v r h => by
  unfold U64
  cases bs with
  | nil => cases h
  | cons b bs =>
    simp only [decVarint, List.length_cons] at h ⊢
    rcases of_ite_eq h with h | h
    · cases h
      have := b.toNat_lt
      omega
    have wide : ∀ {k}, k ≤ 8 → readLE k bs = some (v, r) →
        v < 2 ^ 64 ∧ 1 + r.length ≤ bs.length + 1 := fun hk h => by
      have := readLE_sound h
      have := Nat.pow_le_pow_right (n := 256) (by omega) hk
      omega
    rcases of_ite_eq h with h | h
    · exact wide (by omega) h
    rcases of_ite_eq h with h | h
    · exact wide (by omega) h
    rcases of_ite_eq h with h | h
    · exact wide (by omega) h
    · cases h

theorem decU32_consumes {bs r : Bytes} {v : Nat} (h : decU32 bs = some (v, r)) :
    r.length + 1 ≤ bs.length := by
  simp only [decU32] at h
  split at h
  · rename_i hv
    rcases of_ite_eq h with h | h
    · cases h
      have := decVarint_sound.size hv
      omega
    · cases h
  · cases h

theorem decBool_consumes {bs r : Bytes} {v : Bool} (h : decBool bs = some (v, r)) :
    r.length + 1 = bs.length := by
  cases bs with
  | nil => cases h
  | cons b bs =>
    simp only [decBool] at h
    rcases of_ite_eq h with h | h
    · cases h; rfl
    rcases of_ite_eq h with h | h
    · cases h; rfl
    · cases h

theorem decF64_consumes {bs r : Bytes} {v : F64} (h : decF64 bs = some (v, r)) :
    r.length + 8 = bs.length := by
  simp only [decF64] at h
  split at h
  · rename_i hx; cases h; exact (readLE_sound hx).2
  · cases h

theorem decF32_consumes {bs r : Bytes} {v : F32} (h : decF32 bs = some (v, r)) :
    r.length + 4 = bs.length := by
  simp only [decF32] at h
  split at h
  · rename_i hx; cases h; exact (readLE_sound hx).2
  · cases h

theorem dec2F64_consumes {bs r : Bytes} {v : F64 × F64} (h : dec2F64 bs = some (v, r)) :
    r.length + 16 = bs.length := by
  simp only [dec2F64] at h
  split at h
  · cases h
  · rename_i h1
    split at h
    · cases h
    · rename_i h2
      cases h
      have := decF64_consumes h1
      have := decF64_consumes h2
      omega

theorem decOption_sound (hd : Sound dec P w) {Q : Option α → Prop} {W : Option α → Nat}
    (hn : Q none ∧ W none ≤ 1) (hs : ∀ a, P a → Q (some a) ∧ W (some a) ≤ w a + 1) :
    Sound (decOption dec) Q W :=
  Sound.of fun bs o r h => by
  cases bs with
  | nil => cases h
  | cons b bs =>
    simp only [decOption, List.length_cons] at h ⊢
    rcases of_ite_eq h with h | h
    · cases h
      exact ⟨hn.1, by omega⟩
    rcases of_ite_eq h with h | h
    · split at h
      · rename_i a _ hx
        cases h
        have := hd.size hx
        have := hs a (hd.prop hx)
        exact ⟨this.1, by omega⟩
      · cases h
    · cases h

theorem decN_length {n : Nat} {bs r : Bytes} {l : List α}
    (h : decN dec n bs = some (l, r)) : l.length = n := by
  induction n generalizing bs l with
  | zero => cases h; rfl
  | succ n ih =>
    simp only [decN] at h
    split at h
    · cases h
    · split at h
      · cases h
      · rename_i hx
        cases h
        exact congrArg (· + 1) (ih hx)

theorem decN_sound (hd : Sound dec P w) {n : Nat} {bs r : Bytes} {l : List α} (h : decN dec n bs = some (l, r)) :
    (∀ a ∈ l, P a) ∧ (l.map w).sum + r.length ≤ bs.length := by
  induction n generalizing bs l with
  | zero => cases h; exact ⟨nofun, by simp⟩
  | succ n ih =>
    simp only [decN] at h
    split at h
    · cases h
    · rename_i h0
      split at h
      · cases h
      · rename_i hx
        cases h
        have h1 := hd.size h0
        have h2 := ih hx
        simp only [List.forall_mem_cons, List.map_cons, List.sum_cons]
        exact ⟨⟨hd.prop h0, h2.1⟩, by omega⟩

theorem decVec_sound (hd : Sound dec P w) :
    Sound (decVec dec) (fun l => l.length < U64 ∧ ∀ a ∈ l, P a) (fun l => (l.map w).sum + 1) :=
  Sound.of fun bs l r h => by
  simp only [decVec] at h
  split at h
  · cases h
  · rename_i hn
    rcases of_ite_eq h with h | h
    · have h1 := decVarint_sound.prop hn
      have h1' := decVarint_sound.size hn
      have h2 := decN_sound hd h
      have h3 := decN_length h
      exact ⟨⟨by omega, h2.1⟩, by omega⟩
    · cases h

/-- A length prefix larger than the number of bytes that follow it is rejected outright: the
    element decoder is never called and nothing is built. -/
theorem decVec_prefix_too_large {α} (dec : Bytes → Option (α × Bytes)) {bs r : Bytes} {n : Nat}
    (h : decVarint bs = some (n, r)) (hn : r.length < n) : decVec dec bs = none := by
  simp only [decVec, h, hasAtLeast_iff, if_neg (Nat.not_le.mpr hn)]

theorem decVec_length_le {α} {dec : Bytes → Option (α × Bytes)} {bs r : Bytes} {l : List α}
    (h : decVec dec bs = some (l, r)) : l.length + 1 ≤ bs.length := by
  simp only [decVec] at h
  split at h
  · cases h
  · rename_i hn
    split at h
    · rename_i hle
      rw [hasAtLeast_iff] at hle
      have := decN_length h
      have := decVarint_sound.size hn
      omega
    · cases h

/-- A distribution type is a tag and at least one `f64`; its only integer is the trial count of
    `binomial`, a varint. -/
theorem decDistType_sound : Sound decDistType (wfDistType · = true) (fun _ => 9) :=
  Sound.of fun bs d r h => by
  simp only [decDistType] at h
  split at h
  · cases h
  rename_i r0 htag
  have h0 := decU32_consumes htag
  have two : ∀ {C : F64 → F64 → DistType}, (∀ a b, wfDistType (C a b) = true) →
      (dec2F64 r0).map (fun x => (C x.1.1 x.1.2, x.2)) = some (d, r) →
      wfDistType d = true ∧ 9 + r.length ≤ bs.length := fun hC h => by
    obtain ⟨x, hx, e⟩ := Option.map_eq_some_iff.mp h
    cases e
    exact ⟨hC _ _, by have := dec2F64_consumes hx; omega⟩
  rcases of_ite_eq h with h | h
  · exact two (fun _ _ => rfl) h
  rcases of_ite_eq h with h | h
  · exact two (fun _ _ => rfl) h
  rcases of_ite_eq h with h | h
  · split at h
    · cases h
    rename_i hab
    obtain ⟨x, hx, e⟩ := Option.map_eq_some_iff.mp h
    cases e
    exact ⟨rfl, by have := dec2F64_consumes hab; have := decF64_consumes hx; omega⟩
  rcases of_ite_eq h with h | h
  · exact two (fun _ _ => rfl) h
  rcases of_ite_eq h with h | h
  · split at h
    · cases h
    rename_i ht
    obtain ⟨x, hx, e⟩ := Option.map_eq_some_iff.mp h
    cases e
    have := decVarint_sound.size ht
    exact ⟨decide_eq_true (decVarint_sound.prop ht), by have := decF64_consumes hx; omega⟩
  rcases of_ite_eq h with h | h
  · obtain ⟨x, hx, e⟩ := Option.map_eq_some_iff.mp h
    cases e
    exact ⟨rfl, by have := decF64_consumes hx; omega⟩
  rcases of_ite_eq h with h | h
  · exact two (fun _ _ => rfl) h
  rcases of_ite_eq h with h | h
  · obtain ⟨x, hx, e⟩ := Option.map_eq_some_iff.mp h
    cases e
    exact ⟨rfl, by have := decF64_consumes hx; omega⟩
  rcases of_ite_eq h with h | h
  · exact two (fun _ _ => rfl) h
  rcases of_ite_eq h with h | h
  · exact two (fun _ _ => rfl) h
  rcases of_ite_eq h with h | h
  · exact two (fun _ _ => rfl) h
  cases h

theorem decDist_sound : Sound decDist (wfDist · = true) (fun _ => 25) :=
  Sound.of fun bs d r h => by
  simp only [decDist] at h
  split at h
  · cases h
  rename_i hd
  split at h
  · cases h
  rename_i hx
  cases h
  have := decDistType_sound.size hd
  have := dec2F64_consumes hx
  exact ⟨decDistType_sound.prop hd, by omega⟩

theorem decOptDist_sound :
    Sound (decOption decDist) (wfOptDist · = true) (fun o => 25 * optDistCount o + 1) :=
  decOption_sound decDist_sound ⟨rfl, Nat.le_refl 1⟩ fun _ h => ⟨h, Nat.le_refl 26⟩

theorem decDist_consumes {bs r : Bytes} {d : Dist} (h : decDist bs = some (d, r)) :
    r.length + 25 ≤ bs.length := by
  have := decDist_sound.size h
  omega

theorem decTimer_consumes {bs r : Bytes} {t : Timer} (h : decTimer bs = some (t, r)) :
    r.length + 1 ≤ bs.length := by
  simp only [decTimer] at h
  split at h
  · cases h
  rename_i htag
  have h0 := decU32_consumes htag
  rcases of_ite_eq h with h | h
  · cases h; exact h0
  rcases of_ite_eq h with h | h
  · cases h; exact h0
  rcases of_ite_eq h with h | h
  · cases h; exact h0
  · cases h

theorem decOperation_consumes {bs r : Bytes} {t : Operation} (h : decOperation bs = some (t, r)) :
    r.length + 1 ≤ bs.length := by
  simp only [decOperation] at h
  split at h
  · cases h
  rename_i htag
  have h0 := decU32_consumes htag
  rcases of_ite_eq h with h | h
  · cases h; exact h0
  rcases of_ite_eq h with h | h
  · cases h; exact h0
  rcases of_ite_eq h with h | h
  · cases h; exact h0
  · cases h

theorem decAction_sound : Sound decAction (wfAction · = true) (fun a => 25 * a.distCount + 2) :=
  Sound.of fun bs a r h => by
  simp only [decAction] at h
  split at h
  · cases h
  rename_i r0 htag
  have h0 := decU32_consumes htag
  rcases of_ite_eq h with h | h
  · obtain ⟨x, hx, e⟩ := Option.map_eq_some_iff.mp h
    cases e
    have := decTimer_consumes hx
    exact ⟨rfl, by simp only [Action.distCount]; omega⟩
  rcases of_ite_eq h with h | h
  · split at h
    · cases h
    rename_i hb
    split at h
    · cases h
    rename_i hrp
    split at h
    · cases h
    rename_i hto
    split at h
    · cases h
    rename_i hlim
    cases h
    have := decBool_consumes hb
    have := decBool_consumes hrp
    have := decDist_sound.size hto
    have := decOptDist_sound.size hlim
    exact ⟨Bool.and_eq_true_iff.mpr ⟨decDist_sound.prop hto, decOptDist_sound.prop hlim⟩,
      by simp only [Action.distCount]; omega⟩
  rcases of_ite_eq h with h | h
  · split at h
    · cases h
    rename_i hb
    split at h
    · cases h
    rename_i hrp
    split at h
    · cases h
    rename_i hto
    split at h
    · cases h
    rename_i hdu
    split at h
    · cases h
    rename_i hlim
    cases h
    have := decBool_consumes hb
    have := decBool_consumes hrp
    have := decDist_sound.size hto
    have := decDist_sound.size hdu
    have := decOptDist_sound.size hlim
    have hw := Bool.and_eq_true_iff.mpr ⟨decDist_sound.prop hto, decDist_sound.prop hdu⟩
    exact ⟨Bool.and_eq_true_iff.mpr ⟨hw, decOptDist_sound.prop hlim⟩, by simp only [Action.distCount]; omega⟩
  rcases of_ite_eq h with h | h
  · split at h
    · cases h
    rename_i hrp
    split at h
    · cases h
    rename_i hdu
    split at h
    · cases h
    rename_i hlim
    cases h
    have := decBool_consumes hrp
    have := decDist_sound.size hdu
    have := decOptDist_sound.size hlim
    exact ⟨Bool.and_eq_true_iff.mpr ⟨decDist_sound.prop hdu, decOptDist_sound.prop hlim⟩,
      by simp only [Action.distCount]; omega⟩
  · cases h

theorem decOptAction_sound :
    Sound (decOption decAction) (wfOptAction · = true) (fun o => 25 * optActionDistCount o + 1) :=
  decOption_sound decAction_sound ⟨rfl, Nat.le_refl 1⟩ fun _ h => ⟨h, Nat.le_add_right _ 2⟩

theorem decCounter_sound : Sound decCounter (wfCounter · = true) (fun c => 25 * optDistCount c.dist + 3) :=
  Sound.of fun bs c r h => by
  simp only [decCounter] at h
  split at h
  · cases h
  rename_i hop
  split at h
  · cases h
  rename_i hd
  split at h
  · cases h
  rename_i hb
  cases h
  have := decOperation_consumes hop
  have := decOptDist_sound.size hd
  have := decBool_consumes hb
  exact ⟨decOptDist_sound.prop hd, by simp only; omega⟩

theorem decOptCounter_sound :
    Sound (decOption decCounter) (wfOptCounter · = true) (fun o => 25 * optCounterDistCount o + 1) :=
  decOption_sound decCounter_sound ⟨rfl, Nat.le_refl 1⟩ fun _ h => ⟨h, Nat.le_add_right _ 3⟩

theorem decTrans_sound : Sound decTrans (wfTrans · = true) (fun _ => 5) :=
  Sound.of fun bs t r h => by
  simp only [decTrans] at h
  split at h
  · cases h
  rename_i hv
  split at h
  · cases h
  rename_i hp
  cases h
  have := decVarint_sound.size hv
  have := decF32_consumes hp
  exact ⟨decide_eq_true (decVarint_sound.prop hv), by omega⟩

theorem decTransVec_sound : Sound (decVec decTrans) (wfTransVec · = true) (fun ts => 5 * ts.length + 1) :=
  Sound.of fun bs ts r h => by
  have h1 := (decVec_sound decTrans_sound).prop h
  have h2 := (decVec_sound decTrans_sound).size h
  rw [List.map_const', List.sum_replicate_nat] at h2
  exact ⟨Bool.and_eq_true_iff.mpr ⟨decide_eq_true h1.1, List.all_eq_true.mpr h1.2⟩, by omega⟩

theorem decTransVec_consumes {bs r : Bytes} {ts : List Trans} (h : decVec decTrans bs = some (ts, r)) :
    5 * ts.length + 1 + r.length ≤ bs.length :=
  decTransVec_sound.size h

/-- the byte weight of one event slot: its `Option` tag, and for a present vector its length prefix
    and 5 bytes per entry -/
def slotW (o : Option (List Trans)) : Nat := 5 * slotEntries o + slotVecs o + 1

theorem decSlot_sound : Sound (decOption (decVec decTrans)) (wfOptTransVec · = true) slotW :=
  decOption_sound decTransVec_sound ⟨rfl, Nat.le_refl 1⟩ fun _ h => ⟨h, Nat.le_refl _⟩

theorem sum_slotW (l : List (Option (List Trans))) :
    (l.map slotW).sum = 5 * (l.map slotEntries).sum + (l.map slotVecs).sum + l.length := by
  induction l with
  | nil => rfl
  | cons a l ih => simp only [List.map_cons, List.sum_cons, List.length_cons, ih, slotW]; omega

/-- 16 = the three `Option` tags and the `EVENT_NUM` = 13 slot tags of a state -/
def stateW (s : State) : Nat := 16 + 25 * s.distCount + s.vecCount + 5 * s.transCount

theorem decState_sound : Sound decState (wfState · = true) stateW :=
  Sound.of fun bs s r h => by
  simp only [decState] at h
  split at h
  · cases h
  rename_i ha
  split at h
  · cases h
  rename_i hca
  split at h
  · cases h
  rename_i hcb
  split at h
  · cases h
  rename_i ts _ hts
  cases h
  have := decOptAction_sound.size ha
  have := decOptCounter_sound.size hca
  have := decOptCounter_sound.size hcb
  have h4 := decN_sound decSlot_sound hts
  have h5 : ts.length = 13 := decN_length hts
  rw [sum_slotW] at h4
  refine ⟨?_, by simp only [stateW, State.distCount, State.vecCount, State.transCount]; omega⟩
  simp only [wfState, Bool.and_eq_true, decide_eq_true_eq, List.all_eq_true]
  exact ⟨⟨⟨⟨decOptAction_sound.prop ha, decOptCounter_sound.prop hca⟩, decOptCounter_sound.prop hcb⟩, h5⟩, h4.1⟩

theorem sum_stateW (l : List State) :
    (l.map stateW).sum = 16 * l.length + 25 * (l.map State.distCount).sum + (l.map State.vecCount).sum
      + 5 * (l.map State.transCount).sum := by
  induction l with
  | nil => rfl
  | cons a l ih => simp only [List.map_cons, List.sum_cons, List.length_cons, ih, stateW]; omega

/-- The machine decoder consumes at least 19 header bytes, 16 bytes per state, 25 per
    distribution, 1 per present transition vector and 5 per transition entry. -/
theorem decMachine_sound : Sound decMachine (WFm · = true)
    (fun m => 16 * m.states.length + 25 * m.distCount + m.vecCount + 5 * m.transCount + 19) :=
  Sound.of fun bs m r h => by
  simp only [decMachine] at h
  split at h
  · cases h
  rename_i h1
  split at h
  · cases h
  rename_i h2
  split at h
  · cases h
  rename_i h3
  split at h
  · cases h
  rename_i h4
  split at h
  · cases h
  rename_i h5
  cases h
  have := decVarint_sound.size h1
  have := decF64_consumes h2
  have := decVarint_sound.size h3
  have := decF64_consumes h4
  have h6 := (decVec_sound decState_sound).size h5
  have h7 := (decVec_sound decState_sound).prop h5
  rw [sum_stateW] at h6
  refine ⟨?_, by simp only [Machine.distCount, Machine.vecCount, Machine.transCount]; omega⟩
  simp only [WFm, Bool.and_eq_true, decide_eq_true_eq, List.all_eq_true]
  exact ⟨⟨⟨decVarint_sound.prop h1, decVarint_sound.prop h3⟩, h7.1⟩, h7.2⟩

theorem decMachine_cells_le {bs r : Bytes} {m : Machine} (h : decMachine bs = some (m, r)) :
    m.cells + 15 * m.states.length + 19 + r.length ≤ bs.length := by
  have := decMachine_sound.size h
  simp only [Machine.cells]; omega

theorem decodeMachine_eq {bs : Bytes} {m : Machine} (h : decodeMachine bs = some m) :
    decMachine bs = some (m, []) := by
  simp only [decodeMachine] at h
  split at h
  · rename_i hm; cases h; exact hm
  · cases h

theorem decodeMachine_wf {bs : Bytes} {m : Machine} (h : decodeMachine bs = some m) : WFm m = true :=
  decMachine_sound.prop (decodeMachine_eq h)

theorem decodeMachine_consumes {bs : Bytes} {m : Machine} (h : decodeMachine bs = some m) :
    16 * m.states.length + 25 * m.distCount + m.vecCount + 5 * m.transCount + 19 ≤ bs.length :=
  Nat.le_trans (Nat.le_add_right _ _) (decMachine_sound.size (decodeMachine_eq h))

theorem decodeMachine_cells_le {bs : Bytes} {m : Machine} (h : decodeMachine bs = some m) :
    m.cells + 15 * m.states.length + 19 ≤ bs.length :=
  Nat.le_trans (Nat.le_add_right _ _) (decMachine_cells_le (decodeMachine_eq h))

theorem decState_cells_le {bs r : Bytes} {s : State} (h : decState bs = some (s, r)) :
    1 + s.vecCount + s.transCount + s.distCount + 15 + r.length ≤ bs.length := by
  have := decState_sound.size h
  simp only [stateW] at this; omega

end Codec
end Mb

namespace Mb
namespace MStr
open Codec (Bytes)

/-- Sizes of everything `from_str` builds, for a zlib whose bounded read honours its buffer: the
    base64-decoded bytes are at most 3/4 of the string, the decompressed bytes at most `MAX`, and
    the accepted machine has at most as many cells as there were decompressed bytes. -/
theorem fromStr_sizes {Z : Zlib} (hB : Z.Bounded) {s : Bytes} {m : Machine} (h : fromStr Z s = .ok m) :
    ∃ compressed raw, B64.dec (s.drop 2) = some compressed ∧ Z.readOnce compressed = some raw ∧
      Codec.decodeMachine raw = some m ∧
      4 * compressed.length + 6 ≤ 3 * s.length ∧ raw.length ≤ MAX ∧
      m.cells + 15 * m.states.length + 19 ≤ raw.length := by
  obtain ⟨c, raw, h3, _, _, hc, hr, hm, _⟩ := fromStr_ok h
  have h1 := B64.dec_length _ _ hc
  have h2 := hB _ _ hr
  have h4 := Codec.decodeMachine_cells_le hm
  refine ⟨c, raw, hc, hr, hm, ?_, h2, h4⟩
  simp only [List.length_drop] at h1
  omega

end MStr
end Mb
