/-
  The internal consistency assertions of `pick_next` cannot fire: candidate offsets are at most
  `Duration::MAX`, the internal-timer / scheduled-action branches are only taken for an offset
  that belongs to a pending slot, and that slot is then found.
-/
import MbVerif.Proofs.SimNoLeak

namespace Mb.Sim
open Mb

theorem simQueue_peek_le {s : SimQueue} {c sv : Nat} {now : Int} {ev : SimEvent} {qi : Queue} {d : Nat}
    (h : s.peek c sv now = .ok (some ev, qi, d)) : d ≤ durMax := by
  obtain ⟨_, _, g2, _⟩ := SimQueue.peek_spec h
  rw [g2]
  exact dsince_le' _ _

section
variable {σ : Type}

theorem peekQueue_le {st : St σ} {e : Nat} {q : Nat} {qid : Queue} {c : Bool}
    (h : peekQueue st e = .ok (q, qid, c)) : q ≤ durMax := by
  rcases peekQueue_ok_iff.1 h with ⟨_, hr⟩ | ⟨_, _, _, _, _, hr⟩ | ⟨pk, qu, dur, hpk, _, _, hr⟩ | ⟨_, _, _, _, _, _, hr⟩
  · cases hr; exact Nat.le_refl _
  · cases hr; exact Nat.le_refl _
  · cases hr; exact simQueue_peek_le hpk
  · have := st.earliest_le
    rw [← hr] at this
    exact this

theorem pickDecide_timer {st : St σ} {i : Nat} (h : pickDecide st = .ok (.timer i)) :
    i = peekScheduledInternalTimer st.client.schedTimer st.server.schedTimer st.now ∧ i < durMax := by
  obtain ⟨r, _, hp⟩ := pickDecide_ok_iff.1 h
  obtain ⟨hi, _, hb, _⟩ := Pick.choose_timer hp
  exact ⟨hi, Nat.lt_of_lt_of_le hb (peekBlockedExp_le _ _ _)⟩

theorem pickDecide_action {st : St σ} {s : Nat} (h : pickDecide st = .ok (.action s)) :
    s = peekScheduledAction st.client.schedAction st.server.schedAction st.now ∧ s < durMax := by
  obtain ⟨r, _, hp⟩ := pickDecide_ok_iff.1 h
  obtain ⟨hs, _, hb, _⟩ := Pick.choose_action hp
  exact ⟨hs, Nat.lt_of_lt_of_le hb (peekBlockedExp_le _ _ _)⟩

end

theorem findSlot_some_of_mem {α : Type} (p : α → Bool) : ∀ (l : List (Option α)) (i : Nat) (a : α),
    some a ∈ l → p a = true → (findSlot p l i).isSome = true := by
  intro l
  induction l with
  | nil => intro i a h; simp at h
  | cons x xs ih =>
    intro i a hm hp
    cases x with
    | none =>
      simp only [findSlot]
      simp only [List.mem_cons] at hm
      rcases hm with h | h
      · cases h
      · exact ih _ a h hp
    | some b =>
      simp only [findSlot]
      split
      · rfl
      · simp only [List.mem_cons] at hm
        rcases hm with h | h
        · simp only [Option.some.injEq] at h
          subst h
          rename_i hn; rw [hp] at hn; exact absurd rfl hn
        · exact ih _ a h hp

theorem findSlot_two {α : Type} (p : α → Bool) {c s : List (Option α)} {a : α} (hm : some a ∈ c ∨ some a ∈ s)
    (hp : p a = true) :
    (∃ r, findSlot p c 0 = some r) ∨ (findSlot p c 0 = none ∧ ∃ r, findSlot p s 0 = some r) := by
  cases hf : findSlot p c 0 with
  | some r => exact Or.inl ⟨r, rfl⟩
  | none =>
    refine Or.inr ⟨rfl, Option.isSome_iff_exists.1 ?_⟩
    rcases hm with hm | hm
    · have := findSlot_some_of_mem p c 0 a hm hp
      rw [hf] at this; cases this
    · exact findSlot_some_of_mem p s 0 a hm hp

theorem peekFold_slot {α : Type} (time : α → Int) (now : Int) (c s : List (Option α))
    (hlt : peekFold time now c s < durMax) :
    ∃ a, (some a ∈ c ∨ some a ∈ s) ∧ now + (peekFold time now c s : Int) = time a := by
  rcases peekFold_attained time now c s with h | ⟨a, hm, hge, h⟩
  · omega
  · exact ⟨a, hm, by rw [h]; exact dsince_exact hge (h ▸ hlt)⟩

section
variable {σ : Type}

/-- "BUG: no internal action found" cannot fire: when `pick_next` decides for the internal
    timer branch, the timer it computed the offset from is found. -/
theorem doInternalTimer_found {st : St σ} {i : Nat} (h : pickDecide st = .ok (.timer i)) :
    doInternalTimer st (st.now + i) ≠ .error .noInternal := by
  obtain ⟨hi, hlt⟩ := pickDecide_timer h
  rw [peekScheduledInternalTimer_fold] at hi
  subst hi
  obtain ⟨t, hm, ht⟩ := peekFold_slot id st.now _ _ hlt
  rw [ht]
  unfold doInternalTimer
  rcases findSlot_two (fun x => x == id t) hm (beq_self_eq_true t) with ⟨r, hr⟩ | ⟨h0, r, hr⟩
  · rw [hr]; nofun
  · rw [h0, hr]; nofun

/-- "BUG: no action found" cannot fire: when `pick_next` decides for the scheduled-action
    branch, the action it computed the offset from is found. -/
theorem doScheduledAction_found {st : St σ} {s : Nat} (h : pickDecide st = .ok (.action s)) :
    doScheduledAction st (st.now + s) ≠ .error .noAction := by
  obtain ⟨hs, hlt⟩ := pickDecide_action h
  rw [peekScheduledAction_fold] at hs
  subst hs
  obtain ⟨a, hm, ht⟩ := peekFold_slot SchedAction.time st.now _ _ hlt
  rw [ht]
  have hfa : ∃ r, findAction st a.time = some r := by
    unfold findAction
    rcases findSlot_two (fun (x : SchedAction) => x.time == a.time) hm (beq_self_eq_true a.time) with
      ⟨r, hr⟩ | ⟨h0, r, hr⟩
    · rw [hr]; exact ⟨_, rfl⟩
    · rw [h0, hr]; exact ⟨_, rfl⟩
  obtain ⟨⟨c, i, a'⟩, hfa⟩ := hfa
  unfold doScheduledAction
  rw [hfa]
  simp only []
  split <;> nofun

end
theorem durChk_err {n : Nat} {f : SimFault} (h : durChk n = .error f) : f = .durOverflow := by
  unfold durChk at h
  split at h
  · cases h; rfl
  · cases h

theorem popAggregateDelay_fault {b : Bottleneck} {f : SimFault} (h : b.popAggregateDelay = .error f) :
    f = .durOverflow := by
  unfold Bottleneck.popAggregateDelay at h
  split at h
  · cases h
  · split at h <;>
    · rw [bind_error_iff] at h
      rcases h with h | ⟨v, _, h⟩
      · exact durChk_err h
      · cases h

section
variable {σ : Type}

theorem St.actOff_le (st : St σ) : st.actOff ≤ durMax := by
  unfold St.actOff
  rw [peekScheduledAction_fold]
  exact peekFold_le _ _ _ _

theorem St.timOff_le (st : St σ) : st.timOff ≤ durMax := by
  unfold St.timOff
  rw [peekScheduledInternalTimer_fold]
  exact peekFold_le _ _ _ _

/-- the aggregate-delay branch is only taken when a delay is pending, so `pick_next` cannot
    recurse forever there (`diverge` is unreachable) -/
theorem pickAgg_no_diverge {st : St σ} (h : pickDecide st = .ok .agg) : pickAgg st ≠ .error .diverge := by
  intro hc
  rcases pickAgg_error_iff.1 hc with ⟨hz, _⟩ | ⟨_, hp⟩
  · -- no delay pending: `n = MAX` is minimal, so all five are `MAX` and the decision is "nothing"
    obtain ⟨⟨q, qid, c⟩, hr, hp⟩ := pickDecide_ok_iff.1 h
    obtain ⟨h1, h2, h3, h4, hne⟩ := Pick.choose_agg hp
    have hn : st.aggOff = durMax := by
      unfold St.aggOff Bottleneck.peekAggregateDelay Heap.peek
      cases hd : st.net.aggQueue.data with
      | nil => rfl
      | cons a r => simp [Heap.len, hd] at hz
    have hq := peekQueue_le hr
    have hs := st.actOff_le
    have hi := st.timOff_le
    have hb := peekBlockedExp_le st.client.blockingUntil st.server.blockingUntil st.now
    rw [hn] at h1 h2 h3 h4
    exact hne ⟨Nat.le_antisymm hs h1, Nat.le_antisymm hi h2, Nat.le_antisymm hb h3, hn, Nat.le_antisymm hq h4⟩
  · cases popAggregateDelay_fault hp

end
end Mb.Sim
