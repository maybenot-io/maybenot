/-
  END is absorbing: a machine in END stays there and its slot stays empty.
-/
import MbVerif.Proofs.Walk
import MbVerif.Proofs.C04

namespace Mb
variable {σ : Type} (ρ : Oracle σ)

def Ended (mi : Nat) (s : Fw σ) : Prop := (s.rt[mi]?).map (·.currentState) = some STATE_END

/-- machine `mi` is in END and its slot holds no action -/
def Quiet (mi : Nat) (s : Fw σ) : Prop := Ended mi s ∧ ∀ a, s.actions[mi]? ≠ some (some a)

theorem ended_iff {mi : Nat} {s : Fw σ} : Ended mi s ↔ ∃ r, s.rt[mi]? = some r ∧ r.currentState = STATE_END :=
  Option.map_eq_some_iff

theorem Ended.rt {mi : Nat} {s : Fw σ} (h : Ended mi s) : ∃ r, s.rt[mi]? = some r ∧ r.currentState = STATE_END :=
  ended_iff.mp h

theorem Ended.of_rt_eq {mi : Nat} {s t : Fw σ} (h : t.rt[mi]? = s.rt[mi]?) (he : Ended mi s) : Ended mi t := by
  rw [Ended, h]; exact he

theorem Quiet.ofFrame {mi j : Nat} {s t : Fw σ} (hj : j ≠ mi) (hf : Frame j s t) (hq : Quiet mi s) : Quiet mi t :=
  ⟨hq.1.of_rt_eq (hf.rtOther mi (Ne.symm hj)), fun a => by rw [hf.actOther mi (Ne.symm hj)]; exact hq.2 a⟩

theorem transition_ended (fuel mi : Nat) (ev : Event) (s : Fw σ) (h : Ended mi s) :
    (transition ρ fuel mi ev s).1.rt = s.rt ∧ (transition ρ fuel mi ev s).1.actions = s.actions := by
  cases fuel with
  | zero => simp [transition]
  | succ n =>
    obtain ⟨r, hr, hend⟩ := h.rt
    rw [transition, hr]
    cases s.machines[mi]? <;> simp [hend]

theorem notEnded_false_of_ended {mi : Nat} {s : Fw σ} (h : Ended mi s) : notEnded s mi = false := by
  obtain ⟨r, hr, hend⟩ := h.rt
  simp [notEnded, hr, hend]

theorem quiet_callStart {mi : Nat} {s : Fw σ} (t : Int) (h : Ended mi s) : Quiet mi (s.callStart t) := by
  obtain ⟨r, hr, hend⟩ := h.rt
  exact ⟨by simp [Ended, Fw.callStart, hr, hend], fun a => getElem?_map_none s.actions mi a⟩

theorem walkQuiet (mi : Nat) : Walk ρ (fun (s t : Fw σ) => Quiet mi s → Quiet mi t) where
  refl _ h := h
  trans h₁ h₂ h := h₂ (h₁ h)
  transition j ev s _ hq := by
    by_cases hj : j = mi
    · subst hj
      obtain ⟨h1, h2⟩ := transition_ended ρ FUEL j ev s hq.1
      exact ⟨hq.1.of_rt_eq (by rw [h1]), fun a => by rw [h2]; exact hq.2 a⟩
    · exact Quiet.ofFrame hj (transition_reach ρ FUEL j ev s).frame hq
  decrement j s hne hq := by
    by_cases hj : j = mi
    · subst hj
      rw [notEnded_false_of_ended hq.1] at hne
      cases hne
    · exact Quiet.ofFrame hj (decrementLimit_reach ρ j s).frame hq
  setG _ _ hq := hq
  acct s j f hf hq := by
    refine ⟨?_, fun a => by simpa using hq.2 a⟩
    by_cases hj : j = mi
    · subst hj
      obtain ⟨r, hr, hend⟩ := hq.1.rt
      rw [Ended, Fw.modRt_rt_self, hr, Option.map_some, Option.map_some, hf r, hend]
    · exact hq.1.of_rt_eq (Fw.modRt_rt_other s j mi f (Ne.symm hj))
  fault s f hq := ⟨hq.1.of_rt_eq (by simp), fun a => by simpa using hq.2 a⟩
  signal _ _ hq := hq
  callStart s t hq := quiet_callStart t hq.1

theorem triggerEvents_quiet (mi : Nat) (es : List TEvent) (t : Int) (s : Fw σ) (h : Ended mi s) :
    Quiet mi (triggerEvents ρ es t s) := by
  have W := walkQuiet ρ (σ := σ) mi
  unfold triggerEvents
  exact W.signalRound _ (W.foldl _ (fun s e => W.processEvent e s) _ _ (quiet_callStart t h))

end Mb
