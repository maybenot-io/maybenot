/-
  The monitors `C08.monitor` and `C09.monitor` (Spec/C08.lean, Spec/C09.lean) accept the model's own
  trace `LL.modelTrace` of every history.

  C08. `checkLog` / `strayCZ` / "no CounterZero at the start" are `CL.call_good` (CounterLog.lean).
  This file adds the value rule `C08.checkValues`: the relation `V ms s t` says that `t` extends the log
  of `s` by a chronological segment which `checkValues`, started with the state function of `s` and
  ANY list of recent raw samples, walks through without an alarm, arriving at the state function of
  `t`. It is reflexive, transitive, holds for `transition` / `updateCounter` (induction on the fuel;
  no validity or no-fault hypothesis) and hence - by the generic walker - for whole calls.

  C09. `checkCall` is read off the log of a call in three parts (reported events, first delivery
  round, second delivery round). What is needed for that is which machine and which event the
  `sampled _ _ SIGNAL` entries of each part belong to (`Own`), so that the monitor's `signallers` / `responders` can be
  compared with the model's pending-signal slot (SigSlot.lean) and deliveries (SigLive.lean).
-/
import MbVerif.Proofs.CounterLog
import MbVerif.Proofs.LimitMonitor
import MbVerif.Proofs.SigLive
import MbVerif.Proofs.TransInduct

namespace Mb
namespace MB
open C08 (checkValues ctrSpec operandOf)

variable {σ : Type} (ρ : Oracle σ)

/-- the current state of every machine (0 for a machine that does not exist), as the monitor reads
    it off the snapshot -/
def stF (s : Fw σ) : Nat → Nat := fun j => match s.rt[j]? with | some r => r.currentState | none => 0

theorem stF_congr {s t : Fw σ} (h : ∀ j : Nat, (t.rt[j]?).map (·.currentState) = (s.rt[j]?).map (·.currentState)) :
    stF t = stF s := by
  funext j
  have := h j
  unfold stF
  cases ht : t.rt[j]? <;> cases hs : s.rt[j]? <;> rw [ht, hs] at this <;> simp at this ⊢
  exact this

/-- entries that `checkValues` passes without looking at the tracked states -/
def quietV : LogEntry → Bool
  | .sampled .. => false
  | .counter .. => false
  | _ => true

theorem checkValues_quiet (ms : List Machine) (st : Nat → Nat) (e : LogEntry) (he : quietV e = true)
    (recent : List F64) (rest : List LogEntry) :
    ∃ recent', checkValues ms st recent (e :: rest) = checkValues ms st recent' rest := by
  cases e with
  | sampled => cases he
  | counter => cases he
  | trans => exact ⟨recent, by simp only [checkValues]⟩
  | draw => exact ⟨recent, by simp only [checkValues]⟩
  | distRaw b => exact ⟨recent ++ [b], by simp only [checkValues]⟩
  | limit => exact ⟨[], by simp only [checkValues]⟩

theorem checkValues_quiets (ms : List Machine) (st : Nat → Nat) (c : List LogEntry) (hc : ∀ e ∈ c, quietV e = true)
    (recent : List F64) (rest : List LogEntry) :
    ∃ recent', checkValues ms st recent (c ++ rest) = checkValues ms st recent' rest := by
  induction c generalizing recent with
  | nil => exact ⟨recent, rfl⟩
  | cons e c ih =>
    obtain ⟨r1, h1⟩ := checkValues_quiet ms st e (hc e (by simp)) recent (c ++ rest)
    obtain ⟨r2, h2⟩ := ih (fun e' he' => hc e' (by simp [he'])) r1
    exact ⟨r2, by rw [List.cons_append, h1, h2]⟩

theorem checkValues_raws (ms : List Machine) (st : Nat → Nat) (raws : List F64) (recent : List F64)
    (rest : List LogEntry) :
    checkValues ms st recent (raws.map .distRaw ++ rest) = checkValues ms st (recent ++ raws) rest := by
  induction raws generalizing recent with
  | nil => simp
  | cons b raws ih =>
    simp only [List.map_cons, List.cons_append, checkValues]
    rw [ih]; simp

/-- `V` for values: `t` extends the log of `s` by a segment that the value rule of `C08.monitor` walks through,
    from the states of `s` to the states of `t`, whatever raw samples were collected before and
    whatever follows -/
def V (ms : List Machine) (s t : Fw σ) : Prop :=
  t.machines = s.machines ∧ ∃ c : List LogEntry, t.log = c.reverse ++ s.log ∧
    (s.machines = ms → ∀ recent rest, ∃ recent',
      checkValues ms (stF s) recent (c ++ rest) = checkValues ms (stF t) recent' rest)

variable {ms : List Machine}

theorem V.refl (s : Fw σ) : V ms s s := ⟨rfl, [], rfl, fun _ recent _ => ⟨recent, rfl⟩⟩

theorem V.trans {s t u : Fw σ} (h₁ : V ms s t) (h₂ : V ms t u) : V ms s u := by
  obtain ⟨m1, c1, e1, p1⟩ := h₁
  obtain ⟨m2, c2, e2, p2⟩ := h₂
  refine ⟨m2.trans m1, c1 ++ c2, by rw [e2, e1, List.reverse_append, List.append_assoc], fun hm recent rest => ?_⟩
  obtain ⟨r1, k1⟩ := p1 hm recent (c2 ++ rest)
  obtain ⟨r2, k2⟩ := p2 (m1.trans hm) r1 rest
  exact ⟨r2, by rw [List.append_assoc, k1, k2]⟩

theorem V.quiet {s t : Fw σ} (c : List LogEntry) (hc : ∀ e ∈ c, quietV e = true) (hm : t.machines = s.machines)
    (hl : t.log = c.reverse ++ s.log)
    (hk : ∀ j : Nat, (t.rt[j]?).map (·.currentState) = (s.rt[j]?).map (·.currentState)) : V ms s t := by
  refine ⟨hm, c, hl, fun _ recent rest => ?_⟩
  rw [stF_congr hk]
  exact checkValues_quiets ms _ c hc recent rest

theorem V.push (s : Fw σ) (e : LogEntry) (he : quietV e = true) : V ms s (s.push e) :=
  V.quiet [e] (by simpa using he) rfl rfl (fun _ => rfl)

/-- `QS` for quiet, states kept: the log grows by quiet entries and no machine changes its state
    (limits, counters and flags may change) -/
def QS (s t : Fw σ) : Prop :=
  t.machines = s.machines ∧ (∀ j : Nat, (t.rt[j]?).map (·.currentState) = (s.rt[j]?).map (·.currentState)) ∧
    ∃ c : List LogEntry, t.log = c.reverse ++ s.log ∧ ∀ e ∈ c, quietV e = true

theorem QS.refl (s : Fw σ) : QS s s := ⟨rfl, fun _ => rfl, [], rfl, by simp⟩

theorem QS.toV {s t : Fw σ} (h : QS s t) : V ms s t := by
  obtain ⟨m, r, c, e, q⟩ := h
  exact V.quiet c q m e r

theorem quietV_of_calm {e : LogEntry} (h : calm e = true) : quietV e = true := by
  cases e <;> first | rfl | cases h

theorem _root_.Mb.Calm.toQS {s t : Fw σ} (h : Calm s t) : QS s t := by
  obtain ⟨l, e, q⟩ := h.log
  exact ⟨h.machines, h.rt.comp (·.1), l.reverse, by rw [List.reverse_reverse]; exact e,
    fun x hx => quietV_of_calm (q x (List.mem_reverse.1 hx))⟩

theorem _root_.Mb.Calm.toV {s t : Fw σ} (h : Calm s t) : V ms s t := h.toQS.toV

theorem checkValues_sampled (ms : List Machine) (st : Nat → Nat) (mi ev next : Nat) (recent : List F64)
    (rest : List LogEntry) :
    checkValues ms st recent (.sampled mi ev next :: rest) =
      checkValues ms (if next != STATE_SIGNAL then (fun j => if j == mi then next else st j) else st) [] rest := by
  simp only [checkValues]

/-- a sampled target that is not the signal pseudo-state, after which machine `mi` is in that
    state, followed by quiet entries -/
theorem V.sampled {s t : Fw σ} {mi ev next : Nat} (c : List LogEntry) (hc : ∀ e ∈ c, quietV e = true)
    (hns : next ≠ STATE_SIGNAL) (hm : t.machines = s.machines)
    (hl : t.log = c.reverse ++ (.sampled mi ev next :: s.log))
    (hk : ∀ j : Nat, (t.rt[j]?).map (·.currentState) = if j = mi then some next else (s.rt[j]?).map (·.currentState))
    (hex : ∃ r, s.rt[mi]? = some r) : V ms s t := by
  refine ⟨hm, .sampled mi ev next :: c, by simp [hl], fun _ recent rest => ?_⟩
  rw [List.cons_append, checkValues_sampled]
  have hns' : (next != STATE_SIGNAL) = true := by simpa using hns
  rw [hns', if_pos rfl]
  have hst : (fun j => if j == mi then next else stF s j) = stF t := by
    funext j
    have := hk j
    unfold stF
    by_cases hj : j = mi
    · subst hj
      simp only [if_true] at this
      cases ht : t.rt[j]? with
      | none => rw [ht] at this; simp at this
      | some r' => rw [ht] at this; simp at this; simp [this]
    · simp only [hj, if_false] at this
      have hj' : (j == mi) = false := by simpa using hj
      simp only [hj']
      cases ht : t.rt[j]? <;> cases hs : s.rt[j]? <;> rw [ht, hs] at this <;> simp at this ⊢
      exact this.symm
  rw [hst]
  exact checkValues_quiets ms _ c hc [] rest

theorem V.sampledSignal {s t : Fw σ} {mi ev : Nat} (hm : t.machines = s.machines)
    (hl : t.log = .sampled mi ev STATE_SIGNAL :: s.log) (hrt : t.rt = s.rt) : V ms s t := by
  refine ⟨hm, [.sampled mi ev STATE_SIGNAL], by simp [hl], fun _ recent rest => ?_⟩
  rw [List.cons_append, checkValues_sampled]
  have : stF t = stF s := stF_congr (fun j => by rw [hrt])
  rw [this]
  exact ⟨[], by simp⟩

theorem v_sampledSet (mi ev next : Nat) (r : Runtime) (s : Fw σ) (hr : s.rt[mi]? = some r) (hns : next ≠ STATE_SIGNAL) :
    V ms s ((s.push (.sampled mi ev next)).modRt mi (fun r => { r with currentState := next })) := by
  refine V.sampled (ev := ev) [] (by simp) hns (by simp) (by simp [Fw.push]) (fun j => ?_) ⟨r, hr⟩
  by_cases hj : j = mi
  · rw [if_pos hj, hj, Fw.modRt_rt_self, Fw.push_rt, hr]; rfl
  · rw [Fw.modRt_rt_other _ mi j _ hj, if_neg hj]; rfl

theorem v_sampledEnter (mi ev next : Nat) (m : Machine) (r : Runtime) (s : Fw σ) (hr : s.rt[mi]? = some r)
    (hns : next ≠ STATE_SIGNAL) :
    V ms s (enterState ρ mi m r.currentState next (s.push (.sampled mi ev next))) := by
  by_cases h : r.currentState = next
  · rw [h, enterState_self]
    refine V.sampled (ev := ev) [] (by simp) hns rfl rfl (fun j => ?_) ⟨r, hr⟩
    by_cases hj : j = mi
    · rw [if_pos hj, hj, Fw.push_rt, hr, ← h]; rfl
    · rw [if_neg hj]; rfl
  · exact (v_sampledSet mi ev next r s hr hns).trans (calm_enterState ρ mi m _ h).toV

/-- number of raw samples one counter specification consumes -/
def needOf (c : Option Counter) : Nat :=
  match c with
  | some c => if !c.copy && c.dist.isSome then 1 else 0
  | none => 0

/-- the monitor's expected new value of counter A and the raw samples left for B -/
def expAOf (ca : Option Counter) (ao bo : Nat) (raws : List F64) : Nat × List F64 :=
  match ca with
  | none => (ao, raws)
  | some c => (applyOp c.operation ao (operandOf c bo raws).1, (operandOf c bo raws).2)

/-- the monitor's expected new value of counter B -/
def expBOf (cb : Option Counter) (ao bo : Nat) (raws : List F64) : Nat :=
  match cb with
  | none => bo
  | some c => applyOp c.operation bo (operandOf c ao raws).1

theorem checkValues_counter (ms : List Machine) (st : Nat → Nat) (mi ao an bo bn : Nat) (recent : List F64)
    (rest : List LogEntry) (ca cb : Option Counter) (hspec : ctrSpec ms mi (st mi) = some (ca, cb))
    (hA : an = (expAOf ca ao bo (recent.drop (recent.length - (needOf ca + needOf cb)))).1)
    (hB : bn = expBOf cb ao bo (expAOf ca ao bo (recent.drop (recent.length - (needOf ca + needOf cb)))).2) :
    checkValues ms st recent (.counter mi ao an bo bn :: rest) = checkValues ms st [] rest := by
  subst hA hB
  cases ca <;> cases cb <;> simp [checkValues, hspec, needOf, expAOf, expBOf]

theorem drop_suffix {α : Type} (pre suf : List α) (n : Nat) (hn : suf.length = n) :
    (pre ++ suf).drop ((pre ++ suf).length - n) = suf := by
  subst hn
  rw [List.length_append, Nat.add_sub_cancel]
  exact List.drop_left

theorem V.counter {s t : Fw σ} {mi : Nat} {r : Runtime} {m : Machine} {st : State} (rawsA rawsB : List F64)
    (newA newB : Nat)
    (hr : s.rt[mi]? = some r) (hm : s.machines[mi]? = some m) (hst : m.states[r.currentState]? = some st)
    (hmm : t.machines = s.machines)
    (hl : t.log = .counter mi r.counterA newA r.counterB newB ::
      ((rawsB.map LogEntry.distRaw).reverse ++ ((rawsA.map LogEntry.distRaw).reverse ++ s.log)))
    (hk : ∀ j : Nat, (t.rt[j]?).map (·.currentState) = (s.rt[j]?).map (·.currentState))
    (hlenA : rawsA.length = needOf st.counterA) (hlenB : rawsB.length = needOf st.counterB)
    (hA : ∀ more, expAOf st.counterA r.counterA r.counterB (rawsA ++ more) = (newA, more))
    (hB : expBOf st.counterB r.counterA r.counterB rawsB = newB) : V ms s t := by
  refine ⟨hmm, rawsA.map .distRaw ++ (rawsB.map .distRaw ++ [.counter mi r.counterA newA r.counterB newB]),
    by simp [hl], fun hms recent rest => ?_⟩
  rw [stF_congr hk]
  refine ⟨[], ?_⟩
  rw [List.append_assoc, checkValues_raws, List.append_assoc, checkValues_raws]
  have hdrop : (recent ++ rawsA ++ rawsB).drop ((recent ++ rawsA ++ rawsB).length - (needOf st.counterA + needOf st.counterB)) =
      rawsA ++ rawsB := by
    rw [List.append_assoc]
    exact drop_suffix recent (rawsA ++ rawsB) _ (by rw [List.length_append, hlenA, hlenB])
  refine checkValues_counter ms (stF s) mi _ _ _ _ _ rest st.counterA st.counterB ?_ ?_ ?_
  · unfold ctrSpec stF
    rw [← hms, hm, hr]
    simp only [hst]
  · rw [hdrop, hA rawsB]
  · rw [hdrop, hA rawsB, hB]

theorem v_counters (mi : Nat) (s : Fw σ) (r : Runtime) (m : Machine) (st : State) (hr : s.rt[mi]? = some r)
    (hm : s.machines[mi]? = some m) (hst : m.states[r.currentState]? = some st) (ra rb : Fw σ × Bool)
    (hra : ra = applyCounterA ρ mi st.counterA r.counterA r.counterB s)
    (hrb : rb = applyCounterB ρ mi st.counterB r.counterA r.counterB ra.1) :
    V ms s (rb.1.push (.counter mi r.counterA (counterAOf rb.1 mi) r.counterB (counterBOf rb.1 mi))) := by
  obtain ⟨rawsA, rawsB, newA, newB, r', lA, lB, eA, eB, -, -, -, hrtB, hcs, hcA, hcB, -, -, ho, hlog, hmm⟩ :=
    CL.counters_spec ρ mi s r st.counterA st.counterB hr ra rb hra hrb
  rw [show counterAOf rb.1 mi = newA by unfold counterAOf; rw [hrtB]; exact hcA,
    show counterBOf rb.1 mi = newB by unfold counterBOf; rw [hrtB]; exact hcB]
  refine V.counter rawsA rawsB newA newB hr hm hst hmm (congrArg (_ :: ·) hlog) (fun j => ?_) lA lB eA ?_
  · by_cases hj : j = mi
    · rw [hj, Fw.push_rt, hrtB, hr]; exact congrArg some hcs
    · rw [Fw.push_rt, ho j hj]
  · have : (CL.expOf st.counterB r.counterB r.counterA rawsB).1 = newB := by
      have := congrArg Prod.fst (eB [])
      rwa [List.append_nil] at this
    rw [← this]
    cases st.counterB <;> rfl

theorem v_main (fuel : Nat) :
    (∀ mi ev (s : Fw σ), V ms s (transition ρ fuel mi ev s).1) ∧
    (∀ mi (s : Fw σ), V ms s (updateCounter ρ fuel mi s).1) := by
  refine (transition_induct ρ (PT := fun _ _ _ _ => True) (PU := fun _ _ _ => True)
    (T := fun _ _ _ s s' _ => V ms s s') (U := fun _ _ s s' _ _ => V ms s s')
    (fun _ _ s _ => (Calm.withFault s _).toV) (fun _ _ _ s _ _ => (Calm.withFault s _).toV)
    (fun n mi ev s r m hr hm _ => ?_)
    (fun _ s _ => (Calm.withFault s _).toV) (fun _ _ s _ _ => (Calm.withFault s _).toV)
    (fun n mi s r m hr hm _ => ?_) fuel).imp (fun h mi ev s => h mi ev s trivial) (fun h mi s => h mi s trivial)
  · intro s0
    have h0 : V ms s s0 := V.push _ _ rfl
    refine ⟨fun _ => h0, fun _ => ⟨fun _ => h0.trans (Calm.withFault _ _).toV, fun st _ =>
      ⟨fun _ => h0.trans (Calm.withFault _ _).toV, fun _ => h0, fun vec _ => ?_⟩⟩⟩
    intro d s1
    have h1 : V ms s s1 := h0.trans (Calm.toV (Calm.log1 (.draw d.1) rfl rfl rfl rfl))
    have hr1 : s1.rt[mi]? = some r := hr
    refine ⟨fun _ => h1, fun next _ => ?_⟩
    intro s2
    refine ⟨fun hE => ?_, fun _ hS => ?_, fun _ hS => ?_⟩
    · subst hE; exact h1.trans (v_sampledSet mi ev.toNat STATE_END r s1 hr1 STATE_END_ne_SIGNAL)
    · subst hS; exact h1.trans (V.sampledSignal rfl rfl rfl)
    intro s3
    have h3 : V ms s s3 := h1.trans (v_sampledEnter ρ mi ev.toNat next m r s1 hr1 hS)
    refine ⟨fun _ => h3.trans (Calm.withFault _ _).toV, fun r1 _ =>
      ⟨fun _ => h3.trans (Calm.withFault _ _).toV, fun below _ => ?_⟩⟩
    intro res ih s5
    have h4 : V ms s res.1 := h3.trans (ih trivial)
    have h5 : V ms s s5 := by
      show V ms s (if (res.2.1 && below) = true then _ else _)
      split
      · exact h4.trans (calm_scheduleAction ρ mi next _).toV
      · exact h4
    exact ⟨fun _ => h5.trans (Calm.withFault _ _).toV, fun _ _ => h5⟩
  · refine ⟨fun _ => (Calm.withFault s _).toV, fun st hst => ?_⟩
    intro ra rb s2
    have h2 : V ms s s2 := v_counters ρ mi s r m st hr hm hst ra rb rfl rfl
    refine ⟨fun _ => h2, fun _ => ?_⟩
    intro res ih
    have hT : V ms s res.1 := h2.trans (ih trivial)
    exact ⟨fun _ => hT.trans (Calm.withFault _ _).toV, fun _ _ => hT⟩

theorem walkV : WalkEv ρ (V (σ := σ) ms) :=
  WalkEv.ofCalm ρ V.refl V.trans Calm.toV fun j ev s _ => (v_main ρ FUEL).1 j ev s

theorem stF_callStart (s : Fw σ) (t : Int) : stF (s.callStart t) = stF s := by
  refine stF_congr (fun j => ?_)
  simp only [Fw.callStart, List.getElem?_map]
  cases s.rt[j]? <;> rfl

/-- The value rule accepts the log segment of every call of the model: every logged counter
    update equals the specified saturating operation on the specified operand (1, the saturating
    cast of the clamped raw sample logged just before, or the other counter's old value), in the
    state the monitor tracks from the snapshot before the call and the `sampled` entries. -/
theorem call_values (es : List TEvent) (t : Int) (s : Fw σ) (hm : s.machines = ms) :
    (triggerEvents ρ es t s).machines = s.machines ∧
    ∃ c, (triggerEvents ρ es t s).log = c.reverse ++ s.log ∧ checkValues ms (stF s) [] c = none := by
  unfold triggerEvents
  have W := walkV ρ (σ := σ) (ms := ms)
  have h0 : V ms s (s.callStart t) := V.quiet [] nofun rfl rfl (fun j => by
    simp only [Fw.callStart, List.getElem?_map]
    cases s.rt[j]? <;> rfl)
  have h1 : V ms (s.callStart t) (es.foldl (fun s e => processEvent ρ e s) (s.callStart t)) :=
    W.toWalkCore.foldl _ (fun a e => W.processEvent e a) es _
  have h2 := W.toWalkCore.signalRound (es.foldl (fun s e => processEvent ρ e s) (s.callStart t))
  obtain ⟨hmm, c, hl, hp⟩ := (h0.trans h1).trans h2
  refine ⟨hmm, c, hl, ?_⟩
  obtain ⟨recent', hc⟩ := hp hm [] []
  rw [List.append_nil] at hc
  rw [hc]
  simp only [checkValues]

theorem stOf_snap (s : Fw σ) : LL.stOf s.snap = stF s := by
  funext j
  unfold LL.stOf stF Fw.snap
  simp only [List.getElem?_map]
  cases s.rt[j]? <;> rfl

theorem stF_snap (s : Fw σ) : (fun j => match s.snap.rts[j]? with | some r => r.state | none => 0) = stF s :=
  stOf_snap s

theorem go08_ok (t : FwTrace) (i : Nat) (prev : Snap) (c : CallRec) (cs : List CallRec)
    (hv : checkValues t.machines (fun j => match prev.rts[j]? with | some r => r.state | none => 0) [] c.log = none)
    (hl : C08.checkLog { a := [], b := [] } c.log = none)
    (hh : CL.headCZ c.log = false)
    (hs : C08.strayCZ c.log = none) :
    C08.monitor.go t i prev (c :: cs) = if c.res != .ok then none else C08.monitor.go t (i + 1) c.snap cs := by
  rw [C08.monitor.go]
  split
  · rfl
  · split
    · next msg heq => exact absurd (heq.symm.trans hv) (by simp)
    · split
      · next msg heq => exact absurd (heq.symm.trans hl) (by simp)
      · split
        · next msg heq =>
          exfalso
          cases hlog : c.log with
          | nil => rw [hlog] at heq; simp at heq
          | cons e l =>
            rw [hlog] at heq hh
            cases e with
            | trans mi ev st =>
              have : (ev == Gen.EV_CounterZero) = false := hh
              simp [this] at heq
            | _ => simp at heq
        · split
          · next msg heq => exact absurd (heq.symm.trans hs) (by simp)
          · rfl

/-- the u64 bound on the counters, in the form `CL.call_good` wants -/
def U64 (s : Fw σ) : Prop := ∀ r ∈ s.rt, r.counterA ≤ Fp.u64Max ∧ r.counterB ≤ Fp.u64Max

theorem go08_model (t : FwTrace) (h : List Call) (i : Nat) (s : Fw σ) (hm : s.machines = t.machines) (hb : U64 s) :
    C08.monitor.go t i s.snap (LL.callRecs ρ s h) = none := by
  refine LL.callRecs_accept ρ (go := C08.monitor.go t) (fun _ prev s => prev = s.snap ∧ s.machines = t.machines ∧ U64 s)
    (fun _ _ => by rw [C08.monitor.go]) (fun i a c cs hres => by rw [C08.monitor.go, if_pos (bne_iff_ne.2 hres)])
    ?_ h i _ s ⟨rfl, hm, hb⟩
  rintro i _ s c _ cs ⟨rfl, hm, hb⟩ hok
  obtain ⟨cc, f', hcc, hg, hi⟩ := CL.call_good ρ c.1 c.2 (LL.resetLog s) hb
  obtain ⟨hmm, cv, hcv, hval⟩ := call_values ρ (ms := t.machines) c.1 c.2 (LL.resetLog s) hm
  rw [show (LL.resetLog s).log = [] from rfl, List.append_nil] at hcc hcv
  have hlog : (LL.callRec ρ s c).log = cc := by rw [← List.reverse_reverse cc]; exact congrArg List.reverse hcc
  have hlog' : (LL.callRec ρ s c).log = cv := by rw [← List.reverse_reverse cv]; exact congrArg List.reverse hcv
  refine ⟨_, ⟨rfl, hmm.trans hm, fun r hr => ?_⟩, ?_⟩
  · obtain ⟨k, hk, hget⟩ := List.getElem_of_mem hr
    exact hi.bnd k r (by rw [List.getElem?_eq_getElem hk, hget])
  · rw [go08_ok _ _ _ _ _ (by rw [hlog', stF_snap]; exact hval) (by rw [hlog]; exact hg.accepted.1)
      (by rw [hlog]; exact hg.head) (by rw [hlog]; exact hg.accepted.2),
      show (LL.callRec ρ s c).res = .ok from (LL.resOf_ok _).2 hok]
    rfl

theorem u64_init (ms : List Machine) (fp fb : F64) (t0 : Int) (rng : σ) : U64 (Fw.init ρ ms fp fb t0 rng) := by
  intro r hr
  obtain ⟨ha, hb⟩ := CL.counters_init ρ ms fp fb t0 rng r hr
  rw [ha, hb]; exact ⟨Nat.zero_le _, Nat.zero_le _⟩

/-- `C08.monitor` accepts the model's own trace of every history. -/
theorem monitor08_model (ms : List Machine) (fp fb : F64) (t0 : Int) (rng : σ) (h : List Call) :
    C08.monitor (LL.modelTrace ρ ms fp fb t0 rng h) = none := by
  unfold C08.monitor
  exact go08_model ρ (LL.modelTrace ρ ms fp fb t0 rng h) h 1 (Fw.init ρ ms fp fb t0 rng)
    (LL.machines_run (init_run ρ ms fp fb t0 rng)) (u64_init ρ ms fp fb t0 rng)

open C09 (dedup signallers responders deliveries checkCall)

theorem dedup_fold_mem (l acc : List Nat) (a : Nat) :
    a ∈ l.foldl (fun acc x => if acc.contains x then acc else acc ++ [x]) acc ↔ a ∈ acc ∨ a ∈ l := by
  induction l generalizing acc with
  | nil => simp
  | cons x l ih =>
    rw [List.foldl_cons, ih, List.mem_cons]
    by_cases h : acc.contains x = true
    · rw [if_pos h]
      have hx : x ∈ acc := List.contains_iff_mem.1 h
      exact ⟨fun h1 => h1.imp_right Or.inr, fun h1 => h1.elim Or.inl (fun h2 => h2.elim (fun e => Or.inl (e ▸ hx)) Or.inr)⟩
    · rw [if_neg h, List.mem_append, List.mem_singleton, or_assoc]

theorem mem_dedup (l : List Nat) (a : Nat) : a ∈ dedup l ↔ a ∈ l := by
  unfold dedup
  rw [dedup_fold_mem]
  simp

theorem dedup_fold_nodup (l acc : List Nat) (h : acc.Nodup) :
    (l.foldl (fun acc x => if acc.contains x then acc else acc ++ [x]) acc).Nodup := by
  induction l generalizing acc with
  | nil => exact h
  | cons x l ih =>
    rw [List.foldl_cons]
    apply ih
    by_cases hx : acc.contains x = true
    · rw [if_pos hx]; exact h
    · rw [if_neg hx]
      have hx' : x ∉ acc := by simpa using hx
      rw [List.nodup_append]
      refine ⟨h, List.nodup_singleton x, ?_⟩
      intro a ha b hb
      rw [List.mem_singleton] at hb
      subst hb
      exact fun hab => hx' (hab ▸ ha)

theorem dedup_nodup (l : List Nat) : (dedup l).Nodup := dedup_fold_nodup l [] List.nodup_nil

theorem length_ge_two {k : List Nat} {a b : Nat} (ha : a ∈ k) (hb : b ∈ k) (hab : a ≠ b) : k.length ≥ 2 := by
  match k, ha, hb with
  | [c], ha, hb => exact absurd ((List.mem_singleton.1 ha).trans (List.mem_singleton.1 hb).symm) hab
  | _ :: _ :: _, _, _ => simp

theorem two_distinct (k : List Nat) (hk : k.Nodup) (h2 : k.length ≥ 2) : ∃ a ∈ k, ∃ b ∈ k, a ≠ b := by
  match k, hk, h2 with
  | a :: b :: r, hk, _ =>
    rw [List.nodup_cons] at hk
    exact ⟨a, by simp, b, by simp, fun hab => hk.1 (by simp [hab])⟩

/-- the body of `C09.checkCall` copied with `many`, the signallers `k` and the responders as
    parameters, so that they can be generalised; `checkCall_eq` ties the copy to the monitor by `rfl`
    and stops building if the monitor's text changes -/
def checkBody (n : Nat) (many : Bool) (k resp : List Nat) (log : List LogEntry) (liveAtEnd : Nat → Bool) :
    Option String :=
  let ms := List.range n
  match ms.find? (fun i => deliveries log i > 1) with
  | some i => some s!"machine {i} received more than one Signal"
  | none =>
  if many then
    match ms.find? (fun i => liveAtEnd i && deliveries log i != 1) with
    | some i => some s!"several signallers but live machine {i} received {deliveries log i} Signals"
    | none => none
  else match k with
  | [] =>
    match ms.find? (fun i => deliveries log i != 0) with
    | some i => some s!"no signaller but machine {i} received a Signal"
    | none => none
  | x :: _ =>
    match ms.find? (fun i => i != x && liveAtEnd i && deliveries log i != 1) with
    | some i => some s!"lone signaller {x} but live machine {i} received {deliveries log i} Signals"
    | none =>
      let answered := resp.any (fun y => y != x)
      if answered then
        if liveAtEnd x && deliveries log x != 1 then some s!"lone signaller {x} was answered but received {deliveries log x} Signals" else none
      else if deliveries log x != 0 then some s!"lone signaller {x} received its own Signal (signalled {(signallers log).length} distinct, not answered)"
      else none

/-- the list of signallers the monitor works with: those of this call and the one carried over -/
def kOf (pending : Option SignalTarget) (log : List LogEntry) : List Nat :=
  match pending with
  | some (.allExcept x) => dedup (signallers log ++ [x])
  | _ => signallers log

theorem checkCall_eq (n : Nat) (pending : Option SignalTarget) (log : List LogEntry) (live : Nat → Bool) :
    checkCall n pending log live =
      checkBody n (pending == some .all || decide ((kOf pending log).length ≥ 2)) (kOf pending log) (responders log) log live := by
  cases pending with
  | none => rfl
  | some p => cases p <;> rfl

theorem find_none (n : Nat) (p : Nat → Bool) (h : ∀ i, i < n → p i = false) : (List.range n).find? p = none :=
  List.find?_eq_none.2 fun i hi => by rw [h i (List.mem_range.1 hi)]; nofun

theorem checkBody_many (n : Nat) (k resp : List Nat) (log : List LogEntry) (live : Nat → Bool)
    (hle : ∀ i, deliveries log i ≤ 1) (h : ∀ i, i < n → live i = true → deliveries log i = 1) :
    checkBody n true k resp log live = none := by
  unfold checkBody
  simp only [find_none n (fun i => decide (deliveries log i > 1)) fun i _ => decide_eq_false (Nat.not_lt.2 (hle i)), if_true]
  rw [find_none n (fun i => live i && deliveries log i != 1) fun i hi => by
    cases hl : live i
    · rfl
    · simp [h i hi hl]]

theorem checkBody_nil (n : Nat) (resp : List Nat) (log : List LogEntry) (live : Nat → Bool)
    (hle : ∀ i, deliveries log i ≤ 1) (h : ∀ i, i < n → deliveries log i = 0) :
    checkBody n false [] resp log live = none := by
  unfold checkBody
  simp only [find_none n (fun i => decide (deliveries log i > 1)) fun i _ => decide_eq_false (Nat.not_lt.2 (hle i)),
    Bool.false_eq_true, if_false]
  rw [find_none n (fun i => deliveries log i != 0) fun i hi => by simp [h i hi]]

theorem checkBody_lone (n x : Nat) (r resp : List Nat) (log : List LogEntry) (live : Nat → Bool)
    (hle : ∀ i, deliveries log i ≤ 1) (h1 : ∀ i, i < n → i ≠ x → live i = true → deliveries log i = 1)
    (h2 : (∃ y ∈ resp, y ≠ x) → live x = true → deliveries log x = 1)
    (h3 : (¬ ∃ y ∈ resp, y ≠ x) → deliveries log x = 0) :
    checkBody n false (x :: r) resp log live = none := by
  unfold checkBody
  simp only [find_none n (fun i => decide (deliveries log i > 1)) fun i _ => decide_eq_false (Nat.not_lt.2 (hle i)),
    Bool.false_eq_true, if_false]
  rw [find_none n (fun i => i != x && live i && deliveries log i != 1) fun i hi => by
    by_cases hix : i = x
    · simp [hix]
    · cases hl : live i
      · simp
      · simp [h1 i hi hix hl]]
  simp only []
  by_cases ha : ∃ y ∈ resp, y ≠ x
  · rw [show resp.any (fun y => y != x) = true from List.any_eq_true.2 (ha.imp fun y hy => ⟨hy.1, bne_iff_ne.2 hy.2⟩), if_pos rfl]
    cases hl : live x
    · simp
    · simp [h2 ha hl]
  · rw [show resp.any (fun y => y != x) = false from Bool.eq_false_iff.2 fun h =>
      ha ((List.any_eq_true.1 h).imp fun y hy => ⟨hy.1, bne_iff_ne.1 hy.2⟩)]
    simp [h3 ha]

/-- what a transition of machine `j` on the event numbered `evn` may log: deliveries to `j` of that
    event or of CounterZero, and targets sampled for `j` on one of these two events -/
def Own (j evn : Nat) : LogEntry → Prop
  | .trans m e _ => m = j ∧ (e = evn ∨ e = Gen.EV_CounterZero)
  | .sampled m e _ => m = j ∧ (e = evn ∨ e = Gen.EV_CounterZero)
  | _ => True

theorem Own.ofCalm {j evn : Nat} {e : LogEntry} (h : calm e = true) : Own j evn e := by
  cases e <;> first | trivial | cases h

theorem Own.ofCZ {j evn : Nat} {e : LogEntry} (h : Own j Gen.EV_CounterZero e) : Own j evn e := by
  cases e with
  | trans m e' st => exact ⟨h.1, Or.inr (h.2.elim id id)⟩
  | sampled m e' nx => exact ⟨h.1, Or.inr (h.2.elim id id)⟩
  | _ => trivial

/-- `O` for own: `t` extends the log of `s` (newest first) by entries of machine `j` for the event
    `evn` (see `Own`) -/
def O (j evn : Nat) (s t : Fw σ) : Prop :=
  t.rt.length = s.rt.length ∧ ∃ l : List LogEntry, t.log = l ++ s.log ∧ ∀ e ∈ l, Own j evn e

theorem O.refl (j evn : Nat) (s : Fw σ) : O j evn s s := ⟨rfl, [], rfl, by simp⟩

theorem O.trans {j evn : Nat} {s t u : Fw σ} (h₁ : O j evn s t) (h₂ : O j evn t u) : O j evn s u := by
  obtain ⟨n1, l1, e1, q1⟩ := h₁
  obtain ⟨n2, l2, e2, q2⟩ := h₂
  refine ⟨n2.trans n1, l2 ++ l1, by rw [e2, e1, List.append_assoc], fun e he => ?_⟩
  rcases List.mem_append.1 he with h | h
  · exact q2 e h
  · exact q1 e h

theorem _root_.Mb.Grow.toO {j evn : Nat} {s t : Fw σ} (h : Grow s t) : O j evn s t := by
  obtain ⟨l, e, q⟩ := h.log
  exact ⟨h.len, l, e, fun x hx => Own.ofCalm (q x hx)⟩

theorem _root_.Mb.Calm.toO {j evn : Nat} {s t : Fw σ} (h : Calm s t) : O j evn s t := h.toGrow.toO

theorem O.ofCZ {j evn : Nat} {s t : Fw σ} (h : O j Gen.EV_CounterZero s t) : O j evn s t := by
  obtain ⟨n, l, e, q⟩ := h
  exact ⟨n, l, e, fun x hx => (q x hx).ofCZ⟩

theorem O.push {j evn : Nat} (s : Fw σ) (e : LogEntry) (he : Own j evn e) : O j evn s (s.push e) :=
  ⟨rfl, [e], rfl, by simpa using he⟩

theorem o_main (fuel : Nat) :
    (∀ mi (ev : Event) (s : Fw σ), O mi ev.toNat s (transition ρ fuel mi ev s).1) ∧
    (∀ mi (s : Fw σ), O mi Gen.EV_CounterZero s (updateCounter ρ fuel mi s).1) := by
  refine (transition_induct ρ (PT := fun _ _ _ _ => True) (PU := fun _ _ _ => True)
    (T := fun _ mi ev s s' _ => O mi ev.toNat s s') (U := fun _ mi s s' _ _ => O mi Gen.EV_CounterZero s s')
    (fun _ _ s _ => (Calm.withFault s _).toO) (fun _ _ _ s _ _ => (Calm.withFault s _).toO)
    (fun n mi ev s r m hr hm _ => ?_)
    (fun _ s _ => (Calm.withFault s _).toO) (fun _ _ s _ _ => (Calm.withFault s _).toO)
    (fun n mi s r m hr hm _ => ?_) fuel).imp (fun h mi ev s => h mi ev s trivial) (fun h mi s => h mi s trivial)
  · intro s0
    have h0 : O mi ev.toNat s s0 := O.push _ _ ⟨rfl, Or.inl rfl⟩
    refine ⟨fun _ => h0, fun _ => ⟨fun _ => h0.trans (Calm.withFault _ _).toO, fun st _ =>
      ⟨fun _ => h0.trans (Calm.withFault _ _).toO, fun _ => h0, fun vec _ => ?_⟩⟩⟩
    intro d s1
    have h1 : O mi ev.toNat s s1 := h0.trans (Calm.toO (Calm.log1 (.draw d.1) rfl rfl rfl rfl))
    refine ⟨fun _ => h1, fun next _ => ?_⟩
    intro s2
    have h2 : O mi ev.toNat s s2 := h1.trans (O.push _ _ ⟨rfl, Or.inl rfl⟩)
    refine ⟨fun _ => h2.trans (Grow.modRt _ _ _).toO, fun _ _ => h2.trans (Calm.toO (Calm.same rfl rfl rfl)),
      fun _ _ => ?_⟩
    intro s3
    have h3 : O mi ev.toNat s s3 := h2.trans (grow_enterState ρ mi m r.currentState next s2).toO
    refine ⟨fun _ => h3.trans (Calm.withFault _ _).toO, fun r1 _ =>
      ⟨fun _ => h3.trans (Calm.withFault _ _).toO, fun below _ => ?_⟩⟩
    intro res ih s5
    have h4 : O mi ev.toNat s res.1 := h3.trans (ih trivial).ofCZ
    have h5 : O mi ev.toNat s s5 := by
      show O mi ev.toNat s (if (res.2.1 && below) = true then _ else _)
      split
      · exact h4.trans (calm_scheduleAction ρ mi next _).toO
      · exact h4
    exact ⟨fun _ => h5.trans (Calm.withFault _ _).toO, fun _ _ => h5⟩
  · refine ⟨fun _ => (Calm.withFault s _).toO, fun st _ => ?_⟩
    intro ra rb s2
    have h2 : O mi Gen.EV_CounterZero s s2 :=
      ((grow_applyCounterA ρ mi _ _ _ s).trans (grow_applyCounterB ρ mi _ _ _ ra.1)).toO.trans (O.push _ _ trivial)
    refine ⟨fun _ => h2, fun _ => ?_⟩
    intro res ih
    have hT : O mi Gen.EV_CounterZero s res.1 := h2.trans (ih trivial)
    exact ⟨fun _ => hT.trans (Calm.withFault _ _).toO, fun _ _ => hT⟩

theorem o_transition (j : Nat) (ev : Event) (s : Fw σ) : O j ev.toNat s (transition ρ FUEL j ev s).1 :=
  (o_main ρ FUEL).1 j ev s

theorem transition_absent (fuel j : Nat) (ev : Event) (s : Fw σ) (h : s.rt[j]? = none ∨ s.machines[j]? = none) :
    (transition ρ fuel j ev s).1.log = s.log := by
  cases fuel with
  | zero => rw [transition]; simp
  | succ n => rw [transition_oob ρ n j ev s h]; simp

open C09 (sigStep firstRound afterFirst eventsDone)

theorem signal_toNat : Event.signal.toNat = Gen.EV_Signal := rfl

/-- `P1` for part 1 of a call's log, the reported events (it also holds of the delivery round):
    `t` extends the log of `s` by a segment in which every delivery goes to an existing machine and
    every target sampled on the Signal event is accompanied by a Signal delivery -/
def P1 (s t : Fw σ) : Prop :=
  t.rt.length = s.rt.length ∧ ∃ l : List LogEntry, t.log = l ++ s.log ∧
    (∀ m ev st, LogEntry.trans m ev st ∈ l → m < s.rt.length) ∧
    (∀ m nx, LogEntry.sampled m Gen.EV_Signal nx ∈ l → ∃ m' st, LogEntry.trans m' Gen.EV_Signal st ∈ l)

theorem P1.refl (s : Fw σ) : P1 s s := ⟨rfl, [], rfl, by simp, by simp⟩

theorem P1.trans {s t u : Fw σ} (h₁ : P1 s t) (h₂ : P1 t u) : P1 s u := by
  obtain ⟨n1, l1, e1, a1, b1⟩ := h₁
  obtain ⟨n2, l2, e2, a2, b2⟩ := h₂
  refine ⟨n2.trans n1, l2 ++ l1, by rw [e2, e1, List.append_assoc], fun m ev st h => ?_, fun m nx h => ?_⟩
  · rcases List.mem_append.1 h with h | h
    · rw [← n1]; exact a2 m ev st h
    · exact a1 m ev st h
  · rcases List.mem_append.1 h with h | h
    · obtain ⟨m', st, hm⟩ := b2 m nx h
      exact ⟨m', st, List.mem_append_left _ hm⟩
    · obtain ⟨m', st, hm⟩ := b1 m nx h
      exact ⟨m', st, List.mem_append_right _ hm⟩

theorem _root_.Mb.Grow.toP1 {s t : Fw σ} (h : Grow s t) : P1 s t := by
  obtain ⟨l, e, q⟩ := h.log
  exact ⟨h.len, l, e, fun m ev st hm => Bool.noConfusion (q _ hm), fun m nx hm => Bool.noConfusion (q _ hm)⟩

theorem p1_transition (j : Nat) (ev : Event) (s : Fw σ) : P1 s (transition ρ FUEL j ev s).1 := by
  obtain ⟨hn, l, hl, hown⟩ := o_transition ρ j ev s
  cases hr : s.rt[j]? with
  | none => exact ⟨hn, [], by rw [transition_absent ρ FUEL j ev s (Or.inl hr)]; rfl, by simp, by simp⟩
  | some r =>
  cases hm : s.machines[j]? with
  | none => exact ⟨hn, [], by rw [transition_absent ρ FUEL j ev s (Or.inr hm)]; rfl, by simp, by simp⟩
  | some m =>
    have hj : j < s.rt.length := by
      rcases Nat.lt_or_ge j s.rt.length with h | h
      · exact h
      · rw [List.getElem?_eq_none h] at hr; cases hr
    refine ⟨hn, l, hl, fun m' e' st hmem => ?_, fun m' nx hmem => ?_⟩
    · have := hown _ hmem
      rw [this.1]; exact hj
    · have hO := hown _ hmem
      have hev : ev.toNat = Gen.EV_Signal := by
        rcases hO.2 with h | h
        · exact h.symm
        · exact absurd h (by decide)
      obtain ⟨l', e', hmem'⟩ := transition_logs_own_entry ρ 7 j ev s r m hr hm
      rw [← FUEL_succ] at e'
      have hll : l' = l := List.append_cancel_right (e'.symm.trans hl)
      rw [hll, hev] at hmem'
      exact ⟨j, r.currentState, hmem'⟩

theorem walkP1 : WalkEv ρ (P1 (σ := σ)) :=
  WalkEv.ofCalm ρ P1.refl P1.trans (fun h => h.toGrow.toP1) fun j ev s _ => p1_transition ρ j ev s

theorem p1_eventsDone (es : List TEvent) (t : Int) (s : Fw σ) : P1 s (eventsDone ρ es t s) := by
  unfold eventsDone
  have W := walkP1 ρ (σ := σ)
  have h0 : P1 s (s.callStart t) := Grow.toP1 ⟨by simp [Fw.callStart], [], rfl, nofun⟩
  exact h0.trans (W.toWalkCore.foldl _ (fun a e => W.processEvent e a) es _)

/-- Part 1. The reported events of a call sample no target on the Signal event: every
    transition to the signal pseudo-state recorded there counts as a signaller for the monitor. -/
theorem events_noSignalEv (es : List TEvent) (t : Int) (s : Fw σ) (l1 : List LogEntry)
    (hl : (eventsDone ρ es t s).log = l1 ++ s.log) (m nx : Nat) : LogEntry.sampled m Gen.EV_Signal nx ∉ l1 := by
  intro hmem
  obtain ⟨_, l, e, _, hb⟩ := p1_eventsDone ρ es t s
  have hll : l = l1 := List.append_cancel_right (e.symm.trans hl)
  subst hll
  obtain ⟨m', st, hm'⟩ := hb m nx hmem
  have h := C09.sig_eventsDone ρ es t s m'
  unfold sigOf at h
  rw [e, wsum_append] at h
  have h1 := wsum_mem_le (μSig m') _ l hm'
  have h2 : μSig m' (.trans m' Gen.EV_Signal st) = 1 := by simp [μSig]
  omega

theorem call_trans_lt (es : List TEvent) (t : Int) (s : Fw σ) (l : List LogEntry)
    (hl : (triggerEvents ρ es t s).log = l ++ s.log) (m ev st : Nat) (hmem : LogEntry.trans m ev st ∈ l) :
    m < s.rt.length := by
  have W := walkP1 ρ (σ := σ)
  have h := (p1_eventsDone ρ es t s).trans (W.toWalkCore.signalRound (eventsDone ρ es t s))
  rw [← C09.triggerEvents_eq] at h
  obtain ⟨_, l', e, ha, _⟩ := h
  have hll : l' = l := List.append_cancel_right (e.symm.trans hl)
  subst hll
  exact ha m ev st hmem

theorem fold_signal_own (l : List Nat) (s : Fw σ) :
    ∃ seg, (l.foldl (fun s mi => (transition ρ FUEL mi .signal s).1) s).log = seg ++ s.log ∧
      ∀ e ∈ seg, ∃ j ∈ l, Own j Gen.EV_Signal e := by
  induction l generalizing s with
  | nil => exact ⟨[], rfl, by simp⟩
  | cons a l ih =>
    simp only [List.foldl_cons]
    obtain ⟨_, l0, e0, o0⟩ := o_transition ρ a .signal s
    obtain ⟨seg, e1, o1⟩ := ih (transition ρ FUEL a .signal s).1
    refine ⟨seg ++ l0, by rw [e1, e0, List.append_assoc], fun e he => ?_⟩
    rcases List.mem_append.1 he with h | h
    · obtain ⟨j, hj, hO⟩ := o1 e h
      exact ⟨j, List.mem_cons_of_mem _ hj, hO⟩
    · exact ⟨a, by simp, o0 e h⟩

/-- Parts 2 and 3. With a lone signaller `x`, the delivery round logs first the entries of the
    machines other than `x` (first round) and then entries of `x` only (second round, if any). -/
theorem round_lone_log (s : Fw σ) (x : Nat) (h : s.signalPending = some (.allExcept x)) :
    ∃ l2 l3, (afterFirst ρ s (some x)).log = l2 ++ s.log ∧ (signalRound ρ s).log = l3 ++ (l2 ++ s.log) ∧
      (∀ e ∈ l2, ∃ j, j ≠ x ∧ Own j Gen.EV_Signal e) ∧ (∀ e ∈ l3, Own x Gen.EV_Signal e) := by
  rw [C09.sr_round_lone ρ s x h]
  unfold afterFirst
  simp only []
  obtain ⟨l2, e2, o2⟩ := fold_signal_own ρ (firstRound s.rt.length (some x)) ({ s with signalPending := none } : Fw σ)
  have o2' : ∀ e ∈ l2, ∃ j, j ≠ x ∧ Own j Gen.EV_Signal e := by
    intro e he
    obtain ⟨j, hj, hO⟩ := o2 e he
    exact ⟨j, fun hjx => C09.sr_excluded_not_visited s.rt.length x (hjx ▸ hj), hO⟩
  generalize ((firstRound s.rt.length (some x)).foldl (fun s mi => (transition ρ FUEL mi .signal s).1)
    ({ s with signalPending := none } : Fw σ)) = s2 at e2 ⊢
  have e2' : s2.log = l2 ++ s.log := e2
  cases hs2 : s2.signalPending with
  | none => exact ⟨l2, [], e2', by simp [e2'], o2', by simp⟩
  | some _ =>
    simp only []
    obtain ⟨_, l3, e3, o3⟩ := o_transition ρ x .signal ({ s2 with signalPending := none } : Fw σ)
    exact ⟨l2, l3, e2', by rw [e3]; show l3 ++ s2.log = _; rw [e2'], o2', o3⟩

/-- machine `a` counts as a signaller for the monitor: the segment records a transition of `a` to the
    signal pseudo-state on an event other than Signal, or `a` is carried over from the previous call -/
def InK (pending : Option SignalTarget) (l : List LogEntry) (a : Nat) : Prop :=
  (∃ ev, LogEntry.sampled a ev STATE_SIGNAL ∈ l ∧ ev ≠ Gen.EV_Signal) ∨ pending = some (.allExcept a)

/-- machine `a` answered a delivered Signal by signalling -/
def Resp (l : List LogEntry) (a : Nat) : Prop := LogEntry.sampled a Gen.EV_Signal STATE_SIGNAL ∈ l

/-- what the model guarantees about the log segment `l` (newest first) of a call: nobody signalled
    and nobody received a Signal; or several machines signalled and every live machine received
    exactly one; or only `x` signalled, every other live machine received exactly one and `x` one
    iff it was answered (`ans`), where an answer shows in the log as a signaller or responder
    other than `x` -/
structure CallFacts (n : Nat) (pending : Option SignalTarget) (l : List LogEntry) (live : Nat → Bool) : Prop where
  le : ∀ i, deliveries l i ≤ 1
  sc : (pending = none ∧ (∀ a ev, LogEntry.sampled a ev STATE_SIGNAL ∉ l) ∧ ∀ i, deliveries l i = 0) ∨
       ((pending = some .all ∨ ∃ a b, a ≠ b ∧ InK pending l a ∧ InK pending l b) ∧
          ∀ i, i < n → live i = true → deliveries l i = 1) ∨
       (∃ (x : Nat) (ans : Prop), pending ≠ some .all ∧ InK pending l x ∧
          (∀ i, i < n → i ≠ x → live i = true → deliveries l i = 1) ∧
          (ans → live x = true → deliveries l x = 1) ∧ (¬ ans → deliveries l x = 0) ∧
          (∀ j, j ≠ x → InK pending l j → ans) ∧ (∀ j, j ≠ x → Resp l j → ans) ∧
          (ans → ∃ j, j ≠ x ∧ (InK pending l j ∨ Resp l j)))

theorem mem_signallers (L : List LogEntry) (a : Nat) :
    a ∈ signallers L ↔ ∃ ev, LogEntry.sampled a ev STATE_SIGNAL ∈ L ∧ ev ≠ Gen.EV_Signal := by
  unfold signallers
  rw [mem_dedup, List.mem_filterMap]
  constructor
  · rintro ⟨e, he, hf⟩
    cases e with
    | sampled mi ev next =>
      simp only at hf
      split at hf
      · next hc =>
        simp only [Bool.and_eq_true, beq_iff_eq, bne_iff_ne, ne_eq] at hc
        have := Option.some.inj hf
        subst this
        exact ⟨ev, by rw [← hc.1]; exact he, hc.2⟩
      · cases hf
    | _ => simp at hf
  · rintro ⟨ev, hmem, hne⟩
    exact ⟨_, hmem, by simp [hne]⟩

theorem mem_responders (L : List LogEntry) (a : Nat) :
    a ∈ responders L ↔ LogEntry.sampled a Gen.EV_Signal STATE_SIGNAL ∈ L := by
  unfold responders
  rw [mem_dedup, List.mem_filterMap]
  constructor
  · rintro ⟨e, he, hf⟩
    cases e with
    | sampled mi ev next =>
      simp only at hf
      split at hf
      · next hc =>
        simp only [Bool.and_eq_true, beq_iff_eq] at hc
        have := Option.some.inj hf
        subst this
        rw [← hc.1, ← hc.2]; exact he
      · cases hf
    | _ => simp at hf
  · intro hmem
    exact ⟨_, hmem, by simp⟩

theorem mem_kOf (pending : Option SignalTarget) (L : List LogEntry) (a : Nat) :
    a ∈ kOf pending L ↔ a ∈ signallers L ∨ pending = some (.allExcept a) := by
  cases pending with
  | none => simp [kOf]
  | some p =>
    cases p with
    | all => simp [kOf]
    | allExcept x =>
      simp only [kOf, mem_dedup, List.mem_append, List.mem_singleton, Option.some.injEq, SignalTarget.allExcept.injEq]
      constructor
      · rintro (h | h)
        · exact Or.inl h
        · exact Or.inr h.symm
      · rintro (h | h)
        · exact Or.inl h
        · exact Or.inr h.symm

theorem kOf_nodup (pending : Option SignalTarget) (L : List LogEntry) : (kOf pending L).Nodup := by
  cases pending with
  | none => exact dedup_nodup _
  | some p =>
    cases p with
    | all => exact dedup_nodup _
    | allExcept x => exact dedup_nodup _

theorem checkCall_of_facts (n : Nat) (pending : Option SignalTarget) (l : List LogEntry) (live : Nat → Bool)
    (h : CallFacts n pending l live) : checkCall n pending l.reverse live = none := by
  rw [checkCall_eq]
  have hdel : ∀ i, deliveries l.reverse i = deliveries l i := fun i => by
    unfold deliveries; rw [List.countP_reverse]
  have hK : ∀ a, a ∈ kOf pending l.reverse ↔ InK pending l a := by
    intro a
    rw [mem_kOf, mem_signallers]
    simp only [InK, List.mem_reverse]
  have hR : ∀ a, a ∈ responders l.reverse ↔ Resp l a := by
    intro a
    rw [mem_responders]
    simp only [Resp, List.mem_reverse]
  have hnd := kOf_nodup pending l.reverse
  generalize kOf pending l.reverse = K at hK hnd ⊢
  generalize responders l.reverse = RS at hR ⊢
  have hle : ∀ i, deliveries l.reverse i ≤ 1 := fun i => (hdel i).trans_le (h.le i)
  rcases h.sc with ⟨hp, hno, hz⟩ | ⟨hd, h1⟩ | ⟨x, ans, hp, hx, h1, h2, h3, h4, h5, h6⟩
  · have hK0 : K = [] := List.eq_nil_iff_forall_not_mem.2 fun a ha => by
      rcases (hK a).1 ha with ⟨ev, hm, _⟩ | hpa
      · exact hno a ev hm
      · rw [hp] at hpa; cases hpa
    subst hK0 hp
    exact checkBody_nil n RS _ live hle fun i _ => (hdel i).trans (hz i)
  · have hm : (pending == some .all || decide (K.length ≥ 2)) = true := by
      rcases hd with hp | ⟨a, b, hab, ha, hb⟩
      · rw [hp]; rfl
      · rw [decide_eq_true (length_ge_two ((hK a).2 ha) ((hK b).2 hb) hab), Bool.or_true]
    rw [hm]
    exact checkBody_many n K RS _ live hle fun i hi hl => (hdel i).trans (h1 i hi hl)
  · by_cases h2l : K.length ≥ 2
    · -- a second signaller showed up during the delivery round: the lone one was answered
      obtain ⟨a, ha, b, hb, hab⟩ := two_distinct K hnd h2l
      have hans : ans := by
        by_cases hax : a = x
        · exact h4 b (fun hbx => hab (hax.trans hbx.symm)) ((hK b).1 hb)
        · exact h4 a hax ((hK a).1 ha)
      rw [decide_eq_true h2l, Bool.or_true]
      refine checkBody_many n K RS _ live hle fun i hi hl => (hdel i).trans ?_
      by_cases hix : i = x
      · rw [hix] at hl ⊢; exact h2 hans hl
      · exact h1 i hi hix hl
    · have hKx : K = [x] := by
        match K, (hK x).2 hx, h2l with
        | [y], hxK, _ => rw [List.mem_singleton.1 hxK]
        | _ :: _ :: _, _, h => exact absurd (by simp) h
      subst hKx
      rw [show (pending == some .all) = false from beq_eq_false_iff_ne.2 hp]
      refine checkBody_lone n x [] RS _ live hle (fun i hi hix hl => (hdel i).trans (h1 i hi hix hl))
        (fun ⟨y, hy, hyx⟩ hl => (hdel x).trans (h2 (h5 y hyx ((hR y).1 hy)) hl))
        fun hnex => (hdel x).trans (h3 fun hans => ?_)
      obtain ⟨j, hjx, hj | hj⟩ := h6 hans
      · exact hjx (List.mem_singleton.1 ((hK j).2 hj))
      · exact hnex ⟨j, (hR j).2 hj, hjx⟩

theorem mem_signalsIn (l : List LogEntry) (a : Nat) :
    a ∈ signalsIn l ↔ ∃ ev, LogEntry.sampled a ev STATE_SIGNAL ∈ l := by
  unfold signalsIn
  rw [List.mem_filterMap]
  constructor
  · rintro ⟨e, he, hf⟩
    rw [List.mem_reverse] at he
    cases e with
    | sampled mi ev next =>
      simp only [sigEntry] at hf
      split at hf
      · next hc =>
        have := Option.some.inj hf
        subst this
        exact ⟨ev, by rw [← hc]; exact he⟩
      · cases hf
    | _ => simp [sigEntry] at hf
  · rintro ⟨ev, hmem⟩
    exact ⟨_, List.mem_reverse.2 hmem, by simp [sigEntry]⟩

theorem deliveries_zero_of_absent (l : List LogEntry) (x n : Nat)
    (hD : ∀ m ev st, LogEntry.trans m ev st ∈ l → m < n) (hx : n ≤ x) : deliveries l x = 0 := by
  unfold deliveries
  rw [List.countP_eq_zero]
  intro e he
  cases e with
  | trans m ev st =>
    have := hD m ev st he
    have hne : (m == x) = false := by
      have : m ≠ x := by omega
      simpa using this
    simp [hne]
  | _ => simp

theorem notEnded_lt {s : Fw σ} {j : Nat} (h : notEnded s j = true) : j < s.rt.length := by
  unfold notEnded at h
  rcases Nat.lt_or_ge j s.rt.length with h' | h'
  · exact h'
  · rw [List.getElem?_eq_none h'] at h; cases h

/-- The log segment of every call of the model has the facts `checkCall` needs. No validity
    or no-fault hypothesis; `s.signalPending` is whatever the previous call left over. -/
theorem call_facts (es : List TEvent) (t : Int) (s : Fw σ) (hlen : s.rt.length = s.machines.length)
    (l : List LogEntry) (hl : (triggerEvents ρ es t s).log = l ++ s.log) :
    CallFacts s.rt.length s.signalPending l (fun j => notEnded (triggerEvents ρ es t s) j) := by
  obtain ⟨l1, hE, hP⟩ := C09.slot_tracks_log ρ es t s
  have hA := events_noSignalEv ρ es t s l1 hE
  have hD := call_trans_lt ρ es t s l hl
  have hrun : Run (eventsDone ρ es t s) (signalRound ρ (eventsDone ρ es t s)) := signalRound_run ρ _
  obtain ⟨lr, hlr⟩ := hrun.logExt
  rw [← C09.triggerEvents_eq] at hlr
  have hsplit : l = lr ++ l1 := by
    apply List.append_cancel_right (bs := s.log)
    rw [← hl, hlr, hE, List.append_assoc]
  have hle : ∀ i, deliveries l i ≤ 1 := by
    intro i
    have h1 := sig_triggerEvents ρ i es t s
    unfold sigOf at h1
    rw [hl, wsum_append] at h1
    have h2 := wsum_le_of_le (μLive_le i) l
    rw [C09.wsum_live_eq_deliveries] at h2
    omega
  have hsig1 : ∀ a, a ∈ signalsIn l1 → ∃ ev, LogEntry.sampled a ev STATE_SIGNAL ∈ l ∧ ev ≠ Gen.EV_Signal := by
    intro a ha
    obtain ⟨ev, hmem⟩ := (mem_signalsIn l1 a).1 ha
    refine ⟨ev, by rw [hsplit]; exact List.mem_append_right _ hmem, fun hev => ?_⟩
    rw [hev] at hmem
    exact hA a _ hmem
  have hcd : ∀ i, i < s.rt.length → notEnded (triggerEvents ρ es t s) i = true →
      ((eventsDone ρ es t s).signalPending = some .all → deliveries l i = 1) ∧
      ∀ x, (eventsDone ρ es t s).signalPending = some (.allExcept x) → (i ≠ x → deliveries l i = 1) ∧
        (i = x → deliveries l i =
          if (afterFirst ρ (eventsDone ρ es t s) (some x)).signalPending.isSome = true then 1 else 0) := by
    intro i hi hlive
    obtain ⟨l', e', _, d2, d3⟩ := C09.call_deliveries ρ es t s i ⟨hi, hlen ▸ hi⟩ hlive
    cases List.append_cancel_right (e'.symm.trans hl)
    exact ⟨d2, d3⟩
  -- the signallers the slot has seen when the reported events are done: the one carried over from the
  -- previous call, then those of the events; unless it held `all` from the start, it is their fold
  obtain ⟨K1, hK1, hKin, hKp, hKs⟩ : ∃ K1 : List Nat,
      (s.signalPending = some .all ∨ (eventsDone ρ es t s).signalPending = K1.foldl sigStep none) ∧
      (∀ a ∈ K1, InK s.signalPending l a) ∧ (∀ j, s.signalPending = some (.allExcept j) → j ∈ K1) ∧
      ∀ a ∈ signalsIn l1, a ∈ K1 := by
    cases hp0 : s.signalPending with
    | none => exact ⟨signalsIn l1, Or.inr (hp0 ▸ hP), fun a ha => Or.inl (hsig1 a ha), nofun, fun _ h => h⟩
    | some q =>
      cases q with
      | all => exact ⟨signalsIn l1, Or.inl rfl, fun a ha => Or.inl (hsig1 a ha), nofun, fun _ h => h⟩
      | allExcept y =>
        exact ⟨y :: signalsIn l1, Or.inr (hP.trans (by rw [hp0]; rfl)),
          fun a ha => (List.mem_cons.1 ha).elim (fun e => Or.inr (e ▸ rfl)) fun h => Or.inl (hsig1 a h),
          fun j hj => by cases hj; exact List.mem_cons_self, fun a h => List.mem_cons_of_mem _ h⟩
  have hall : s.signalPending = some .all → (eventsDone ρ es t s).signalPending = some .all :=
    fun hp => by rw [hP, hp, C09.sigStep_all]
  refine ⟨hle, ?_⟩
  cases hPE : (eventsDone ρ es t s).signalPending with
  | none =>
    left
    have hK0 : K1 = [] :=
      (C09.lone_or_many K1).1.1 ((hK1.resolve_left fun hp => nomatch (hall hp).symm.trans hPE).symm.trans hPE)
    have hp0 : s.signalPending = none := by
      match h : s.signalPending with
      | none => rfl
      | some .all => exact nomatch (hall h).symm.trans hPE
      | some (.allExcept j) => exact nomatch hK0 ▸ hKp j h
    have hids : signalsIn l1 = [] := List.eq_nil_iff_forall_not_mem.2 fun a ha => nomatch hK0 ▸ hKs a ha
    have hTE : triggerEvents ρ es t s = eventsDone ρ es t s := by
      rw [C09.triggerEvents_eq, C09.sr_round_none ρ _ hPE]
    have hll : l = l1 := by
      apply List.append_cancel_right (bs := s.log)
      rw [← hl, hTE, hE]
    refine ⟨hp0, fun a ev hmem => ?_, fun i => ?_⟩
    · rw [hll] at hmem
      have : a ∈ signalsIn l1 := (mem_signalsIn l1 a).2 ⟨ev, hmem⟩
      rw [hids] at this; cases this
    · have h := C09.live_eventsDone ρ es t s i
      unfold liveSigOf at h
      rw [hE, wsum_append, C09.wsum_live_eq_deliveries] at h
      rw [hll]; omega
  | some p =>
    cases p with
    | all =>
      right; left
      refine ⟨hK1.imp_right fun hf => ?_, fun i hi hlive => (hcd i hi hlive).1 hPE⟩
      obtain ⟨a, ha, b, hb, hab⟩ := (C09.lone_or_many K1).2.2.1 (hf.symm.trans hPE)
      exact ⟨a, b, hab, hKin a ha, hKin b hb⟩
    | allExcept x =>
      right; right
      have hpne : s.signalPending ≠ some .all := fun hp => nomatch (hall hp).symm.trans hPE
      obtain ⟨hne, hall⟩ := ((C09.lone_or_many K1).2.1 x).1 ((hK1.resolve_left hpne).symm.trans hPE)
      have hids : ∀ a ∈ signalsIn l1, a = x := fun a ha => hall a (hKs a ha)
      have hpx : ∀ j, s.signalPending = some (.allExcept j) → j = x := fun j hj => hall j (hKp j hj)
      have hxK : InK s.signalPending l x := by
        obtain ⟨a, ha⟩ := List.exists_mem_of_ne_nil _ hne
        exact hall a ha ▸ hKin a ha
      obtain ⟨l2, l3, eF, eT, o2, o3⟩ := round_lone_log ρ (eventsDone ρ es t s) x hPE
      rw [← C09.triggerEvents_eq] at eT
      have hl3 : l = l3 ++ (l2 ++ l1) := by
        apply List.append_cancel_right (bs := s.log)
        rw [← hl, eT, hE]
        simp [List.append_assoc]
      obtain ⟨l2', eF', hans⟩ := C09.afterFirst_answered ρ (eventsDone ρ es t s) (some x)
      have hl2 : l2' = l2 := List.append_cancel_right (eF'.symm.trans eF)
      rw [hl2] at hans
      -- a machine other than `x` that signalled did so in the first round: the round was answered
      have hothers : ∀ j ev, j ≠ x → LogEntry.sampled j ev STATE_SIGNAL ∈ l →
          (afterFirst ρ (eventsDone ρ es t s) (some x)).signalPending.isSome = true := by
        intro j ev hjx hmem
        rw [hl3] at hmem
        rcases List.mem_append.1 hmem with h | h
        · exact absurd (o3 _ h).1 hjx
        · rcases List.mem_append.1 h with h | h
          · exact hans.2 fun hnil => nomatch hnil ▸ (mem_signalsIn l2 j).2 ⟨ev, h⟩
          · exact absurd (hids j ((mem_signalsIn l1 j).2 ⟨ev, h⟩)) hjx
      have hrtlen : (triggerEvents ρ es t s).rt.length = s.rt.length := run_rtLen (triggerEvents_run ρ es t s)
      refine ⟨x, (afterFirst ρ (eventsDone ρ es t s) (some x)).signalPending.isSome = true, hpne, hxK,
        ?_, ?_, ?_, ?_, ?_, ?_⟩
      · exact fun i hi hix hlive => ((hcd i hi hlive).2 x hPE).1 hix
      · intro hans' hlive
        rw [((hcd x (by rw [← hrtlen]; exact notEnded_lt hlive) hlive).2 x hPE).2 rfl, if_pos hans']
      · intro hnans
        by_cases hi : x < s.rt.length
        · have h := ((C09.call_delivers_live ρ es t s x ⟨hi, hlen ▸ hi⟩).2.2 x hPE).2 rfl
          have hc : ¬ ((afterFirst ρ (eventsDone ρ es t s) (some x)).signalPending.isSome = true ∧
              notEnded (eventsDone ρ es t s) x = true) := fun hc => hnans hc.1
          rw [if_neg hc] at h
          unfold liveSigOf at h
          rw [hl, wsum_append, C09.wsum_live_eq_deliveries] at h
          omega
        · exact deliveries_zero_of_absent l x s.rt.length hD (by omega)
      · rintro j hjx (⟨ev, hmem, -⟩ | hpj)
        · exact hothers j ev hjx hmem
        · exact absurd (hpx j hpj) hjx
      · exact fun j hjx hj => hothers j _ hjx hj
      · intro hans'
        have hne := hans.1 hans'
        obtain ⟨a, ha⟩ := List.exists_mem_of_ne_nil _ hne
        obtain ⟨ev, hmem⟩ := (mem_signalsIn l2 a).1 ha
        obtain ⟨j, hjx, hO⟩ := o2 _ hmem
        have haj : a = j := hO.1
        have hml : LogEntry.sampled a ev STATE_SIGNAL ∈ l := by rw [hl3]; simp [hmem]
        refine ⟨a, by rw [haj]; exact hjx, ?_⟩
        by_cases hev : ev = Gen.EV_Signal
        · right; rw [hev] at hml; exact hml
        · left; exact Or.inl ⟨ev, hml, hev⟩

theorem go09_ok (n i : Nat) (pending : Option SignalTarget) (c : CallRec) (cs : List CallRec)
    (h : checkCall n pending c.log
      (fun j => match c.snap.rts[j]? with | some r => r.state != STATE_END | none => false) = none) :
    C09.monitor.go n i pending (c :: cs) =
      if c.res != .ok then none else C09.monitor.go n (i + 1) c.snap.signalPending cs := by
  rw [C09.monitor.go]
  split
  · rfl
  · simp only []
    split
    · next msg heq => exact absurd (heq.symm.trans h) (by simp)
    · rfl

theorem live_snap (s : Fw σ) :
    (fun j => match s.snap.rts[j]? with | some r => r.state != STATE_END | none => false) = fun j => notEnded s j := by
  funext j
  unfold notEnded Fw.snap
  simp only [List.getElem?_map]
  cases s.rt[j]? <;> rfl

theorem go09_model (n : Nat) (h : List Call) (i : Nat) (s : Fw σ) (hn : s.rt.length = n) (hm : s.machines.length = n) :
    C09.monitor.go n i s.signalPending (LL.callRecs ρ s h) = none := by
  refine LL.callRecs_accept ρ (go := C09.monitor.go n)
    (fun _ p s => p = s.signalPending ∧ s.rt.length = n ∧ s.machines.length = n)
    (fun _ _ => by rw [C09.monitor.go]) (fun i a c cs hres => by rw [C09.monitor.go, if_pos (bne_iff_ne.2 hres)])
    ?_ h i _ s ⟨rfl, hn, hm⟩
  rintro i _ s c _ cs ⟨rfl, hn, hm⟩ hok
  have hrun := triggerEvents_run ρ c.1 c.2 (LL.resetLog s)
  refine ⟨_, ⟨rfl, (run_rtLen hrun).trans hn, (congrArg List.length (LL.machines_run hrun)).trans hm⟩, ?_⟩
  rw [go09_ok n i _ (LL.callRec ρ s c) cs (by
    have := checkCall_of_facts _ _ _ _ (call_facts ρ c.1 c.2 (LL.resetLog s) (hn.trans hm.symm)
      (triggerEvents ρ c.1 c.2 (LL.resetLog s)).log (List.append_nil _).symm)
    show checkCall n s.signalPending (triggerEvents ρ c.1 c.2 (LL.resetLog s)).log.reverse
      (fun j => match (triggerEvents ρ c.1 c.2 (LL.resetLog s)).snap.rts[j]? with
        | some r => r.state != STATE_END | none => false) = none
    rw [live_snap, ← hn]
    exact this), show (LL.callRec ρ s c).res = .ok from (LL.resOf_ok _).2 hok]
  rfl

/-- `C09.monitor` accepts the model's own trace of every history. -/
theorem monitor09_model (ms : List Machine) (fp fb : F64) (t0 : Int) (rng : σ) (h : List Call) :
    C09.monitor (LL.modelTrace ρ ms fp fb t0 rng h) = none := by
  unfold C09.monitor
  have hm : (Fw.init ρ ms fp fb t0 rng).machines = ms := LL.machines_run (init_run ρ ms fp fb t0 rng)
  have hI := Inv04.init ρ ms fp fb t0 rng
  exact go09_model ρ ms.length h 1 (Fw.init ρ ms fp fb t0 rng) (by rw [hI.rtLen, hm]) (by rw [hm])

end MB
end Mb
