/-
  Induction over the mutual recursion `transition` / `updateCounter`. The hypotheses `step` and
  `ucStep` follow the branching of the two definitions: at each branch point a conjunction with one
  component per branch, the branch condition as its premise, and the intermediate frameworks
  named as in the code. The motives speak about the results, so a proof by this principle never
  unfolds either function, and what it establishes about an intermediate framework is available in
  every branch below it.
-/
import MbVerif.Framework

namespace Mb
variable {σ : Type} (ρ : Oracle σ)

/-- `T fuel mi ev s s' changed` is proved of `transition ρ fuel mi ev s = (s', changed)` under the
    precondition `PT fuel mi ev s`, and `U fuel mi s s' allow changed` of
    `updateCounter ρ fuel mi s = (s', allow, changed)` under `PU fuel mi s`; the preconditions are
    available at the root of `step` / `ucStep` and are owed for the inner call.
    In `step`: `s0` is `s` after the `trans` entry, `s1` after the draw, `s2` after the `sampled`
    entry, `s3` after `enterState`, `res` the inner `updateCounter`, `s5` after the scheduling step.
    In `ucStep`: `ra`, `rb` are the two counter updates, `s2` is after the `counter` entry, `res` the
    inner `transition` for CounterZero. -/
theorem transition_induct
    {PT : Nat → Nat → Event → Fw σ → Prop} {T : Nat → Nat → Event → Fw σ → Fw σ → Bool → Prop}
    {PU : Nat → Nat → Fw σ → Prop} {U : Nat → Nat → Fw σ → Fw σ → Bool → Bool → Prop}
    (fuel0 : ∀ (mi : Nat) (ev : Event) (s : Fw σ), PT 0 mi ev s →
      T 0 mi ev s (s.withFault .fuel) false)
    (oob : ∀ (n mi : Nat) (ev : Event) (s : Fw σ), s.rt[mi]? = none ∨ s.machines[mi]? = none →
      PT (n + 1) mi ev s → T (n + 1) mi ev s (s.withFault .oob) false)
    (step : ∀ (n mi : Nat) (ev : Event) (s : Fw σ) (r : Runtime) (m : Machine),
      s.rt[mi]? = some r → s.machines[mi]? = some m → PT (n + 1) mi ev s →
      let s0 := s.push (.trans mi ev.toNat r.currentState)
      (r.currentState = STATE_END → T (n + 1) mi ev s s0 false) ∧
      (r.currentState ≠ STATE_END →
        (m.states[r.currentState]? = none → T (n + 1) mi ev s (s0.withFault .oob) false) ∧
        ∀ st : State, m.states[r.currentState]? = some st →
          (st.transitions[ev.toNat]? = none → T (n + 1) mi ev s (s0.withFault .oob) false) ∧
          (st.transitions[ev.toNat]? = some none → T (n + 1) mi ev s s0 false) ∧
          ∀ vec : List Trans, st.transitions[ev.toNat]? = some (some vec) →
            let d := ρ.u s0.rng
            let s1 := ({ s0 with rng := d.2 }).push (.draw d.1)
            (sampleState vec d.1 = none → T (n + 1) mi ev s s1 false) ∧
            ∀ next : Nat, sampleState vec d.1 = some next →
              let s2 := s1.push (.sampled mi ev.toNat next)
              (next = STATE_END →
                T (n + 1) mi ev s (s2.modRt mi (fun r => { r with currentState := STATE_END })) true) ∧
              (next ≠ STATE_END → next = STATE_SIGNAL → T (n + 1) mi ev s (signalFrom mi s2) false) ∧
              (next ≠ STATE_END → next ≠ STATE_SIGNAL →
                let s3 := enterState ρ mi m r.currentState next s2
                (s3.rt[mi]? = none → T (n + 1) mi ev s (s3.withFault .oob) false) ∧
                ∀ r1 : Runtime, s3.rt[mi]? = some r1 →
                  (belowActionLimits s3.g r1 m = none → T (n + 1) mi ev s (s3.withFault
                    (if m.states[r1.currentState]?.isNone then .oob else .durOverflow)) false) ∧
                  ∀ below : Bool, belowActionLimits s3.g r1 m = some below →
                    let res := updateCounter ρ n mi s3
                    (PU n mi s3 → U n mi s3 res.1 res.2.1 res.2.2) →
                    let s5 := if res.2.1 && below then scheduleAction ρ mi next res.1 else res.1
                    (s5.rt[mi]? = none → T (n + 1) mi ev s (s5.withFault .oob) false) ∧
                    ∀ r2 : Runtime, s5.rt[mi]? = some r2 →
                      T (n + 1) mi ev s s5 (!(r.currentState == r2.currentState && !res.2.2)))))
    (ucFuel0 : ∀ (mi : Nat) (s : Fw σ), PU 0 mi s → U 0 mi s (s.withFault .fuel) true false)
    (ucOob : ∀ (n mi : Nat) (s : Fw σ), s.rt[mi]? = none ∨ s.machines[mi]? = none →
      PU (n + 1) mi s → U (n + 1) mi s (s.withFault .oob) true false)
    (ucStep : ∀ (n mi : Nat) (s : Fw σ) (r : Runtime) (m : Machine),
      s.rt[mi]? = some r → s.machines[mi]? = some m → PU (n + 1) mi s →
      (m.states[r.currentState]? = none → U (n + 1) mi s (s.withFault .oob) true false) ∧
      ∀ st : State, m.states[r.currentState]? = some st →
        let ra := applyCounterA ρ mi st.counterA r.counterA r.counterB s
        let rb := applyCounterB ρ mi st.counterB r.counterA r.counterB ra.1
        let s2 := rb.1.push
          (.counter mi r.counterA (counterAOf rb.1 mi) r.counterB (counterBOf rb.1 mi))
        ((ra.2 || rb.2) = false → U (n + 1) mi s s2 true false) ∧
        ((ra.2 || rb.2) = true →
          let res := transition ρ n mi .counterZero s2
          (PT n mi .counterZero s2 → T n mi .counterZero s2 res.1 res.2) →
          (res.1.actions[mi]? = none → U (n + 1) mi s (res.1.withFault .oob) true res.2) ∧
          ∀ a : Option TAction, res.1.actions[mi]? = some a →
            U (n + 1) mi s res.1 a.isNone res.2))
    (fuel : Nat) :
    (∀ mi ev s, PT fuel mi ev s →
      T fuel mi ev s (transition ρ fuel mi ev s).1 (transition ρ fuel mi ev s).2) ∧
    (∀ mi s, PU fuel mi s → U fuel mi s (updateCounter ρ fuel mi s).1
      (updateCounter ρ fuel mi s).2.1 (updateCounter ρ fuel mi s).2.2) := by
  induction fuel with
  | zero => exact ⟨fuel0, ucFuel0⟩
  | succ n ih =>
    refine ⟨fun mi ev s hP => ?_, fun mi s hP => ?_⟩
    · rw [transition]
      cases hr : s.rt[mi]? with
      | none => exact oob n mi ev s (.inl hr) hP
      | some r =>
      cases hm : s.machines[mi]? with
      | none => exact oob n mi ev s (.inr hm) hP
      | some m =>
      obtain ⟨hEnded, h⟩ := step n mi ev s r m hr hm hP
      simp only []
      by_cases he : r.currentState = STATE_END
      · rw [if_pos he]; exact hEnded he
      rw [if_neg he]
      obtain ⟨hNoState, h⟩ := h he
      cases hst : m.states[r.currentState]? with
      | none => exact hNoState hst
      | some st =>
      obtain ⟨hNoEvent, hNoVector, h⟩ := h st hst
      simp only []
      cases hv : st.transitions[ev.toNat]? with
      | none => exact hNoEvent hv
      | some ov =>
      cases ov with
      | none => exact hNoVector hv
      | some vec =>
      obtain ⟨hNoSample, h⟩ := h vec hv
      simp only []
      cases hss : sampleState vec (ρ.u (s.push (.trans mi ev.toNat r.currentState)).rng).1 with
      | none => exact hNoSample hss
      | some next =>
      obtain ⟨hToEnd, hToSignal, h⟩ := h next hss
      simp only []
      by_cases hE : next = STATE_END
      · rw [if_pos hE]; exact hToEnd hE
      rw [if_neg hE]
      by_cases hS : next = STATE_SIGNAL
      · rw [if_pos hS]; exact hToSignal hE hS
      rw [if_neg hS]
      obtain ⟨hOob, h⟩ := h hE hS
      cases hr1 : (enterState ρ mi m r.currentState next _).rt[mi]? with
      | none => exact hOob hr1
      | some r1 =>
      obtain ⟨hLimit, h⟩ := h r1 hr1
      simp only []
      cases hb : belowActionLimits (enterState ρ mi m r.currentState next _).g r1 m with
      | none => exact hLimit hb
      | some below =>
      obtain ⟨hOob5, h⟩ := h below hb (ih.2 mi _)
      simp only []
      cases h5 : (if ((updateCounter ρ n mi _).2.1 && below) = true then scheduleAction ρ mi next _
          else _ : Fw σ).rt[mi]? with
      | none => exact hOob5 h5
      | some r2 => exact h r2 h5
    · rw [updateCounter]
      cases hr : s.rt[mi]? with
      | none => exact ucOob n mi s (.inl hr) hP
      | some r =>
      cases hm : s.machines[mi]? with
      | none => exact ucOob n mi s (.inr hm) hP
      | some m =>
      obtain ⟨hNoState, h⟩ := ucStep n mi s r m hr hm hP
      simp only []
      cases hst : m.states[r.currentState]? with
      | none => exact hNoState hst
      | some st =>
      obtain ⟨hQuiet, h⟩ := h st hst
      simp only []
      cases hz : ((applyCounterA ρ mi st.counterA r.counterA r.counterB s).2 ||
        (applyCounterB ρ mi st.counterB r.counterA r.counterB _).2) with
      | false => exact hQuiet hz
      | true =>
        obtain ⟨hOob, h⟩ := h hz (ih.1 mi _ _)
        simp only [if_true]
        cases ha : (transition ρ n mi .counterZero _).1.actions[mi]? with
        | none => exact hOob ha
        | some a => exact h a ha

end Mb
