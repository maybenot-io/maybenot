/-
  Totality under a clock-span guard (C01): if every clock value supplied lies in a window of
  width `B` and `(calls + 1) * B` fits a `Duration`, the checked duration additions never
  overflow: the duration-overflow fault is never raised.

  Invariant (`DurInv`): now lies in the window and (while blocking) the start of blocking is not
  before it; the potential `blockingDur + ongoing` is at most `c * B` after `c` calls; every
  machine's blocked time is at most the framework's.
-/
import MbVerif.Proofs.SafeCall
import MbVerif.Proofs.SlotGate
import MbVerif.Proofs.LimitPred
import MbVerif.Proofs.RoundRel
import MbVerif.Proofs.TransInduct

namespace Mb
variable {σ : Type} (ρ : Oracle σ)

theorem Fw.modRt_rt_some {s : Fw σ} {j i : Nat} {f : Runtime → Runtime} {r : Runtime}
    (h : (s.modRt j f).rt[i]? = some r) : ∃ r0, s.rt[i]? = some r0 ∧ (r = r0 ∨ r = f r0) := by
  by_cases hi : i = j
  · subst hi
    rw [Fw.modRt_rt_self] at h
    obtain ⟨r0, h0, e⟩ := Option.map_eq_some_iff.mp h
    exact ⟨r0, h0, Or.inr e.symm⟩
  · exact ⟨r, by rw [← Fw.modRt_rt_other s j i f hi]; exact h, Or.inl rfl⟩

theorem Fw.callStart_rt_some {s : Fw σ} {t : Int} {i : Nat} {r : Runtime} (h : (s.callStart t).rt[i]? = some r) :
    ∃ r0, s.rt[i]? = some r0 ∧ r = { r0 with zeroedA := false, zeroedB := false } := by
  simp only [Fw.callStart, List.getElem?_map] at h
  obtain ⟨r0, h0, e⟩ := Option.map_eq_some_iff.mp h
  exact ⟨r0, h0, e.symm⟩

theorem Frame.rt_some {mi j : Nat} {s t : Fw σ} (hf : Frame mi s t) {r : Runtime} (h : t.rt[j]? = some r) :
    ∃ r0, s.rt[j]? = some r0 ∧ r.acct = r0.acct := by
  by_cases hj : j = mi
  · subst hj
    have ha := hf.acct
    rw [h] at ha
    obtain ⟨r0, h0, e⟩ := Option.map_eq_some_iff.mp ha.symm
    exact ⟨r0, h0, e.symm⟩
  · exact ⟨r, by rw [← hf.rtOther j hj]; exact h, rfl⟩

def NoDur (s : Fw σ) : Prop := s.fault ≠ some .durOverflow

/-- `FO` (faults other than the overflow): the fault field is unchanged or becomes an index fault /
    fuel fault -/
def FO (s t : Fw σ) : Prop := t.fault = s.fault ∨ t.fault = some .oob ∨ t.fault = some .fuel

theorem FO.refl (s : Fw σ) : FO s s := Or.inl rfl
theorem FO.trans {s t u : Fw σ} (h₁ : FO s t) (h₂ : FO t u) : FO s u := by
  rcases h₂ with h | h | h
  · rcases h₁ with h' | h' | h'
    · exact Or.inl (h.trans h')
    · exact Or.inr (Or.inl (h.trans h'))
    · exact Or.inr (Or.inr (h.trans h'))
  · exact Or.inr (Or.inl h)
  · exact Or.inr (Or.inr h)
theorem FO.noDur {s t : Fw σ} (h : FO s t) (hs : NoDur s) : NoDur t := by
  unfold NoDur at *
  rcases h with h | h | h <;> rw [h]
  · exact hs
  · simp
  · simp
theorem FO.of_eq {s t : Fw σ} (h : t.fault = s.fault) : FO s t := Or.inl h

theorem fo_withFault_oob (s : Fw σ) : FO s (s.withFault .oob) := by
  unfold Fw.withFault FO
  cases h : s.fault with
  | none => right; left; simp
  | some f => left; simp [h]
theorem fo_withFault_fuel (s : Fw σ) : FO s (s.withFault .fuel) := by
  unfold Fw.withFault FO
  cases h : s.fault with
  | none => right; right; simp
  | some f => left; simp [h]
theorem fo_modRt (s : Fw σ) (mi : Nat) (f : Runtime → Runtime) : FO s (s.modRt mi f) := by
  unfold Fw.modRt
  split
  · exact Or.inl rfl
  · exact fo_withFault_oob s
theorem fo_rngLog {s t : Fw σ} (h : RngLogOnly s t) : FO s t := FO.of_eq h.fault

theorem fo_distSample (d : Dist) (s : Fw σ) : FO s (distSample ρ d s).2 := fo_rngLog (distSample_spec ρ 0 d s).1

theorem fo_enterState (mi : Nat) (m : Machine) (cur next : Nat) (s : Fw σ) :
    FO s (enterState ρ mi m cur next s) :=
  enterState_rel ρ FO.refl FO.trans (fo_distSample ρ) mi fo_withFault_oob (fun s _ => fo_modRt s mi _)
    (fun s _ => (fo_modRt s mi _).trans (Or.inl rfl)) m cur next s

theorem fo_scheduleAction (mi next : Nat) (s : Fw σ) : FO s (scheduleAction ρ mi next s) :=
  scheduleAction_rel ρ FO.refl FO.trans (fo_distSample ρ) mi fo_withFault_oob (fun _ _ => Or.inl rfl) next s

theorem fo_applyCounterA (mi : Nat) (c : Option Counter) (oldA oldB : Nat) (s : Fw σ) :
    FO s (applyCounterA ρ mi c oldA oldB s).1 :=
  (applyCounter_rel ρ FO.refl FO.trans (fo_distSample ρ) mi (fun s f _ => fo_modRt s mi f)).1 c oldA oldB s

theorem fo_applyCounterB (mi : Nat) (c : Option Counter) (oldA oldB : Nat) (s : Fw σ) :
    FO s (applyCounterB ρ mi c oldA oldB s).1 :=
  (applyCounter_rel ρ FO.refl FO.trans (fo_distSample ρ) mi (fun s f _ => fo_modRt s mi f)).2 c oldA oldB s

/-- the two sums `below_limit_blocking` forms fit a `Duration` -/
def DurOKr (g : Globals) (a : RtAcct) : Prop :=
  a.blockingDur + ongoing g ≤ durMax ∧ g.blockingDur + ongoing g ≤ durMax

theorem belowActionLimits_some {g : Globals} {r : Runtime} {m : Machine} (h : DurOKr g r.acct)
    (hb : belowActionLimits g r m = none) : m.states[r.currentState]? = none := by
  rcases belowActionLimits_none hb with hs | ho | ho
  · exact hs
  · exact absurd h.1 (Nat.not_le.mpr ho)
  · exact absurd h.2 (Nat.not_le.mpr ho)

def DurOK (s : Fw σ) : Prop := ∀ (mi : Nat) (r : Runtime), s.rt[mi]? = some r → DurOKr s.g r.acct

theorem DurOK.ofFrame {mi : Nat} {s t : Fw σ} (hf : Frame mi s t) (h : DurOK s) : DurOK t := by
  intro j r hr
  obtain ⟨r0, h0, e⟩ := hf.rt_some hr
  rw [hf.g, e]
  exact h j r0 h0

theorem frame_of_rngLog (mi : Nat) {s t : Fw σ} (h : RngLogOnly s t) : Frame mi s t :=
  ⟨h.machines, h.g, by rw [h.rt], by rw [h.actions], fun _ _ => by rw [h.rt], fun _ _ => by rw [h.actions], by rw [h.rt]⟩

theorem frame_enterState (mi : Nat) (m : Machine) (cur next : Nat) (s : Fw σ) :
    Frame mi s (enterState ρ mi m cur next s) :=
  enterState_rel ρ (Frame.refl mi) Frame.trans (fun d s => frame_of_rngLog mi (distSample_spec ρ mi d s).1) mi
    (fun s => (Step.fault s _).frame) (fun s _ => frame_modRt mi s _ (by intro _; rfl))
    (fun s _ => (frame_modRt mi s _ (by intro _; rfl)).trans (Step.push _ _).frame) m cur next s

theorem noDur_main (fuel : Nat) :
    (∀ mi ev (s : Fw σ), DurOK s → NoDur s → NoDur (transition ρ fuel mi ev s).1) ∧
    (∀ mi (s : Fw σ), DurOK s → NoDur s → NoDur (updateCounter ρ fuel mi s).1) := by
  have hoob : ∀ {s : Fw σ}, NoDur s → NoDur (s.withFault .oob) := fun h => (fo_withFault_oob _).noDur h
  have h := transition_induct ρ (PT := fun _ _ _ s => DurOK s ∧ NoDur s) (PU := fun _ _ s => DurOK s ∧ NoDur s)
    (T := fun _ _ _ _ s' _ => NoDur s') (U := fun _ _ _ s' _ _ => NoDur s')
    (fun _ _ s h => (fo_withFault_fuel s).noDur h.2) (fun _ _ _ _ _ h => hoob h.2) ?_
    (fun _ s h => (fo_withFault_fuel s).noDur h.2) (fun _ _ _ _ h => hoob h.2) ?_ fuel
  · exact ⟨fun mi ev s hD hN => h.1 mi ev s ⟨hD, hN⟩, fun mi s hD hN => h.2 mi s ⟨hD, hN⟩⟩
  · intro n mi ev s r m _ _ hP s0
    obtain ⟨hD, h0⟩ : DurOK s0 ∧ NoDur s0 := hP
    refine ⟨fun _ => h0, fun _ => ⟨fun _ => hoob h0, fun st _ => ⟨fun _ => hoob h0, fun _ => h0, fun vec _ => ?_⟩⟩⟩
    intro d s1
    refine ⟨fun _ => h0, fun next _ => ?_⟩
    intro s2
    have hD2 : DurOK s2 := hD
    have h2 : NoDur s2 := h0
    refine ⟨fun _ => (fo_modRt _ mi _).noDur h2, fun _ _ => h2, fun _ _ => ?_⟩
    intro s3
    -- entering the state keeps the sums, so the gate can only fail on the index
    have hD3 : DurOK s3 := DurOK.ofFrame (frame_enterState ρ mi m r.currentState next s2) hD2
    have h3 : NoDur s3 := (fo_enterState ρ mi m r.currentState next s2).noDur h2
    refine ⟨fun _ => hoob h3, fun r1 hr1 => ⟨fun hb => ?_, fun below _ => ?_⟩⟩
    · rw [belowActionLimits_some (hD3 mi r1 hr1) hb]
      exact hoob h3
    · intro res ih s5
      have h5 : NoDur s5 := by
        show NoDur (if _ then _ else _)
        split
        · exact (fo_scheduleAction ρ mi next _).noDur (ih ⟨hD3, h3⟩)
        · exact ih ⟨hD3, h3⟩
      exact ⟨fun _ => hoob h5, fun _ _ => h5⟩
  · intro n mi s r m _ _ hP
    obtain ⟨hD, h0⟩ := hP
    refine ⟨fun _ => hoob h0, fun st _ => ?_⟩
    intro ra rb s2
    have h2 : NoDur s2 := ((fo_applyCounterA ρ mi st.counterA r.counterA r.counterB s).trans
      (fo_applyCounterB ρ mi st.counterB r.counterA r.counterB ra.1)).noDur h0
    have hD2 : DurOK s2 := DurOK.ofFrame (((applyCounterA_reach ρ mi st.counterA r.counterA r.counterB s).trans
      (applyCounterB_reach ρ mi st.counterB r.counterA r.counterB ra.1)).tail (Step.push _ _)).frame hD
    refine ⟨fun _ => h2, fun _ => ?_⟩
    intro res ih
    exact ⟨fun _ => hoob (ih ⟨hD2, h2⟩), fun _ _ => ih ⟨hD2, h2⟩⟩

section
variable (lo : Int) (B : Nat)

/-- the clocks after `c` calls with times in `[lo, lo + B]`. A lower bound on `blockingStarted` is
    enough: `ongoing` is `now - blockingStarted`, and `now ≤ lo + B`. `phi` counts the ongoing
    period already, so that BlockingEnd, which moves it into `blockingDur`, does not raise it. -/
structure DurInv (c : Nat) (s : Fw σ) : Prop where
  nowLo : lo ≤ s.g.now
  nowHi : s.g.now ≤ lo + B
  stLo : s.g.blockingActive = true → lo ≤ s.g.blockingStarted
  phi : s.g.blockingDur + ongoing s.g ≤ c * B
  le : ∀ (j : Nat) (r : Runtime), s.rt[j]? = some r → r.acct.blockingDur ≤ s.g.blockingDur

variable {lo B}

theorem DurInv.ongoing_le {c : Nat} {s : Fw σ} (h : DurInv lo B c s) : ongoing s.g ≤ B := by
  unfold ongoing
  split
  · next ha =>
    have := h.stLo ha
    have := h.nowHi
    unfold durSince
    omega
  · omega

theorem DurInv.durOK {c : Nat} {s : Fw σ} (h : DurInv lo B c s) (hg : c * B ≤ durMax) : DurOK s := by
  intro j r hr
  have h1 := h.le j r hr
  have h2 := h.phi
  exact ⟨by omega, by omega⟩

theorem DurInv.ofFrame {c mi : Nat} {s t : Fw σ} (hf : Frame mi s t) (h : DurInv lo B c s) : DurInv lo B c t := by
  refine ⟨by rw [hf.g]; exact h.nowLo, by rw [hf.g]; exact h.nowHi, by rw [hf.g]; exact h.stLo,
    by rw [hf.g]; exact h.phi, fun j r hr => ?_⟩
  obtain ⟨r0, h0, e⟩ := hf.rt_some hr
  rw [hf.g, e]
  exact h.le j r0 h0

theorem DurInv.setG {c : Nat} {s : Fw σ} (h : DurInv lo B c s) (g' : Globals)
    (h1 : g'.now = s.g.now) (h2 : g'.blockingStarted = s.g.blockingStarted)
    (h3 : g'.blockingActive = s.g.blockingActive) (h4 : g'.blockingDur = s.g.blockingDur) :
    DurInv lo B c { s with g := g' } := by
  have ho : ongoing g' = ongoing s.g := by unfold ongoing; rw [h1, h2, h3]
  exact ⟨by simp [h1, h.nowLo], by simp [h1, h.nowHi], by simp only [h3, h2]; exact h.stLo,
    by simp only [ho, h4]; exact h.phi, fun j r hr => by simp only [h4]; exact h.le j r hr⟩

theorem DurInv.modRt {c : Nat} {s : Fw σ} (h : DurInv lo B c s) (mi : Nat) (f : Runtime → Runtime)
    (hf : ∀ r, (f r).acct.blockingDur = r.acct.blockingDur) : DurInv lo B c (s.modRt mi f) := by
  refine ⟨by simp [h.nowLo], by simp [h.nowHi], by simpa using h.stLo, by simpa using h.phi, fun j r hr => ?_⟩
  obtain ⟨r0, h0, e | e⟩ := Fw.modRt_rt_some hr <;> rw [Fw.modRt_g, e]
  · exact h.le j r0 h0
  · rw [hf]; exact h.le j r0 h0

def Good (lo : Int) (B c : Nat) (s : Fw σ) : Prop := DurInv lo B c s ∧ NoDur s

variable {c : Nat} (hg : c * B + B ≤ durMax)
include hg

theorem good_transition (fuel mi : Nat) (ev : Event) (s : Fw σ) (h : Good lo B c s) :
    Good lo B c (transition ρ fuel mi ev s).1 :=
  ⟨h.1.ofFrame (transition_reach ρ fuel mi ev s).frame,
   (noDur_main ρ fuel).1 mi ev s (h.1.durOK (by omega)) h.2⟩

omit hg in
theorem good_step {mi : Nat} {a b : Fw σ} (hst : Step mi a b) (hfo : FO a b) (h : Good lo B c a) : Good lo B c b :=
  ⟨h.1.ofFrame hst.frame, hfo.noDur h.2⟩

theorem good_decrement (mi : Nat) (s : Fw σ) (h : Good lo B c s) : Good lo B c (decrementLimit ρ mi s) :=
  decrementLimit_rel ρ (Q := fun a b => Good lo B c a → Good lo B c b) mi (fun h₁ h₂ h => h₂ (h₁ h))
    (fun s => good_step (mi := mi) (.fault s _) (fo_withFault_oob s))
    (fun s l h => good_step (mi := mi) (.push _ _) (.refl _) (good_step (mi := mi) (.setLimit s l) (fo_modRt s mi _) h))
    (fun s hlen => good_step (.clear s hlen) (.refl _))
    (fun s => good_transition ρ hg FUEL mi .limitReached s) s h

theorem good_transDec (mi : Nat) (ev : Event) (s : Fw σ) (cnd : Fw σ × Bool → Bool) (h : Good lo B c s) :
    Good lo B c (if cnd (transition ρ FUEL mi ev s) = true then decrementLimit ρ mi (transition ρ FUEL mi ev s).1
           else (transition ρ FUEL mi ev s).1) := by
  have h1 := good_transition ρ hg FUEL mi ev s h
  split
  · exact good_decrement ρ hg mi _ h1
  · exact h1

omit hg in
theorem good_fold (F : Fw σ → Nat → Fw σ) (hF : ∀ s j, Good lo B c s → Good lo B c (F s j))
    (l : List Nat) (s : Fw σ) (h : Good lo B c s) : Good lo B c (l.foldl F s) :=
  foldl_rel (R := fun a b => Good lo B c a → Good lo B c b) (fun _ h => h) (fun h₁ h₂ h => h₂ (h₁ h)) F l
    (fun s j _ => hF s j) s h

omit hg in
theorem good_modRt (mi : Nat) (f : Runtime → Runtime) (hf : ∀ r, (f r).acct.blockingDur = r.acct.blockingDur)
    (s : Fw σ) (h : Good lo B c s) : Good lo B c (s.modRt mi f) :=
  ⟨h.1.modRt mi f hf, (fo_modRt s mi f).noDur h.2⟩

/-- the per-machine loop of BlockingEnd: machines below `k` already carry the added time -/
def EndInv (g' : Globals) (blocked : Nat) (k : Nat) (s : Fw σ) : Prop :=
  s.g = g' ∧ NoDur s ∧
  ∀ (j : Nat) (r : Runtime), s.rt[j]? = some r →
    (j < k → r.acct.blockingDur ≤ g'.blockingDur) ∧ (k ≤ j → r.acct.blockingDur + blocked ≤ g'.blockingDur)

omit hg in
theorem endInv_bump (g' : Globals) (blocked k : Nat) (a : Fw σ) (h : EndInv g' blocked k a)
    (hfit : g'.blockingDur ≤ durMax) :
    EndInv g' blocked (k + 1) (evAcct .blockingEnd blocked k a) := by
  obtain ⟨hga, hna, hla⟩ := h
  rw [evAcct]
  by_cases hb0 : blocked ≠ 0
  · rw [if_pos hb0]
    cases hrk : a.rt[k]? with
    | none =>
      refine ⟨by simpa using hga, (fo_withFault_oob a).noDur hna, fun j r hr => ?_⟩
      rw [Fw.withFault_rt] at hr
      refine ⟨fun hj => ?_, fun hj => (hla j r hr).2 (by omega)⟩
      rcases Nat.lt_or_ge j k with hjk | hjk
      · exact (hla j r hr).1 hjk
      · have : j = k := by omega
        subst this; rw [hrk] at hr; cases hr
    | some rk =>
      simp only []
      have hk2 := (hla k rk hrk).2 (Nat.le_refl k)
      have hnot2 : ¬ (rk.acct.blockingDur + blocked > durMax) := by omega
      rw [if_neg hnot2]
      refine ⟨by simpa using hga, (fo_modRt a k _).noDur hna, fun j r hr => ?_⟩
      by_cases hjk : j = k
      · subst hjk
        rw [Fw.modRt_rt_self, hrk] at hr
        simp only [Option.map_some, Option.some.injEq] at hr
        subst hr
        exact ⟨fun _ => hk2, fun hj => absurd hj (by omega)⟩
      · rw [Fw.modRt_rt_other a k j _ hjk] at hr
        exact ⟨fun hj => (hla j r hr).1 (by omega), fun hj => (hla j r hr).2 (by omega)⟩
  · rw [if_neg hb0]
    have hb0' : blocked = 0 := by omega
    refine ⟨hga, hna, fun j r hr => ⟨fun hj => ?_, fun hj => (hla j r hr).2 (by omega)⟩⟩
    rcases Nat.lt_or_ge j k with hjk | hjk
    · exact (hla j r hr).1 hjk
    · have := (hla j r hr).2 hjk; omega

omit hg in
theorem endInv_transition (g' : Globals) (blocked k n : Nat) (a2 : Fw σ) (h : EndInv g' blocked n a2)
    (hact : g'.blockingActive = false) (hfit : g'.blockingDur ≤ durMax) :
    EndInv g' blocked n (transition ρ FUEL k .blockingEnd a2).1 := by
  obtain ⟨hg2, hn2, hl2⟩ := h
  have hfr := (transition_reach ρ FUEL k .blockingEnd a2).frame
  have hD2 : DurOK a2 := by
    intro j r hr
    rw [hg2]
    have h1 := hl2 j r hr
    have hle : r.acct.blockingDur ≤ g'.blockingDur := by
      rcases Nat.lt_or_ge j n with hj | hj
      · exact h1.1 hj
      · have := h1.2 hj; omega
    unfold DurOKr ongoing
    rw [hact]
    simp only [Bool.false_eq_true, if_false]
    exact ⟨by omega, by omega⟩
  refine ⟨by rw [hfr.g]; exact hg2, (noDur_main ρ FUEL).1 k .blockingEnd a2 hD2 hn2, fun j r hr => ?_⟩
  obtain ⟨r0, h0, e⟩ := hfr.rt_some hr
  rw [e]
  exact hl2 j r0 h0

omit hg in
theorem good_of_endInv (F : Fw σ → Nat → Fw σ) (blocked : Nat) (s1 : Fw σ)
    (hstep : ∀ k a, EndInv s1.g blocked k a → EndInv s1.g blocked (k + 1) (F a k))
    (hI0 : EndInv s1.g blocked 0 s1)
    (hlo : lo ≤ s1.g.now) (hhi : s1.g.now ≤ lo + B) (hact : s1.g.blockingActive = false)
    (hphi : s1.g.blockingDur ≤ c * B) :
    Good lo B c ((List.range s1.rt.length).foldl F s1) := by
  obtain ⟨hgE, hnE, hleE⟩ := foldl_range_inv (EndInv s1.g blocked) F hstep s1.rt.length s1 hI0
  refine ⟨⟨by rw [hgE]; exact hlo, by rw [hgE]; exact hhi,
    (fun ha => by rw [hgE, hact] at ha; cases ha), ?_, fun j r hr => ?_⟩, hnE⟩
  · rw [hgE]; unfold ongoing; rw [hact]; simp only [Bool.false_eq_true, if_false]; omega
  · rw [hgE]
    rcases Nat.lt_or_ge j s1.rt.length with hj | hj
    · exact (hleE j r hr).1 hj
    · have := (hleE j r hr).2 hj; omega

omit hg in
theorem good_evGlobal (e : TEvent) (he : e ≠ .blockingEnd) (s : Fw σ) (h : Good lo B c s) : Good lo B c (evGlobal e s) := by
  cases e with
  | normalSent | paddingSent _ => exact ⟨h.1.setG _ rfl rfl rfl rfl, h.2⟩
  | blockingEnd => exact absurd rfl he
  | blockingBegin _ =>
    rw [evGlobal]
    split
    · next hna =>
      -- blocking starts now: nothing is ongoing yet
      have hna' : s.g.blockingActive = false := by simpa using hna
      refine ⟨⟨h.1.nowLo, h.1.nowHi, fun _ => h.1.nowLo, ?_, fun j r hr => h.1.le j r hr⟩, h.2⟩
      have := h.1.phi
      unfold ongoing at this ⊢
      simp only [hna', Bool.false_eq_true, if_false, if_true] at this ⊢
      unfold durSince
      omega
    · exact h
  | _ => exact h

theorem good_evStep (e : TEvent) (he : e ≠ .blockingEnd) (b j : Nat) (a : Fw σ) (h : Good lo B c a) :
    Good lo B c (evStep ρ e b a j) := by
  have hA : Good lo B c (evAcct e b j a) := by
    cases e with
    | normalSent | paddingSent _ => exact good_modRt j _ (by intro _; rfl) a h
    | blockingEnd => exact absurd rfl he
    | _ => exact h
  exact good_transDec ρ hg j e.kind _ (evDec e j) hA

theorem good_processEvent (e : TEvent) (s : Fw σ) (h : Good lo B c s) : Good lo B c (processEvent ρ e s) := by
  rw [processEvent_eq]
  by_cases he : e = .blockingEnd
  · -- BlockingEnd adds the time blocked to every clock: the sums were bounded with it included
    subst he
    have hphi := h.1.phi
    have hong := h.1.ongoing_le
    rw [TEvent.blocked_blockingEnd]
    have hnot : ¬ (s.g.blockingDur + ongoing s.g > durMax) := by omega
    generalize hs1 : evGlobal .blockingEnd s = s1
    have hs1g : s1.g.now = s.g.now ∧ s1.g.blockingActive = false ∧ s1.g.blockingDur = s.g.blockingDur + ongoing s.g ∧
        s1.rt = s.rt ∧ s1.fault = s.fault := by
      subst hs1
      rw [evGlobal, TEvent.blocked_blockingEnd, if_neg hnot]
      cases ha : s.g.blockingActive
      · simp [ongoing, ha]
      · simp
    obtain ⟨e1, e2, e3, e4, e5⟩ := hs1g
    have hI0 : EndInv s1.g (ongoing s.g) 0 s1 := by
      refine ⟨rfl, by unfold NoDur; rw [e5]; exact h.2, fun j r hr => ⟨fun hj => absurd hj (Nat.not_lt_zero j), fun _ => ?_⟩⟩
      rw [e4] at hr
      have := h.1.le j r hr
      omega
    have hfit : s1.g.blockingDur ≤ durMax := by rw [e3]; omega
    refine good_of_endInv _ (ongoing s.g) s1 (fun k a hk => ?_) hI0 (by rw [e1]; exact h.1.nowLo)
      (by rw [e1]; exact h.1.nowHi) e2 (by rw [e3]; omega)
    exact endInv_transition ρ s1.g (ongoing s.g) k (k + 1) _ (endInv_bump s1.g (ongoing s.g) k a hk hfit) e2 hfit
  · exact good_fold _ (fun a j ha => good_evStep ρ hg e he _ j a ha) _ _ (good_evGlobal e he s h)

omit hg in
theorem good_setSignal (p : Option SignalTarget) (s : Fw σ) (h : Good lo B c s) :
    Good lo B c { s with signalPending := p } :=
  ⟨⟨h.1.nowLo, h.1.nowHi, h.1.stLo, h.1.phi, h.1.le⟩, h.2⟩

theorem good_signalRound (s : Fw σ) (h : Good lo B c s) : Good lo B c (signalRound ρ s) :=
  signalRound_rel ρ (R := fun a b => Good lo B c a → Good lo B c b) (fun _ h => h) (fun h₁ h₂ h => h₂ (h₁ h))
    (fun a p h => good_setSignal p a h) (fun a j h => good_transition ρ hg FUEL j .signal a h) s h

omit hg in
/-- the start of a call: the clock moves inside the window, the potential grows by at most `B` -/
theorem good_callStart (s : Fw σ) (t : Int) (ht : lo ≤ t ∧ t ≤ lo + B) (h : Good lo B c s) :
    Good lo B (c + 1) (s.callStart t) := by
  refine ⟨⟨ht.1, ht.2, h.1.stLo, ?_, fun j r hr => ?_⟩, h.2⟩
  · have hphi := h.1.phi
    have hong : ongoing (s.callStart t).g ≤ B := by
      have e : ongoing (s.callStart t).g = (if s.g.blockingActive then durSince t s.g.blockingStarted else 0) := rfl
      rw [e]
      by_cases ha : s.g.blockingActive = true
      · rw [if_pos ha]
        have := h.1.stLo ha
        unfold durSince
        omega
      · rw [if_neg ha]; omega
    have hbd : (s.callStart t).g.blockingDur = s.g.blockingDur := rfl
    rw [hbd, Nat.add_mul, Nat.one_mul]
    omega
  · obtain ⟨r0, h0, rfl⟩ := Fw.callStart_rt_some hr
    exact h.1.le j r0 h0

end

section
variable {lo : Int} {B : Nat}

theorem good_triggerEvents {c : Nat} (hg : (c + 1) * B + B ≤ durMax) (es : List TEvent) (t : Int)
    (ht : lo ≤ t ∧ t ≤ lo + B) (s : Fw σ) (h : Good lo B c s) :
    Good lo B (c + 1) (triggerEvents ρ es t s) := by
  unfold triggerEvents
  refine good_signalRound ρ hg _ ?_
  have h0 := good_callStart s t ht h
  generalize s.callStart t = a at h0
  induction es generalizing a with
  | nil => exact h0
  | cons e es ih => exact ih _ (good_processEvent ρ hg e a h0)

theorem good_runCalls (hist : List Call) (c : Nat) (hg : (c + hist.length) * B + B ≤ durMax)
    (ht : ∀ cl ∈ hist, lo ≤ cl.2 ∧ cl.2 ≤ lo + B) (s : Fw σ) (h : Good lo B c s) :
    Good lo B (c + hist.length) (runCalls ρ s hist) := by
  unfold runCalls
  induction hist generalizing c s with
  | nil => exact h
  | cons cl cs ih =>
    simp only [List.foldl_cons, List.length_cons]
    have hmono : (c + 1) * B + B ≤ durMax := by
      have : (c + 1) * B ≤ (c + (cs.length + 1)) * B := Nat.mul_le_mul_right B (by omega)
      simp only [List.length_cons] at hg
      omega
    have h1 := good_triggerEvents ρ hmono cl.1 cl.2 (ht cl (by simp)) s h
    have := ih (c + 1) (by simp only [List.length_cons] at hg; rw [show c + 1 + cs.length = c + (cs.length + 1) by omega]; exact hg)
      (fun x hx => ht x (by simp [hx])) _ h1
    rw [show c + (cs.length + 1) = c + 1 + cs.length by omega]
    exact this

theorem fo_initLimit (s : Fw σ) (mi : Nat) : FO s (initLimit ρ s mi) := by
  unfold initLimit
  split
  · exact fo_withFault_oob s
  · split
    · exact fo_withFault_oob s
    · split
      · exact FO.refl s
      · next a _ => exact (fo_rngLog (sampleLimit_spec ρ mi a s).1).trans (fo_modRt _ mi _)

theorem durInv_initLimit {c : Nat} (s : Fw σ) (mi : Nat) (h : DurInv lo B c s) : DurInv lo B c (initLimit ρ s mi) := by
  unfold initLimit
  split
  · exact h.ofFrame (Step.fault (mi := mi) _ _).frame
  · split
    · exact h.ofFrame (Step.fault (mi := mi) _ _).frame
    · split
      · exact h
      · next a _ =>
        exact (h.ofFrame (frame_of_rngLog mi (sampleLimit_spec ρ mi a s).1)).modRt mi _ (by intro _; rfl)

theorem good_init (ms : List Machine) (fp fb : F64) (t0 : Int) (rng : σ) (ht : lo ≤ t0 ∧ t0 ≤ lo + B) :
    Good lo B 0 (Fw.init ρ ms fp fb t0 rng) := by
  unfold Fw.init
  have h0 : Good lo B 0 (Fw.init0 ms fp fb t0 rng) := by
    refine ⟨⟨ht.1, ht.2, fun ha => by simp [Fw.init0] at ha, by simp [Fw.init0, ongoing], fun j r hr => ?_⟩,
      by simp [NoDur, Fw.init0]⟩
    simp only [Fw.init0, List.getElem?_map] at hr
    cases hm : ms[j]? with
    | none => rw [hm] at hr; cases hr
    | some m =>
      rw [hm] at hr
      simp only [Option.map_some, Option.some.injEq] at hr
      subst hr
      simp [Fw.init0]
  exact good_fold (initLimit ρ) (fun a j ha => ⟨durInv_initLimit ρ a j ha.1, (fo_initLimit ρ a j).noDur ha.2⟩) _ _ h0

/-- No duration overflow under a clock-span guard: if the start time and every call time lie
    in a window `[lo, lo + B]` and `(calls + 1) * B` fits a `Duration`, the run never raises the
    duration-overflow fault. -/
theorem noDur_run (ms : List Machine) (fp fb : F64) (t0 : Int) (rng : σ) (hist : List Call)
    (ht0 : lo ≤ t0 ∧ t0 ≤ lo + B) (ht : ∀ cl ∈ hist, lo ≤ cl.2 ∧ cl.2 ≤ lo + B)
    (hg : (hist.length + 1) * B ≤ durMax) :
    (runCalls ρ (Fw.init ρ ms fp fb t0 rng) hist).fault ≠ some .durOverflow := by
  have h := good_runCalls ρ hist 0 (by rw [Nat.zero_add]; rw [Nat.add_mul, Nat.one_mul] at hg; exact hg) ht _
    (good_init ρ ms fp fb t0 rng ht0)
  exact h.2

end

end Mb
