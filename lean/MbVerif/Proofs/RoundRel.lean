/-
  The steps of a call in closed form, and as relations: so that proofs about them need not unfold
  them. A delivery without a transition vector and the limit decrement are equations; the state
  change block is one of two frameworks; and `enterState`, the counter updates, `scheduleAction`
  and the signal round respect a reflexive and transitive relation as soon as the few primitive
  updates they are made of do.
-/
import MbVerif.Proofs.EventForm
import MbVerif.Proofs.LimitPred

namespace Mb
variable {σ : Type} (ρ : Oracle σ)

theorem transition_noVec (n mi : Nat) (ev : Event) (s : Fw σ) (r : Runtime) (m : Machine)
    (hr : s.rt[mi]? = some r) (hm : s.machines[mi]? = some m)
    (hnv : ∀ st vec, m.states[r.currentState]? = some st → st.transitions[ev.toNat]? ≠ some (some vec)) :
    (transition ρ (n + 1) mi ev s).1 = s.push (.trans mi ev.toNat r.currentState) ∨
    (transition ρ (n + 1) mi ev s).1 = (s.push (.trans mi ev.toNat r.currentState)).withFault .oob := by
  rw [transition, hr, hm]
  by_cases hne : r.currentState = STATE_END
  · simp only [hne, if_true, true_or]
  · cases hst : m.states[r.currentState]? with
    | none => simp only [hne, if_false, hst, or_true]
    | some st =>
      cases htr : st.transitions[ev.toNat]? with
      | none => simp only [hne, if_false, hst, htr, or_true]
      | some ov =>
        cases ov with
        | none => simp only [hne, if_false, hst, htr, true_or]
        | some vec => exact absurd htr (hnv st vec hst)

theorem decrementLimit_oob (j : Nat) (s : Fw σ) (h : s.rt[j]? = none ∨ s.machines[j]? = none) :
    decrementLimit ρ j s = s.withFault .oob := by
  unfold decrementLimit
  rcases h with h | h
  · rw [h]
  · rw [h]; cases s.rt[j]? <;> rfl

theorem decrementLimit_some (j : Nat) (s : Fw σ) (r : Runtime) (m : Machine) (hr : s.rt[j]? = some r)
    (hm : s.machines[j]? = some m) :
    decrementLimit ρ j s =
      let s1 := (s.modRt j (fun r' => { r' with stateLimit := r.stateLimit - 1 })).push (.limit j (r.stateLimit - 1) true)
      match m.states[r.currentState]? with
      | none => s1.withFault .oob
      | some st =>
        match st.action with
        | none => s1
        | some a =>
          if (decide (r.stateLimit - 1 = 0) && a.hasLimit) = true then
            if j ≥ s1.actions.length then s1.withFault .oob
            else (transition ρ FUEL j .limitReached { s1 with actions := s1.actions.set j none }).1
          else s1 := by
  unfold decrementLimit
  rw [hr, hm]
  simp only []
  rw [show (if r.stateLimit > 0 then r.stateLimit - 1 else r.stateLimit) = r.stateLimit - 1 by split <;> omega]
  rfl

theorem decrementLimit_cases (j : Nat) (s : Fw σ) :
    decrementLimit ρ j s = s.withFault .oob ∨
    ∃ r, s.rt[j]? = some r ∧
      ∀ s1, s1 = (s.modRt j (fun r' => { r' with stateLimit := r.stateLimit - 1 })).push (.limit j (r.stateLimit - 1) true) →
        decrementLimit ρ j s = s1.withFault .oob ∨ decrementLimit ρ j s = s1 ∨
        (j < s1.actions.length ∧
          decrementLimit ρ j s = (transition ρ FUEL j .limitReached { s1 with actions := s1.actions.set j none }).1) := by
  cases hr : s.rt[j]? with
  | none => exact Or.inl (decrementLimit_oob ρ j s (Or.inl hr))
  | some r =>
  cases hm : s.machines[j]? with
  | none => exact Or.inl (decrementLimit_oob ρ j s (Or.inr hm))
  | some m =>
  refine Or.inr ⟨r, rfl, fun s1 hs1 => ?_⟩
  rw [decrementLimit_some ρ j s r m hr hm]
  simp only []
  rw [← hs1]
  cases m.states[r.currentState]? with
  | none => exact Or.inl rfl
  | some st =>
  simp only []
  cases st.action with
  | none => exact Or.inr (Or.inl rfl)
  | some a =>
    simp only []
    by_cases hc : (decide (r.stateLimit - 1 = 0) && a.hasLimit) = true
    · by_cases hlen : j ≥ s1.actions.length
      · simp only [if_pos hc, if_pos hlen, true_or]
      · simp only [if_pos hc, if_neg hlen, Nat.not_le.mp hlen, and_self, or_true]
    · simp only [if_neg hc, true_or, or_true]

theorem decrementLimit_eq (mi : Nat) (s : Fw σ) (r : Runtime) (m : Machine) (st : State)
    (hr : s.rt[mi]? = some r) (hm : s.machines[mi]? = some m) (hst : m.states[r.currentState]? = some st)
    (hlen : mi < s.actions.length) :
    let lim := r.stateLimit - 1
    let s1 := (s.modRt mi (fun r' => { r' with stateLimit := lim })).push (.limit mi lim true)
    decrementLimit ρ mi s =
      match st.action with
      | none => s1
      | some a =>
        if lim = 0 ∧ a.hasLimit = true then
          (transition ρ FUEL mi .limitReached { s1 with actions := s1.actions.set mi none }).1
        else s1 := by
  rw [decrementLimit_some ρ mi s r m hr hm, hst]
  simp only []
  cases st.action with
  | none => rfl
  | some a =>
    simp only [Bool.and_eq_true, decide_eq_true_eq]
    rw [if_neg (Nat.not_le.mpr (by simpa using hlen))]

theorem enterState_self (mi : Nat) (m : Machine) (cur : Nat) (s : Fw σ) : enterState ρ mi m cur cur s = s :=
  if_neg (fun h => h rfl)

theorem enterState_ne {cur next : Nat} (h : cur ≠ next) (mi : Nat) (m : Machine) (s : Fw σ) :
    enterState ρ mi m cur next s = (s.modRt mi (fun r => { r with currentState := next })).withFault .oob ∨
    ∃ (s1 : Fw σ) (v : Nat),
      (s1 = s.modRt mi (fun r => { r with currentState := next }) ∨
        ∃ a, s1 = (sampleLimit ρ a (s.modRt mi (fun r => { r with currentState := next }))).2) ∧
      enterState ρ mi m cur next s = (s1.modRt mi (fun r => { r with stateLimit := v })).push (.limit mi v false) := by
  unfold enterState
  rw [if_pos h]
  simp only
  cases m.states[next]? with
  | none => exact Or.inl rfl
  | some nst =>
    simp only []
    cases nst.action with
    | none => exact Or.inr ⟨_, _, Or.inl rfl, rfl⟩
    | some a => exact Or.inr ⟨_, _, Or.inr ⟨a, rfl⟩, rfl⟩

section
variable {R : Fw σ → Fw σ → Prop} (hrefl : ∀ s, R s s) (htrans : ∀ {s t u}, R s t → R t u → R s u)
  (hsample : ∀ d s, R s (distSample ρ d s).2)
include hrefl hsample

theorem sampleLimit_rel (a : Action) (s : Fw σ) : R s (sampleLimit ρ a s).2 := by
  unfold sampleLimit; split
  · exact hrefl s
  · exact hsample _ s

theorem sampleValue_rel (c : Counter) (s : Fw σ) : R s (sampleValue ρ c s).2 := by
  unfold sampleValue; split
  · exact hrefl s
  · exact hsample _ s

theorem sampleTimeout_rel (a : Action) (s : Fw σ) : R s (sampleTimeout ρ a s).2 := by
  unfold sampleTimeout; split
  · exact hsample _ s
  · exact hsample _ s
  · exact hrefl s

theorem sampleDuration_rel (a : Action) (s : Fw σ) : R s (sampleDuration ρ a s).2 := by
  unfold sampleDuration; split
  · exact hsample _ s
  · exact hsample _ s
  · exact hrefl s

include htrans
variable (mi : Nat)

theorem enterState_rel_tail (hoob : ∀ s, R s (s.withFault .oob))
    (hlimit : ∀ s l, R s ((s.modRt mi (fun r => { r with stateLimit := l })).push (.limit mi l false)))
    (m : Machine) {cur next : Nat} (h : cur ≠ next) (s : Fw σ) :
    R (s.modRt mi (fun r => { r with currentState := next })) (enterState ρ mi m cur next s) := by
  rcases enterState_ne ρ h mi m s with e | ⟨s1, v, hs1, e⟩ <;> rw [e]
  · exact hoob _
  · refine htrans ?_ (hlimit s1 v)
    rcases hs1 with rfl | ⟨a, rfl⟩
    · exact hrefl _
    · exact sampleLimit_rel ρ hrefl hsample a _

theorem enterState_rel (hoob : ∀ s, R s (s.withFault .oob))
    (hstate : ∀ s x, R s (s.modRt mi (fun r => { r with currentState := x })))
    (hlimit : ∀ s l, R s ((s.modRt mi (fun r => { r with stateLimit := l })).push (.limit mi l false)))
    (m : Machine) (cur next : Nat) (s : Fw σ) : R s (enterState ρ mi m cur next s) := by
  by_cases h : cur = next
  · rw [h, enterState_self]; exact hrefl s
  · exact htrans (hstate s next) (enterState_rel_tail ρ hrefl htrans hsample mi hoob hlimit m h s)

theorem applyCounter_rel
    (hmod : ∀ s (f : Runtime → Runtime),
      (∀ r, f r = { r with counterA := (f r).counterA, counterB := (f r).counterB, zeroedA := (f r).zeroedA,
                           zeroedB := (f r).zeroedB }) → R s (s.modRt mi f)) :
    (∀ c oldA oldB (s : Fw σ), R s (applyCounterA ρ mi c oldA oldB s).1) ∧
    (∀ c oldA oldB (s : Fw σ), R s (applyCounterB ρ mi c oldA oldB s).1) := by
  have hop : ∀ (c : Counter) other (s : Fw σ), R s (counterOperand ρ c other s).2 := by
    intro c other s
    unfold counterOperand; split
    · exact hrefl s
    · exact sampleValue_rel ρ hrefl hsample c s
  have hA : ∀ old new (s : Fw σ), R s (storeCounterA mi old new s).1 := by
    intro old new s
    unfold storeCounterA
    simp only
    split
    · exact htrans (hmod s _ (by intro _; rfl)) (hmod _ _ (by intro _; rfl))
    · exact hmod s _ (by intro _; rfl)
  have hB : ∀ old new (s : Fw σ), R s (storeCounterB mi old new s).1 := by
    intro old new s
    unfold storeCounterB
    simp only
    split
    · exact htrans (hmod s _ (by intro _; rfl)) (hmod _ _ (by intro _; rfl))
    · exact hmod s _ (by intro _; rfl)
  constructor
  · intro c oldA oldB s
    unfold applyCounterA
    cases c with
    | none => exact hrefl s
    | some c => exact htrans (hop c oldB s) (hA _ _ _)
  · intro c oldA oldB s
    unfold applyCounterB
    cases c with
    | none => exact hrefl s
    | some c => exact htrans (hop c oldA s) (hB _ _ _)

theorem scheduleAction_rel (hoob : ∀ s, R s (s.withFault .oob))
    (hset : ∀ s a, R s { s with actions := s.actions.set mi a }) (next : Nat) (s : Fw σ) :
    R s (scheduleAction ρ mi next s) := by
  rw [scheduleAction_eq]
  cases s.machines[mi]? with
  | none => exact hoob s
  | some m =>
  simp only []
  cases m.states[next]? with
  | none => exact hoob s
  | some st =>
  simp only []
  refine ite_ind (R s) (fun _ => hoob s) (fun _ => ?_)
  cases st.action with
  | none => exact hset s _
  | some act =>
    exact htrans (htrans (sampleTimeout_rel ρ hrefl hsample act s) (sampleDuration_rel ρ hrefl hsample act _)) (hset _ _)

end

theorem signalRound_rel {R : Fw σ → Fw σ → Prop} (hrefl : ∀ s, R s s)
    (htrans : ∀ {s t u}, R s t → R t u → R s u)
    (hsig : ∀ s p, R s { s with signalPending := p })
    (hdel : ∀ s j, R s (transition ρ FUEL j .signal s).1) (s : Fw σ) : R s (signalRound ρ s) := by
  have hfold : ∀ (excluded : Option Nat) (l : List Nat) (a : Fw σ),
      R a (l.foldl (fun s j => if (excluded == some j) = true then s else (transition ρ FUEL j .signal s).1) a) := by
    intro excluded l
    induction l with
    | nil => exact hrefl
    | cons j l ih =>
      intro a
      refine htrans (?_ : R a (if (excluded == some j) = true then a else (transition ρ FUEL j .signal a).1)) (ih _)
      split
      · exact hrefl a
      · exact hdel a j
  unfold signalRound
  split
  · exact hrefl s
  · next sig _ =>
    cases sig with
    | all =>
      simp only []
      refine htrans (htrans (hsig s none) (hfold none (List.range s.rt.length) { s with signalPending := none })) ?_
      split
      · exact hrefl _
      · exact hsig _ none
    | allExcept x =>
      simp only []
      refine htrans (htrans (hsig s none) (hfold (some x) (List.range s.rt.length) { s with signalPending := none })) ?_
      split
      · exact hrefl _
      · exact htrans (hsig _ none) (hdel _ x)

end Mb
