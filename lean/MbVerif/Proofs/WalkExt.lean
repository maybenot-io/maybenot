/-
  A variant of the generic walker of `Walk.lean` for relations that only contain the transitions a
  call delivers FROM OUTSIDE: every event except CounterZero (delivered by `update_counter`) and
  LimitReached (delivered by `decrement_limit`). Needed for properties about the ORDER of log
  entries in which a LimitReached delivery may only come directly after a limit decrement.
-/
import MbVerif.Proofs.Walk

namespace Mb
variable {σ : Type} (ρ : Oracle σ)

/-- `WalkCore` for the transitions delivered from outside only -/
structure WalkCoreX (R : Fw σ → Fw σ → Prop) : Prop where
  refl : ∀ s, R s s
  trans : ∀ {s t u}, R s t → R t u → R s u
  /-- for the events a call delivers from outside (CounterZero is only ever delivered from within
      `update_counter`, LimitReached from within `decrement_limit`) -/
  transition : ∀ (j : Nat) (ev : Event) (s : Fw σ), ev ≠ .counterZero → ev ≠ .limitReached → R s (transition ρ FUEL j ev s).1
  decrement : ∀ (j : Nat) (s : Fw σ), notEnded s j = true → R s (decrementLimit ρ j s)
  fault : ∀ (s : Fw σ) (f : Fault), R s (s.withFault f)
  signal : ∀ (s : Fw σ) (p : Option SignalTarget), R s { s with signalPending := p }

/-- `WalkEv` for the transitions delivered from outside only -/
structure WalkEvX (R : Fw σ → Fw σ → Prop) : Prop extends WalkCoreX ρ R where
  setG : ∀ (s : Fw σ) (g' : Globals), R s { s with g := g' }
  acct : ∀ (s : Fw σ) (j : Nat) (f : Runtime → Runtime),
    (∀ r, f r = { r with acct := (f r).acct }) → R s (s.modRt j f)

namespace WalkCoreX
variable {ρ} {R : Fw σ → Fw σ → Prop} (W : WalkCoreX ρ R)
include W

theorem foldl {α : Type} (f : Fw σ → α → Fw σ) (hf : ∀ s a, R s (f s a)) (l : List α) (s : Fw σ) :
    R s (l.foldl f s) := foldl_rel W.refl W.trans f l (fun s a _ => hf s a) s

theorem signalRound (s : Fw σ) : R s (signalRound ρ s) :=
  signalRound_rel ρ W.refl W.trans W.signal
    (fun s j => W.transition j .signal s (by decide) (by decide)) s

end WalkCoreX

namespace WalkEvX
variable {ρ} {R : Fw σ → Fw σ → Prop} (W : WalkEvX ρ R)
include W

theorem processEvent (e : TEvent) (s : Fw σ) : R s (processEvent ρ e s) :=
  processEvent_walk ρ W.refl W.trans
    (fun j e s => W.transition j e.kind s e.kind_outside.1 e.kind_outside.2.1)
    W.decrement W.fault W.setG W.acct e s

end WalkEvX

end Mb
