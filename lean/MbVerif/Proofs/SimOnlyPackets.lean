/-
  C14, "and nothing else": without machines every event the main loop processes is one of the
  four packet events (NormalSent, TunnelSent, TunnelRecv, NormalRecv) without padding, bypass or
  replace flag — no PaddingSent, no blocking, no timers.
-/
import MbVerif.Proofs.SimRun
import MbVerif.Proofs.SimCausal
import MbVerif.Proofs.SimNoMachines
import MbVerif.Proofs.SimLoopInd
import MbVerif.Proofs.SimWalk
import MbVerif.Spec.C14

namespace Mb.Sim
open Mb

/-- a plain packet event -/
def pktOK (e : SimEvent) : Bool :=
  !e.containsPadding && !e.bypass && !e.replace &&
    (e.event == .normalSent || e.event == .tunnelSent || e.event == .tunnelRecv || e.event == .normalRecv)

def notPkt (e : SimEvent) : Bool := !pktOK e

/-- `C14.onlyPackets` asks `pktOK` of every event -/
theorem onlyPackets_eq (tr : List SimEvent) : C14.onlyPackets tr = tr.all pktOK := rfl

theorem pktOK_event {e : SimEvent} (h : pktOK e = true) :
    e.event = .normalSent ∨ e.event = .tunnelSent ∨ e.event = .tunnelRecv ∨ e.event = .normalRecv := by
  simp only [pktOK, Bool.and_eq_true, Bool.or_eq_true, beq_iff_eq] at h
  rcases h.2 with ((h | h) | h) | h
  · exact Or.inl h
  · exact Or.inr (Or.inl h)
  · exact Or.inr (Or.inr (Or.inl h))
  · exact Or.inr (Or.inr (Or.inr h))

theorem pktOK_pad {e : SimEvent} (h : pktOK e = true) : e.containsPadding = false := by
  simp only [pktOK, Bool.and_eq_true, Bool.not_eq_true'] at h
  exact h.1.1.1

section
variable {σ : Type} (ρ : Oracle σ)

/-- the state of a simulation without machines, side by side (`c` client, `s` server): the
    framework holds nothing (`q`), no scheduled action (`a`), no internal timer (`t`), no blocking
    (`b`), no framework fault (`f`); and only plain packets are queued (`pk`) -/
structure NoMach (st : St σ) : Prop where
  qc : Quiet st.client.fw
  qs : Quiet st.server.fw
  ac : ∀ a, some a ∉ st.client.schedAction
  as : ∀ a, some a ∉ st.server.schedAction
  tc : ∀ t, some t ∉ st.client.schedTimer
  ts : ∀ t, some t ∉ st.server.schedTimer
  bc : st.client.blockingUntil = none
  bs : st.server.blockingUntil = none
  fc : st.client.fw.fault = none
  fs : st.server.fw.fault = none
  pk : tcount notPkt st.sq = 0

/-- without machines nothing but the queue and the aggregate delays is pending -/
theorem NoMach.offsets {st : St σ} (hn : NoMach st) :
    st.actOff = durMax ∧ st.timOff = durMax ∧ st.blkExp = (durMax, true) :=
  ⟨peekScheduledAction_none hn.ac hn.as, peekScheduledInternalTimer_none hn.tc hn.ts, by
    unfold St.blkExp; rw [hn.bc, hn.bs]; rfl⟩

theorem NoMach.passes {st : St σ} (hn : NoMach st) (pk : SimEvent) : st.passes pk = true := by
  unfold St.passes St.side
  cases pk.client <;> simp [hn.bc, hn.bs]

theorem NoMach.of_sq {st st' : St σ} (hn : NoMach st) (hc : st'.client = st.client) (hs : st'.server = st.server)
    (hp : tcount notPkt st'.sq = 0) : NoMach st' :=
  ⟨hc ▸ hn.qc, hs ▸ hn.qs, hc ▸ hn.ac, hs ▸ hn.as, hc ▸ hn.tc, hs ▸ hn.ts, hc ▸ hn.bc, hs ▸ hn.bs, hc ▸ hn.fc, hs ▸ hn.fs, hp⟩

/-- without machines `pick_next` only ever serves the queue (or a pending aggregate delay) -/
theorem pickDecide_nomach {st : St σ} (hn : NoMach st) {p : Pick} (h : pickDecide st = .ok p) :
    p = .nothing ∨ p = .agg ∨ ∃ q qid c, p = .queue q qid c := by
  obtain ⟨r, hr, hp⟩ := pickDecide_ok_iff.1 h
  obtain ⟨hs, hi, hb⟩ := hn.offsets
  have hq := peekQueue_le (q := r.1) (qid := r.2.1) (c := r.2.2) hr
  cases p with
  | nothing => exact Or.inl rfl
  | agg => exact Or.inr (Or.inl rfl)
  | queue q qid c => exact Or.inr (Or.inr ⟨q, qid, c, rfl⟩)
  | timer i => have := Pick.choose_timer hp; omega
  | action s => have := Pick.choose_action hp; omega
  | blockExp b c =>
    obtain ⟨h1, h2, _⟩ := Pick.choose_blockExp hp
    rw [hb] at h1
    cases h1
    have hn : st.aggOff ≤ durMax := by
      unfold St.aggOff Bottleneck.peekAggregateDelay
      split
      · exact dsince_le' _ _
      · exact Nat.le_refl _
    omega

theorem pktOK_of_same {e hd : SimEvent} (h : sameButTime e hd) (hp : pktOK hd = true) : pktOK e = true := by
  unfold pktOK at *
  rw [h.1, h.2.2.1, h.2.2.2.1, h.2.2.2.2]; exact hp

/-- `pick_next` without machines: the returned event is a plain packet popped from the queue,
    and the state stays machine-free -/
theorem pickNext_nomach : ∀ (fuel : Nat) (st st' : St σ) (e : SimEvent), NoMach st →
    pickNext fuel st = some (.ok (some e, st')) → NoMach st' ∧ pktOK e = true := by
  intro fuel st st' e hn h
  refine pickNext_ok_induct (motive := fun st o st' => NoMach st → ∀ e, o = some e → NoMach st' ∧ pktOK e = true)
    ?_ ?_ ?_ ?_ ?_ ?_ fuel st st' _ h hn e rfl
  · intro st _ _ e h; cases h
  · intro st st1 o st' _ ha ih hn
    obtain ⟨_, net, _, rfl⟩ := pickAgg_ok_iff.1 ha
    exact ih (hn.of_sq rfl rfl hn.pk)
  · intro st b c e st' hd _ hn
    rcases pickDecide_nomach hn hd with h | h | ⟨_, _, _, h⟩ <;> cases h
  · intro st q qid c e st' _ hq hn e' he
    cases he
    obtain ⟨tmp, sq, hr, rfl, rfl⟩ := pickQueue_ok_iff.1 hq
    obtain ⟨hd', hc, hsame, _⟩ := simQueue_pop_tcount notPkt hr
    have hz := hn.pk
    have hbad : notPkt hd' = false := by
      cases hb : notPkt hd' with
      | false => rfl
      | true => rw [hb] at hc; simp [b2n] at hc; omega
    rw [hbad] at hc
    exact ⟨hn.of_sq rfl rfl (show tcount notPkt sq = 0 by simp only [b2n] at hc; omega),
      pktOK_of_same (e := tmp) hsame (by simpa [notPkt] using hbad)⟩
  · intro st st1 i o st' hd _ _ hn
    rcases pickDecide_nomach hn hd with h | h | ⟨_, _, _, h⟩ <;> cases h
  · intro st st1 s o st' hd _ _ hn
    rcases pickDecide_nomach hn hd with h | h | ⟨_, _, _, h⟩ <;> cases h
end
theorem simNetworkStack_pkt {next : SimEvent} {sq sq' : SimQueue} {byp : Bool} {net net' : Bottleneck}
    {now : Int} {na : Bool} (hok : pktOK next = true) (hz : tcount notPkt sq = 0)
    (h : simNetworkStack next sq byp net now = .ok (na, sq', net')) : tcount notPkt sq' = 0 := by
  unfold simNetworkStack at h
  split at h
  · cases h
    rw [pushSim_tcount, hz]; rfl
  · rename_i m hev
    simp [pktOK, hev] at hok
  · rename_i hev
    rw [map_ok_iff] at h
    obtain ⟨⟨sq1, net1⟩, h1, h2⟩ := h
    cases h2
    obtain ⟨t, hq, _⟩ := netTunnelSent_spec h1
    have hpad := pktOK_pad hok
    rw [hq, pushSim_tcount, hz, hpad]; rfl
  · rename_i hev
    have hpad := pktOK_pad hok
    simp only [hpad, Bool.false_eq_true, if_false] at h
    cases h
    rw [pushSim_tcount, hz]; rfl
  · cases h; exact hz

theorem pushAll_tcount (P : SimEvent → Bool) : ∀ (l : List SimEvent) (sq : SimQueue),
    tcount P (pushAll sq l) = tcount P sq + l.countP P := by
  intro l
  induction l with
  | nil => intro sq; rfl
  | cons a r ih =>
    intro sq
    show tcount P (pushAll (sq.pushSim a) r) = _
    rw [ih, pushSim_tcount, List.countP_cons]
    unfold b2n; split <;> omega

theorem tcount_congr (P : SimEvent → Bool) {a b : SimQueue} (h1 : a.client = b.client) (h2 : a.server = b.server) :
    tcount P a = tcount P b := by
  unfold tcount; rw [h1, h2]

theorem parseTrace_tcount (P : SimEvent → Bool) (trace : List TraceLine) (delay : Nat) :
    tcount P (parseTrace trace delay) = (trace.map (nsOf delay)).countP P := by
  rw [tcount_congr _ (parseTrace_sides trace delay).1 (parseTrace_sides trace delay).2, pushAll_tcount]
  exact Nat.zero_add _

section
variable {σ : Type} (ρ : Oracle σ)

theorem triggerUpdate_nomach {st st' : St σ} {next : SimEvent} {acts : List TAction} (hn : NoMach st)
    (h : triggerUpdate ρ st next = .ok (acts, st')) : NoMach st' := by
  have hq : Quiet (st.side next.client).fw := by
    cases next.client
    · exact hn.qs
    · exact hn.qc
  have ht : Quiet (trigFw ρ st next) ∧ (trigFw ρ st next).rng = st.orc ∧ (trigFw ρ st next).actionsOut = [] :=
    triggerEvents_quiet ρ [next.event] st.now _ hq
  obtain ⟨hf, rfl, sd, sq, happ, rfl⟩ := (triggerUpdate_ok_iff ρ).1 h
  rw [ht.2.2] at happ
  cases happ
  cases hc : next.client
  · exact ⟨hn.qc, by simpa [St.setSide, St.side, hc] using ht.1, hn.ac, by simpa [St.setSide, St.side, hc] using hn.as,
             hn.tc, by simpa [St.setSide, St.side, hc] using hn.ts, hn.bc, by simpa [St.setSide, St.side, hc] using hn.bs,
             hn.fc, by simpa [St.setSide, St.side, hc] using hf, by simpa using hn.pk⟩
  · exact ⟨by simpa [St.setSide, St.side, hc] using ht.1, hn.qs, by simpa [St.setSide, St.side, hc] using hn.ac, hn.as,
             by simpa [St.setSide, St.side, hc] using hn.tc, hn.ts, by simpa [St.setSide, St.side, hc] using hn.bc, hn.bs,
             by simpa [St.setSide, St.side, hc] using hf, hn.fs, by simpa using hn.pk⟩

theorem step_nomach {st st' : St σ} {r : StepRec} (hn : NoMach st) (h : step ρ st = .ok (some (r, st'))) :
    NoMach st' ∧ pktOK r.ev = true := by
  obtain ⟨st1, sq, net, hp, -, hs, ht⟩ := (step_some_iff ρ).1 h
  have h1 := pickNext_nomach _ _ _ _ hn hp
  exact ⟨triggerUpdate_nomach ρ (st := { st1 with now := _, sq := sq, net := net })
    (h1.1.of_sq rfl rfl (simNetworkStack_pkt h1.2 h1.1.pk hs)) ht, h1.2⟩

theorem loop_nomach (args : Args) : ∀ (fuel : Nat) (st : St σ) (iters cnt : Nat), NoMach st →
    ∀ r ∈ (loop ρ args fuel st iters cnt).stream, pktOK r.ev = true :=
  fun fuel st iters cnt hn =>
    (loop_inv_final ρ args (I := NoMach) (R := fun r => pktOK r.ev = true)
      (fun _ _ _ hn hs => step_nomach ρ hn hs) fuel st iters cnt hn).2

theorem initState_nomach {trace : List TraceLine} {delay : Nat} {a : Args} {orc : σ} {st : St σ}
    (h : initState ρ [] [] (parseTrace trace delay) a orc = .ok st) : NoMach st := by
  obtain ⟨t0, c, o1, s, o2, net, -, hc, hs, -, rfl⟩ := (initState_ok_iff ρ).1 h
  have side : ∀ (t0 : Int) (fp fb : F64) (o : σ) (sd : Side σ) (o' : σ), Side.new ρ [] t0 fp fb o = .ok (sd, o') →
      Quiet sd.fw ∧ sd.schedAction = [] ∧ sd.schedTimer = [] ∧ sd.blockingUntil = none ∧ sd.fw.fault = none := by
    intro t0 fp fb o sd o' hh
    unfold Side.new at hh
    split at hh
    · cases hh
    · simp only [] at hh
      split at hh
      · cases hh
      · rename_i hf
        cases hh
        exact ⟨(init_quiet ρ fp fb t0 o).1, rfl, rfl, rfl, hf⟩
  obtain ⟨c1, c2, c3, c4, c5⟩ := side _ _ _ _ _ _ hc
  obtain ⟨s1, s2, s3, s4, s5⟩ := side _ _ _ _ _ _ hs
  refine ⟨c1, s1, by simp [c2], by simp [s2], by simp [c3], by simp [s3], c4, s4, c5, s5, ?_⟩
  -- the parsed queue holds only NormalSent events
  show tcount notPkt (parseTrace trace delay) = 0
  rw [parseTrace_tcount, List.countP_eq_zero]
  intro e he
  obtain ⟨l, _, rfl⟩ := List.mem_map.1 he
  unfold nsOf; cases l.2 <;> simp [notPkt, pktOK]

/-- every iteration of a run without machines on a parsed trace processes a plain packet event -/
theorem simAdvanced_nomach (budget : Nat) (trace : List TraceLine) (delay : Nat) (a : Args) (orc : σ) :
    ∀ r ∈ (simAdvanced ρ budget [] [] (parseTrace trace delay) a orc).stream, pktOK r.ev = true := by
  unfold simAdvanced
  cases hi : initState ρ [] [] (parseTrace trace delay) a orc with
  | error f => exact fun _ h => nomatch h
  | ok st =>
    simp only [finish_stream]
    exact loop_nomach ρ a _ st 0 0 (initState_nomach ρ hi)

end
end Mb.Sim
