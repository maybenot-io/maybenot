/-
  `pick_next` and its branches never touch the clock, and the event it returns is not before it.
-/
import MbVerif.Proofs.SimPick

namespace Mb.Sim
open Mb

section
variable {σ : Type}

@[simp] theorem setSide_now (st : St σ) (c : Bool) (x : Side σ) : (st.setSide c x).now = st.now := by
  unfold St.setSide; split <;> rfl

@[simp] theorem setSide_net (st : St σ) (c : Bool) (x : Side σ) : (st.setSide c x).net = st.net := by
  unfold St.setSide; split <;> rfl

@[simp] theorem setSide_sq (st : St σ) (c : Bool) (x : Side σ) : (st.setSide c x).sq = st.sq := by
  unfold St.setSide; split <;> rfl

@[simp] theorem setSide_orc (st : St σ) (c : Bool) (x : Side σ) : (st.setSide c x).orc = st.orc := by
  unfold St.setSide; split <;> rfl

theorem pickAgg_now {st st' : St σ} (h : pickAgg st = .ok st') : st'.now = st.now := by
  obtain ⟨_, net, _, rfl⟩ := pickAgg_ok_iff.1 h
  rfl

theorem pickBlockExp_now {st st' : St σ} {b : Nat} {c : Bool} {e : SimEvent}
    (h : pickBlockExp st b c = .ok (e, st')) : st'.now = st.now := by
  obtain ⟨net, _, _, rfl⟩ := pickBlockExp_ok_iff.1 h
  exact setSide_now _ _ _

theorem pickBlockExp_ev {st st' : St σ} {b : Nat} {c : Bool} {e : SimEvent}
    (h : pickBlockExp st b c = .ok (e, st')) : e = ⟨.blockingEnd, st.now + b, c, false, false, false⟩ := by
  obtain ⟨net, _, he, _⟩ := pickBlockExp_ok_iff.1 h
  exact he

theorem pickQueue_now {st st' : St σ} {q : Nat} {qid : Queue} {c : Bool} {e : SimEvent}
    (h : pickQueue st q qid c = .ok (e, st')) : st'.now = st.now := by
  obtain ⟨tmp, sq, _, _, rfl⟩ := pickQueue_ok_iff.1 h
  rfl

theorem pickQueue_time {st st' : St σ} {q : Nat} {qid : Queue} {c : Bool} {e : SimEvent}
    (h : pickQueue st q qid c = .ok (e, st')) : st.now + q ≤ e.time := by
  obtain ⟨tmp, sq, _, rfl, _⟩ := pickQueue_ok_iff.1 h
  exact Int.le_max_right _ _

theorem doInternalTimer_now {st st' : St σ} {t : Int} {e : SimEvent}
    (h : doInternalTimer st t = .ok (e, st')) : st'.now = st.now := by
  obtain ⟨c, i, t', _, _, rfl⟩ := doInternalTimer_ok h
  exact setSide_now _ _ _

theorem doScheduledAction_now {st st' : St σ} {t : Int} {e : SimEvent}
    (h : doScheduledAction st t = .ok (e, st')) : st'.now = st.now := by
  obtain ⟨c, i, a, sd, _, rfl, _⟩ := doScheduledAction_ok h
  exact setSide_now _ _ _

theorem pickTimer_now {st st' : St σ} {i : Nat} (h : pickTimer st i = .ok st') : st'.now = st.now := by
  obtain ⟨ev, st1, h1, rfl⟩ := pickTimer_ok_iff.1 h
  exact (doInternalTimer_now h1 :)

theorem pickAction_now {st st' : St σ} {s : Nat} (h : pickAction st s = .ok st') : st'.now = st.now := by
  obtain ⟨ev, st1, h1, rfl⟩ := pickAction_ok_iff.1 h
  exact (doScheduledAction_now h1 :)

theorem pickNext_now : ∀ (fuel : Nat) (st st' : St σ) (e : Option SimEvent),
    pickNext fuel st = some (.ok (e, st')) → st'.now = st.now :=
  pickNext_ok_induct (motive := fun st _ st' => st'.now = st.now)
    (fun _ _ => rfl) (fun _ _ _ _ _ ha ih => ih.trans (pickAgg_now ha)) (fun _ _ _ _ _ _ hb => pickBlockExp_now hb)
    (fun _ _ _ _ _ _ _ hq => pickQueue_now hq) (fun _ _ _ _ _ _ ht ih => ih.trans (pickTimer_now ht))
    (fun _ _ _ _ _ _ ha ih => ih.trans (pickAction_now ha))

theorem pickNext_time_ge : ∀ (fuel : Nat) (st st' : St σ) (e : SimEvent),
    pickNext fuel st = some (.ok (some e, st')) → st.now ≤ e.time := by
  intro fuel st st' e h
  refine pickNext_ok_induct (motive := fun st e _ => ∀ e', e = some e' → st.now ≤ e'.time)
    ?_ ?_ ?_ ?_ ?_ ?_ fuel st st' _ h e rfl
  · intro st _ e' h; cases h
  · intro st st1 e st' _ ha ih e' he; rw [← pickAgg_now ha]; exact ih e' he
  · intro st b c e st' _ hb e' he
    cases he
    rw [pickBlockExp_ev hb]
    exact Int.le_add_of_nonneg_right (Int.natCast_nonneg b)
  · intro st q qid c e st' _ hq e' he
    cases he
    exact Int.le_trans (Int.le_add_of_nonneg_right (Int.natCast_nonneg q)) (pickQueue_time hq)
  · intro st st1 i e st' _ ht ih e' he; rw [← pickTimer_now ht]; exact ih e' he
  · intro st st1 s e st' _ ha ih e' he; rw [← pickAction_now ha]; exact ih e' he

end
end Mb.Sim
