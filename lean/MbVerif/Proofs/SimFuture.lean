/-
  Trace-level liveness of C17 / C18: in every reachable state all pending action timers and
  internal timers are at or after the clock ("simulated time never moves past a pending
  timer"), because the event `pick_next` returns is never later than any of them.
-/
import MbVerif.Proofs.SimLive
import MbVerif.Proofs.SimWalk

namespace Mb.Sim
open Mb

theorem peekBlocking_head (sq : SimQueue) (byp c : Bool) :
    (sq.peekBlocking byp c).1 = ((sq.side c).heap (sq.peekBlocking byp c).2).peek := by
  unfold SimQueue.peekBlocking EventQueue.peekBlockingSide
  cases byp with
  | true => simp [EventQueue.heap]
  | false =>
    simp only [Bool.false_eq_true, if_false]
    split <;> simp [EventQueue.heap]

theorem peekNonBlocking_head (sq : SimQueue) (byp c : Bool) (ds : Nat) :
    (sq.peekNonBlocking byp c ds).1 = ((sq.side c).heap (sq.peekNonBlocking byp c ds).2).peek := by
  have hinner : ((sq.side c).peekNonBlocking ds).1 = ((sq.side c).heap ((sq.side c).peekNonBlocking ds).2).peek := by
    unfold EventQueue.peekNonBlocking
    simp only []
    split <;> simp [EventQueue.heap]
  unfold SimQueue.peekNonBlocking EventQueue.peekNonBlockingSide
  cases byp with
  | true =>
    simp only [if_true]
    split
    · simp [EventQueue.heap]
    · exact hinner
  | false =>
    simp only [Bool.false_eq_true, if_false]
    exact hinner

theorem peekQueueEarliestSide_dur (sq : SimQueue) (bu : Option Int) (byp : Bool) (now : Int) (ds : Nat) (c : Bool) :
    (peekQueueEarliestSide sq bu byp now ds c).1 = durMax ∨
    ∃ hd, ((sq.side c).heap (peekQueueEarliestSide sq bu byp now ds c).2.1).peek = some hd ∧
      dsince (hd.time + qShift (peekQueueEarliestSide sq bu byp now ds c).2.1 ds) now ≤
        (peekQueueEarliestSide sq bu byp now ds c).1 := by
  have hbq : (sq.peekBlocking byp c).2 ≠ .base := by
    unfold SimQueue.peekBlocking EventQueue.peekBlockingSide
    cases byp with
    | true => simp
    | false => simp only [Bool.false_eq_true, if_false]; split <;> simp
  rcases peekQueueEarliestSide_cases sq bu byp now ds c with ⟨-, -, h⟩ | ⟨b, hb, h⟩ | ⟨n, t, hn, rfl, -, h⟩ <;> rw [h]
  · exact Or.inl rfl
  · refine Or.inr ⟨b, by rw [← peekBlocking_head]; exact hb, ?_⟩
    simp only [qShift, if_neg hbq, Int.add_zero]
    exact dsince_mono now (Int.le_max_left _ _)
  · refine Or.inr ⟨n, by rw [← peekNonBlocking_head]; exact hn, ?_⟩
    unfold qShift
    split <;> simp

section
variable {σ : Type}

theorem pickQueue_offset_ge {st st' : St σ} {q : Nat} {qid : Queue} {c : Bool} {e : SimEvent}
    (hw : st.sq.WF) (hd : pickDecide st = .ok (.queue q qid c)) (hp : pickQueue st q qid c = .ok (e, st')) :
    ∃ tmp : SimEvent, dsince tmp.time st.now ≤ q ∧ e.time = (if st.now + (q : Int) > tmp.time then st.now + q else tmp.time) := by
  obtain ⟨r, hr, hc⟩ := pickDecide_ok_iff.1 hd
  obtain ⟨rfl, -⟩ := Pick.choose_queue hc
  obtain ⟨tmp, sq, hpop, rfl, -⟩ := pickQueue_ok_iff.1 hp
  refine ⟨tmp, ?_, by simp only []; omega⟩
  -- the popped event is the head of heap `qid` on side `c`, shifted
  obtain ⟨q', hpop', -⟩ := SimQueue.pop_some hpop
  obtain ⟨hd', h', hh, rfl, -⟩ := EventQueue.pop_some hpop'
  have hhd := (heap_pop_countP (fun _ => true) SimEvent.le hh).2
  rcases peekQueue_ok_iff.1 hr with ⟨-, hq⟩ | ⟨-, -, -, -, -, hq⟩ | ⟨pk, qu, dur, hpk, -, -, hq⟩ | ⟨-, -, -, -, -, -, hq⟩
  · cases hq; exact dsince_le' _ _
  · cases hq; exact dsince_le' _ _
  · cases hq
    cases hhd.symm.trans (SimQueue.peek_heap hw hpk)
    rw [SimQueue.peek_dur hw hpk]
    cases hd'.client <;> exact Nat.le_refl _
  · obtain ⟨c', hc', -⟩ := st.earliest_cases
    have hcc := peekQueueEarliestSide_client st.sq (st.side c').blockingUntil (st.side c').blockingBypassable st.now
      (st.net.agg c') c'
    have hdur := peekQueueEarliestSide_dur st.sq (st.side c').blockingUntil (st.side c').blockingBypassable st.now
      (st.net.agg c') c'
    rw [show peekQueueEarliestSide _ _ _ _ _ _ = (q, qid, c) from (hq.trans hc').symm] at hcc hdur
    cases hcc
    rcases hdur with hm | ⟨h2, hpk2, hle2⟩
    · rw [show q = durMax from hm]; exact dsince_le' _ _
    · cases hhd.symm.trans hpk2
      exact hle2

/-- all pending action timers and internal timers are at or after the clock -/
structure FutureOK (st : St σ) : Prop where
  actC : ∀ a, some a ∈ st.client.schedAction → st.now ≤ a.time
  actS : ∀ a, some a ∈ st.server.schedAction → st.now ≤ a.time
  timC : ∀ t, some t ∈ st.client.schedTimer → st.now ≤ t
  timS : ∀ t, some t ∈ st.server.schedTimer → st.now ≤ t

/-- the slots of `st'` are among those of `st` (pick_next only clears slots) -/
def SlotsSub (st' st : St σ) : Prop :=
  (∀ a, some a ∈ st'.client.schedAction → some a ∈ st.client.schedAction) ∧
  (∀ a, some a ∈ st'.server.schedAction → some a ∈ st.server.schedAction) ∧
  (∀ t, some t ∈ st'.client.schedTimer → some t ∈ st.client.schedTimer) ∧
  (∀ t, some t ∈ st'.server.schedTimer → some t ∈ st.server.schedTimer)

theorem SlotsSub.refl (st : St σ) : SlotsSub st st := ⟨fun _ h => h, fun _ h => h, fun _ h => h, fun _ h => h⟩

theorem SlotsSub.trans {a b c : St σ} (h1 : SlotsSub a b) (h2 : SlotsSub b c) : SlotsSub a c :=
  ⟨fun x h => h2.1 x (h1.1 x h), fun x h => h2.2.1 x (h1.2.1 x h), fun x h => h2.2.2.1 x (h1.2.2.1 x h),
   fun x h => h2.2.2.2 x (h1.2.2.2 x h)⟩

theorem FutureOK.of_sub {st st' : St σ} (hf : FutureOK st) (hsub : SlotsSub st' st) (hnow : st'.now = st.now) :
    FutureOK st' := by
  constructor <;> rw [hnow]
  · exact fun a h => hf.actC a (hsub.1 a h)
  · exact fun a h => hf.actS a (hsub.2.1 a h)
  · exact fun t h => hf.timC t (hsub.2.2.1 t h)
  · exact fun t h => hf.timS t (hsub.2.2.2 t h)

theorem mem_set_none {α : Type} {l : List (Option α)} {i : Nat} {x : α} (h : some x ∈ l.set i none) : some x ∈ l := by
  rcases List.mem_or_eq_of_mem_set h with h1 | h1
  · exact h1
  · cases h1

theorem pickAgg_sub {st st' : St σ} (h : pickAgg st = .ok st') : SlotsSub st' st := by
  obtain ⟨-, net, -, rfl⟩ := pickAgg_ok_iff.1 h
  exact SlotsSub.refl _

theorem pickBlockExp_sub {st st' : St σ} {b : Nat} {c : Bool} {e : SimEvent} (h : pickBlockExp st b c = .ok (e, st')) :
    SlotsSub st' st := by
  obtain ⟨net, -, -, rfl⟩ := pickBlockExp_ok_iff.1 h
  cases c <;> exact SlotsSub.refl _

theorem pickQueue_sub {st st' : St σ} {q : Nat} {qid : Queue} {c : Bool} {e : SimEvent}
    (h : pickQueue st q qid c = .ok (e, st')) : SlotsSub st' st := by
  obtain ⟨tmp, sq, -, -, rfl⟩ := pickQueue_ok_iff.1 h
  exact SlotsSub.refl _

theorem SlotsSub.setSide {st : St σ} {c : Bool} {sd : Side σ}
    (ha : ∀ x, some x ∈ sd.schedAction → some x ∈ (st.side c).schedAction)
    (ht : ∀ x, some x ∈ sd.schedTimer → some x ∈ (st.side c).schedTimer) : SlotsSub (st.setSide c sd) st := by
  cases c
  · exact ⟨fun _ h => h, ha, fun _ h => h, ht⟩
  · exact ⟨ha, fun _ h => h, ht, fun _ h => h⟩

theorem pickTimer_sub {st st' : St σ} {i : Nat} (h : pickTimer st i = .ok st') : SlotsSub st' st := by
  obtain ⟨ev, st1, h1, rfl⟩ := pickTimer_ok_iff.1 h
  obtain ⟨c, j, t', -, -, rfl⟩ := doInternalTimer_ok h1
  exact SlotsSub.setSide (fun _ h => h) (fun _ h => mem_set_none h)

theorem pickAction_sub {st st' : St σ} {s : Nat} (h : pickAction st s = .ok st') : SlotsSub st' st := by
  obtain ⟨ev, st1, h1, rfl⟩ := pickAction_ok_iff.1 h
  obtain ⟨c, j, a, sd, -, rfl, ha, ht, -⟩ := doScheduledAction_ok h1
  exact SlotsSub.setSide (fun _ h => mem_set_none (ha ▸ h)) (fun _ h => ht ▸ h)

def NotAfterPending (st' : St σ) (e : SimEvent) : Prop :=
  (∀ a, (some a ∈ st'.client.schedAction ∨ some a ∈ st'.server.schedAction) → e.time ≤ a.time) ∧
  (∀ t, (some t ∈ st'.client.schedTimer ∨ some t ∈ st'.server.schedTimer) → e.time ≤ t)

theorem before_pending_of_offset {st st' : St σ} {p : Pick} {o : Nat} {e : SimEvent} (hf : FutureOK st)
    (hd : pickDecide st = .ok p) (ho : p.offset = some o) (hsub : SlotsSub st' st) (he : e.time ≤ st.now + o) :
    NotAfterPending st' e := by
  have toTime : ∀ t : Int, st.now ≤ t → o ≤ dsince t st.now → e.time ≤ t := by
    intro t hge hle
    unfold dsince durSince at hle
    omega
  constructor
  · intro a ha
    have hmem := ha.imp (hsub.1 a) (hsub.2.1 a)
    have hge := hmem.elim (hf.actC a) (hf.actS a)
    exact toTime _ hge (served_before_action hd ho a hmem hge)
  · intro t ht
    have hmem := ht.imp (hsub.2.2.1 t) (hsub.2.2.2 t)
    have hge := hmem.elim (hf.timC t) (hf.timS t)
    exact toTime _ hge (served_before_timer hd ho t hmem hge)

/-- The event `pick_next` returns is not later than any pending timer: for every slot /
    timer still pending afterwards (and not in the past before), the event's time is at most its
    time — provided the event is not absurdly far in the future (within `Duration::MAX`). -/
theorem pickNext_before_pending : ∀ (fuel : Nat) (st st' : St σ) (e : SimEvent), st.sq.WF → FutureOK st →
    pickNext fuel st = some (.ok (some e, st')) → e.time - st.now < durMax →
    SlotsSub st' st ∧ NotAfterPending st' e := by
  intro fuel st st' e hw hf h
  -- a branch that recurses only clears slots and keeps the clock and the queues' shape
  have recur : ∀ {st st1 st' : St σ} {oe : Option SimEvent}, SlotsSub st1 st → st1.now = st.now →
      (st.sq.WF → st1.sq.WF) →
      (st1.sq.WF → FutureOK st1 → ∀ e, oe = some e → e.time - st1.now < durMax →
        SlotsSub st' st1 ∧ NotAfterPending st' e) →
      st.sq.WF → FutureOK st → ∀ e, oe = some e → e.time - st.now < durMax →
        SlotsSub st' st ∧ NotAfterPending st' e := by
    intro st st1 st' oe hsub hnow hwf ih hw hf e he hreal
    obtain ⟨h1, h2⟩ := ih (hwf hw) (hf.of_sub hsub hnow) e he (hnow ▸ hreal)
    exact ⟨h1.trans hsub, h2⟩
  refine pickNext_ok_induct (motive := fun st oe st' => st.sq.WF → FutureOK st → ∀ e, oe = some e →
    e.time - st.now < durMax → SlotsSub st' st ∧ NotAfterPending st' e)
    ?_ ?_ ?_ ?_ ?_ ?_ fuel st st' (some e) h hw hf e rfl
  · intro st _ _ _ e he
    cases he
  · intro st st1 oe st' _ ha
    exact recur (pickAgg_sub ha) (pickAgg_now ha) (fun hw => pickAgg_sq ha ▸ hw)
  · intro st b c e0 st' hd hb _ hf e he _
    cases he
    have hsub := pickBlockExp_sub hb
    refine ⟨hsub, before_pending_of_offset hf hd rfl hsub ?_⟩
    rw [pickBlockExp_ev hb]
    exact Int.le_refl _
  · intro st q qid c e0 st' hd hq hw hf e he hreal
    cases he
    have hsub := pickQueue_sub hq
    refine ⟨hsub, before_pending_of_offset hf hd rfl hsub ?_⟩
    -- the event's time is `now + q`, or the head's own time, whose offset is at most `q`
    obtain ⟨tmp, htmp, hetime⟩ := pickQueue_offset_ge hw hd hq
    rw [hetime] at hreal ⊢
    unfold dsince durSince at htmp
    split at hreal <;> omega
  · intro st st1 i oe st' _ ht
    exact recur (pickTimer_sub ht) (pickTimer_now ht) (fun hw => (pickTimer_conserve hw ht).1)
  · intro st st1 s oe st' _ ha
    exact recur (pickAction_sub ha) (pickAction_now ha) (fun hw => (pickAction_conserve hw ha).1)

end

section
variable {σ : Type} (ρ : Oracle σ)

def sideFuture (now : Int) (sd : Side σ) : Prop :=
  (∀ a, some a ∈ sd.schedAction → now ≤ a.time) ∧ (∀ t, some t ∈ sd.schedTimer → now ≤ t)

theorem mem_set_some {α : Type} {l : List (Option α)} {i : Nat} {x y : α} (h : some x ∈ l.set i (some y)) :
    some x ∈ l ∨ x = y := by
  rcases List.mem_or_eq_of_mem_set h with h1 | h1
  · exact Or.inl h1
  · exact Or.inr (Option.some.inj h1)

theorem timerUpdate_set {cur : Option Int} {now : Int} {d : Nat} {r : Bool}
    (h : (timerUpdate cur now d r).2 = true) : (timerUpdate cur now d r).1 = some (now + (d : Int)) := by
  cases cur with
  | none => simp [timerUpdate]
  | some c =>
    cases r with
    | true => simp [timerUpdate]
    | false =>
      by_cases hc : c < now + (d : Int)
      · simp [timerUpdate, hc]
      · simp [timerUpdate, hc] at h

theorem applyAction_future {sd sd' : Side σ} {sq sq' : SimQueue} {now : Int} {cl : Bool} {a : TAction}
    (hf : sideFuture now sd) (h : applyAction sd sq now cl a = .ok (sd', sq')) : sideFuture now sd' := by
  cases a with
  | cancel m t =>
    obtain ⟨-, -, rfl, -⟩ := applyAction_cancel_iff.1 h
    constructor <;> intro x hx <;> simp only [] at hx <;> split at hx
    · exact hf.1 x hx
    · exact hf.1 x (mem_set_none hx)
    · exact hf.2 x hx
    · exact hf.2 x (mem_set_none hx)
  | sendPadding to b r m =>
    obtain ⟨-, rfl, -⟩ := applyAction_sendPadding_iff.1 h
    refine ⟨fun x hx => ?_, hf.2⟩
    rcases mem_set_some hx with h2 | rfl
    · exact hf.1 x h2
    · show now ≤ now + _; omega
  | blockOutgoing to d b r m =>
    obtain ⟨-, rfl, -⟩ := applyAction_blockOutgoing_iff.1 h
    refine ⟨fun x hx => ?_, hf.2⟩
    rcases mem_set_some hx with h2 | rfl
    · exact hf.1 x h2
    · show now ≤ now + _; omega
  | updateTimer d r m =>
    obtain ⟨cur, -, h2⟩ := applyAction_updateTimer_iff.1 h
    split at h2
    · rename_i hb
      obtain ⟨rfl, -⟩ := h2
      refine ⟨hf.1, fun x hx => ?_⟩
      simp only [timerUpdate_set hb] at hx
      rcases mem_set_some hx with h3 | rfl
      · exact hf.2 x h3
      · omega
    · obtain ⟨rfl, -⟩ := h2
      exact hf

theorem sideFuture_of_pending {st : St σ} {e : SimEvent} (h : NotAfterPending st e) (c : Bool) :
    sideFuture e.time (st.side c) := by
  cases c
  · exact ⟨fun a ha => h.1 a (Or.inr ha), fun t ht => h.2 t (Or.inr ht)⟩
  · exact ⟨fun a ha => h.1 a (Or.inl ha), fun t ht => h.2 t (Or.inl ht)⟩

/-- Simulated time never moves past a pending timer (inductive step): if all pending action
    timers and internal timers are at or after the clock, they still are after one iteration of
    the main loop (for an event within `Duration::MAX` of the clock). -/
theorem step_future {st st' : St σ} {r : StepRec} (hw : st.sq.WF) (hf : FutureOK st)
    (h : step ρ st = .ok (some (r, st'))) (hreal : r.ev.time - st.now < durMax) : FutureOK st' := by
  obtain ⟨st1, sq, net, hp, -, -, ht⟩ := (step_some_iff ρ).1 h
  obtain ⟨-, -, sd, sq2, h5, rfl⟩ := (triggerUpdate_ok_iff ρ).1 ht
  -- the clock is now the event's time: the untouched side by `pick_next`, the other by `applyActions`
  have hside := sideFuture_of_pending (pickNext_before_pending _ _ _ _ hw hf hp hreal).2
  have hsd : sideFuture r.ev.time sd := applyActions_inv (R := fun sd _ => sideFuture r.ev.time sd)
    (fun _ _ _ _ _ hf h => applyAction_future hf h) _ (by exact hside r.ev.client) h5
  cases hc : r.ev.client
  · exact ⟨(hside true).1, hsd.1, (hside true).2, hsd.2⟩
  · exact ⟨hsd.1, (hside false).1, hsd.2, (hside false).2⟩

/-- the initial state has no pending timers at all -/
theorem initState_future {mc ms : List Machine} {sq : SimQueue} {a : Args} {orc : σ} {st : St σ}
    (h : initState ρ mc ms sq a orc = .ok st) : FutureOK st := by
  obtain ⟨t0, c, o1, s, o2, net, -, hc, hs, -, rfl⟩ := (initState_ok_iff ρ).1 h
  have side : ∀ (m : List Machine) (t0 : Int) (fp fb : F64) (o : σ) (sd : Side σ) (o' : σ),
      Side.new ρ m t0 fp fb o = .ok (sd, o') →
      (∀ a, some a ∉ sd.schedAction) ∧ (∀ t, some t ∉ sd.schedTimer) := by
    intro m t0 fp fb o sd o' hh
    unfold Side.new at hh
    split at hh
    · cases hh
    · simp only [] at hh
      split at hh
      · cases hh
      · cases hh
        constructor <;> intro x hx <;> simp only [List.mem_map] at hx <;> obtain ⟨_, _, hx⟩ := hx <;> cases hx
  have h1 := side _ _ _ _ _ _ _ hc
  have h2 := side _ _ _ _ _ _ _ hs
  exact ⟨fun a ha => absurd ha (h1.1 a), fun a ha => absurd ha (h2.1 a),
         fun t ht => absurd ht (h1.2 t), fun t ht => absurd ht (h2.2 t)⟩

end

section
variable {σ : Type}

/-- when the scheduled-action branch is taken, the earliest pending action is strictly earlier
    than every other candidate `pick_next` sees (aggregate delay, blocking expiry, queue, internal
    timer): what the code does in place of "executed when due" (S1) -/
theorem pickDecide_action_strict {st : St σ} {s : Nat} (h : pickDecide st = .ok (.action s)) :
    s = peekScheduledAction st.client.schedAction st.server.schedAction st.now ∧
    s < peekScheduledInternalTimer st.client.schedTimer st.server.schedTimer st.now ∧
    s < (peekBlockedExp st.client.blockingUntil st.server.blockingUntil st.now).1 ∧
    s < st.net.peekAggregateDelay st.now ∧
    ∃ e q qid c, peekQueue st e = .ok (q, qid, c) ∧ s < q := by
  obtain ⟨r, hr, hc⟩ := pickDecide_ok_iff.1 h
  obtain ⟨rfl, hn, hb, hq, hi⟩ := Pick.choose_action hc
  exact ⟨rfl, hi, hb, hn, _, r.1, r.2.1, r.2.2, hr, hq⟩

end
end Mb.Sim
