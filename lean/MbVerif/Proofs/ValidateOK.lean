/-
  What validation establishes structurally: `MachineOK`.
-/
import MbVerif.Proofs.SafeCall
import MbVerif.Proofs.Validate

namespace Mb
open Validate

/-- `MachineOK` is the part of `C12.WF` about state counts and transition targets -/
theorem machineOK_of_validate (m : Machine) (hv : Validate.machine m = true)
    (hshape : ∀ st ∈ m.states, st.transitions.length = EVENT_NUM) : MachineOK m := by
  rw [machine_eq_with] at hv
  have hw := machineWith_sound checksFixed_sound (inputsSat_true m) hv
  exact ⟨hw.someState, hshape, fun st hst e vec hvec t ht =>
    ((hw.states st hst).vectors _ (List.mem_of_getElem? hvec) vec rfl).targets t ht, hw.notTooMany⟩

end Mb
