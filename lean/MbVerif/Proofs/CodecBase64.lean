/-
  `B64.dec (B64.enc b) = some b`; the encoder emits ASCII; decoded output is at most 3/4 of the input.
-/
import MbVerif.Base64

namespace Mb
namespace B64
open Codec (Bytes)

theorem val_chr : ∀ v, v < 64 → val (chr v) = some v := by decide

theorem chr_ne_pad (v : Nat) (h : v < 64) : chr v ≠ pad := fun e => by
  have := val_chr v h
  rw [e] at this
  cases this

theorem enc_isEmpty (b : Bytes) : (enc b).isEmpty = b.isEmpty := by
  match b with
  | [] => rfl
  | [_] => rfl
  | [_, _] => rfl
  | _ :: _ :: _ :: _ => rfl

/-- Three bytes regrouped into four 6-bit values, and back: the arithmetic of `enc`/`quad`. -/
theorem sextets {x y z : Nat} (hx : x < 256) (hy : y < 256) (hz : z < 256) :
    x / 4 < 64 ∧ x % 4 * 16 + y / 16 < 64 ∧ y % 16 * 4 + z / 64 < 64 ∧ z % 64 < 64 ∧
    x / 4 * 4 + (x % 4 * 16 + y / 16) / 16 = x ∧
    (x % 4 * 16 + y / 16) % 16 * 16 + (y % 16 * 4 + z / 64) / 4 = y ∧
    (y % 16 * 4 + z / 64) % 4 * 64 + z % 64 = z := by
  omega

theorem quad_three (x y z : UInt8) :
    quad (chr (x.toNat / 4)) (chr (x.toNat % 4 * 16 + y.toNat / 16))
      (chr (y.toNat % 16 * 4 + z.toNat / 64)) (chr (z.toNat % 64)) = some [x, y, z] := by
  obtain ⟨h0, h1, h2, h3, e0, e1, e2⟩ := sextets x.toNat_lt y.toNat_lt z.toNat_lt
  simp only [quad, val_chr _ h0, val_chr _ h1, val_chr _ h2, val_chr _ h3, e0, e1, e2, UInt8.ofNat_toNat]

/-- a final group of two bytes is a full group whose third byte is zero, cut after three symbols -/
theorem last_two (x y : UInt8) :
    last (chr (x.toNat / 4)) (chr (x.toNat % 4 * 16 + y.toNat / 16)) (chr (y.toNat % 16 * 4)) pad = some [x, y] := by
  obtain ⟨h0, h1, h2, _, e0, e1, e2⟩ := sextets x.toNat_lt y.toNat_lt (Nat.zero_lt_succ 255)
  simp only [Nat.zero_div, Nat.add_zero, Nat.zero_mod] at h2 e1 e2
  have e3 : y.toNat % 16 * 4 % 4 = 0 := by omega
  simp only [last, val_chr _ h0, val_chr _ h1, val_chr _ h2, if_neg (chr_ne_pad _ h2), e0, e1, e3, if_true,
    UInt8.ofNat_toNat]

theorem last_one (x : UInt8) : last (chr (x.toNat / 4)) (chr (x.toNat % 4 * 16)) pad pad = some [x] := by
  obtain ⟨h0, h1, _, _, e0, e1, _⟩ := sextets x.toNat_lt (Nat.zero_lt_succ 255) (Nat.zero_lt_succ 255)
  simp only [Nat.zero_div, Nat.add_zero, Nat.zero_mod, Nat.zero_mul] at h1 e0 e1
  have e3 : x.toNat % 4 * 16 % 16 = 0 := by omega
  simp only [last, val_chr _ h0, val_chr _ h1, e0, e3, if_true, UInt8.ofNat_toNat]

theorem last_of_ne_pad (a b c d : UInt8) (h : d ≠ pad) : last a b c d = quad a b c d := by
  simp only [last, if_neg h]

theorem dec_enc (b : Bytes) : dec (enc b) = some b := by
  match b with
  | [] => rfl
  | [x] => simp only [enc, dec, List.isEmpty_nil, if_true, last_one]
  | [x, y] => simp only [enc, dec, List.isEmpty_nil, if_true, last_two]
  | x :: y :: z :: rest =>
    have ih := dec_enc rest
    have hz := z.toNat_lt
    have n3 := chr_ne_pad (z.toNat % 64) (by omega)
    cases hr : rest with
    | nil => simp only [enc, dec, List.isEmpty_nil, if_true, last_of_ne_pad _ _ _ _ n3, quad_three]
    | cons w rest' =>
      have hne : (enc (w :: rest')).isEmpty = false := by rw [enc_isEmpty]; rfl
      rw [hr] at ih
      simp only [enc, dec, hne, quad_three, ih, Bool.false_eq_true, if_false, List.cons_append, List.nil_append]

theorem chr_ascii : ∀ v, v < 64 → (chr v).toNat < 128 := by decide

theorem enc_ascii : ∀ (b : Bytes), ∀ c ∈ enc b, c.toNat < 128
  | [] => nofun
  | [x] => by
    obtain ⟨h0, h1, _⟩ := sextets x.toNat_lt (Nat.zero_lt_succ 255) (Nat.zero_lt_succ 255)
    simp only [enc, List.forall_mem_cons]
    exact ⟨chr_ascii _ h0, chr_ascii _ h1, by decide, by decide, nofun⟩
  | [x, y] => by
    obtain ⟨h0, h1, h2, _⟩ := sextets x.toNat_lt y.toNat_lt (Nat.zero_lt_succ 255)
    simp only [enc, List.forall_mem_cons]
    exact ⟨chr_ascii _ h0, chr_ascii _ h1, chr_ascii _ h2, by decide, nofun⟩
  | x :: y :: z :: rest => by
    obtain ⟨h0, h1, h2, h3, _⟩ := sextets x.toNat_lt y.toNat_lt z.toNat_lt
    simp only [enc, List.forall_mem_cons]
    exact ⟨chr_ascii _ h0, chr_ascii _ h1, chr_ascii _ h2, chr_ascii _ h3, enc_ascii rest⟩

theorem quad_length {a b c d : UInt8} {t : Bytes} (h : quad a b c d = some t) : t.length = 3 := by
  unfold quad at h
  split at h
  · cases h; rfl
  · cases h

theorem last_length {a b c d : UInt8} {t : Bytes} (h : last a b c d = some t) : t.length ≤ 3 := by
  unfold last at h
  split at h
  · repeat' split at h
    all_goals cases h
    all_goals simp
  · exact Nat.le_of_eq (quad_length h)

theorem dec_length : ∀ (s : Bytes) (b : Bytes), dec s = some b → 4 * b.length ≤ 3 * s.length
  | [], b, h => by cases h; decide
  | [_], b, h => nomatch h
  | [_, _], b, h => nomatch h
  | [_, _, _], b, h => nomatch h
  | a :: b' :: c :: d :: rest, b, h => by
    simp only [dec] at h
    split at h
    · have := last_length h
      simp only [List.length_cons]
      omega
    · split at h
      · cases h
      rename_i t ht
      split at h
      · cases h
      rename_i u hu
      cases h
      have := dec_length rest u hu
      have := quad_length ht
      simp only [List.length_append, List.length_cons]
      omega

end B64
end Mb
