/-
  C07, history level: once a machine's state limit is 0, a call returns no limitable action for
  it and leaves the limit at 0, unless the machine changed its state index during the call (which
  the ghost log records as a `limit mi _ false` entry, pushed by `enterState` only).
-/
import MbVerif.Proofs.LogExt
import MbVerif.Proofs.DurBound
import MbVerif.Proofs.TransInduct

namespace Mb
variable {σ : Type} (ρ : Oracle σ)

def TAction.isCancel : TAction → Bool
  | .cancel _ _ => true
  | _ => false

/-- `PZ` (limit at zero): the limit of machine `mi` is exhausted and its slot holds
    no limitable action -/
structure PZ (mi : Nat) (s : Fw σ) : Prop where
  lim : ∀ r, s.rt[mi]? = some r → r.stateLimit = 0
  slot : ∀ a, s.actions[mi]? = some (some a) → a.isCancel = true

/-- the log segment records a resampling of machine `mi`'s limit (a change of state index) -/
def Resampled (mi : Nat) (l : List LogEntry) : Prop := ∃ x, LogEntry.limit mi x false ∈ l

/-- the relation every step of a call is in: `t` extends the log of `s` by a segment which either
    records a resampling for `mi`, or `PZ` is preserved -/
def QQ (mi : Nat) (s t : Fw σ) : Prop :=
  ∃ l, t.log = l ++ s.log ∧ (PZ mi s → Resampled mi l ∨ PZ mi t)

variable {mi : Nat}

theorem QQ.refl (s : Fw σ) : QQ mi s s := ⟨[], rfl, fun h => Or.inr h⟩

theorem QQ.trans {s t u : Fw σ} (h₁ : QQ mi s t) (h₂ : QQ mi t u) : QQ mi s u := by
  obtain ⟨l1, e1, p1⟩ := h₁
  obtain ⟨l2, e2, p2⟩ := h₂
  refine ⟨l2 ++ l1, by rw [e2, e1, List.append_assoc], fun hp => ?_⟩
  rcases p1 hp with ⟨x, hx⟩ | hpt
  · exact Or.inl ⟨x, by simp [hx]⟩
  · rcases p2 hpt with ⟨x, hx⟩ | hpu
    · exact Or.inl ⟨x, by simp [hx]⟩
    · exact Or.inr hpu

theorem QQ.same {s t : Fw σ} (hl : t.log = s.log) (hrt : t.rt[mi]? = s.rt[mi]?) (hact : t.actions[mi]? = s.actions[mi]?) :
    QQ mi s t :=
  ⟨[], by simp [hl], fun hp => Or.inr ⟨by rw [hrt]; exact hp.lim, by rw [hact]; exact hp.slot⟩⟩

theorem QQ.withFault (s : Fw σ) (f : Fault) : QQ mi s (s.withFault f) := QQ.same (by simp) (by simp) (by simp)

theorem QQ.push (s : Fw σ) (e : LogEntry) : QQ mi s (s.push e) :=
  ⟨[e], rfl, fun hp => Or.inr ⟨hp.lim, hp.slot⟩⟩

theorem PZ.modRt {s : Fw σ} (h : PZ mi s) (j : Nat) (f : Runtime → Runtime)
    (hf : ∀ r, (f r).stateLimit = r.stateLimit) : PZ mi (s.modRt j f) := by
  refine ⟨fun r hr => ?_, by simpa using h.slot⟩
  obtain ⟨r0, h0, e | e⟩ := Fw.modRt_rt_some hr <;> rw [e]
  · exact h.lim r0 h0
  · rw [hf]; exact h.lim r0 h0

theorem QQ.modRt (s : Fw σ) (j : Nat) (f : Runtime → Runtime) (hf : ∀ r, (f r).stateLimit = r.stateLimit) :
    QQ mi s (s.modRt j f) :=
  ⟨[], by simp, fun hp => Or.inr (hp.modRt j f hf)⟩

/-- steps made for another machine: the log grows, `PZ` is untouched — but the segment may not be
    inspected, so the conclusion is stated with an arbitrary segment and `PZ` preserved -/
theorem QQ.ofReachOther {j : Nat} {s t : Fw σ} (h : Reach j s t) (hj : mi ≠ j) : QQ mi s t := by
  obtain ⟨l, e⟩ := h.logExt
  have hf := h.frame
  exact ⟨l, e, fun hp => Or.inr ⟨by rw [hf.rtOther mi hj]; exact hp.lim, by rw [hf.actOther mi hj]; exact hp.slot⟩⟩

theorem QQ.ofReachSame {j : Nat} {s t : Fw σ} (h : Reach j s t) (hrt : t.rt[mi]? = s.rt[mi]?)
    (hact : t.actions[mi]? = s.actions[mi]?) : QQ mi s t := by
  obtain ⟨l, e⟩ := h.logExt
  exact ⟨l, e, fun hp => Or.inr ⟨by rw [hrt]; exact hp.lim, by rw [hact]; exact hp.slot⟩⟩

theorem QQ.ofRngLog {s t : Fw σ} (h : RngLogOnly s t ∧ Reach mi s t) : QQ mi s t :=
  QQ.ofReachSame h.2 (by rw [h.1.rt]) (by rw [h.1.actions])

theorem qq_distSample (d : Dist) (s : Fw σ) : QQ mi s (distSample ρ d s).2 := QQ.ofRngLog (distSample_spec ρ mi d s)

/-- entering another state logs the resampling -/
theorem qq_enterState (m : Machine) (cur next : Nat) (s : Fw σ) : QQ mi s (enterState ρ mi m cur next s) :=
  enterState_rel ρ QQ.refl QQ.trans (qq_distSample ρ) mi (fun s => QQ.withFault s _)
    (fun s _ => QQ.modRt s mi _ (by intro _; rfl))
    (fun s l => ⟨[.limit mi l false], by simp [Fw.push], fun _ => Or.inl ⟨l, by simp⟩⟩) m cur next s

theorem qq_applyCounterA (c : Option Counter) (oldA oldB : Nat) (s : Fw σ) :
    QQ mi s (applyCounterA ρ mi c oldA oldB s).1 :=
  (applyCounter_rel ρ QQ.refl QQ.trans (qq_distSample ρ) mi (fun s f hf => QQ.modRt s mi f (fun r => by rw [hf r]))).1 c oldA oldB s

theorem qq_applyCounterB (c : Option Counter) (oldA oldB : Nat) (s : Fw σ) :
    QQ mi s (applyCounterB ρ mi c oldA oldB s).1 :=
  (applyCounter_rel ρ QQ.refl QQ.trans (qq_distSample ρ) mi (fun s f hf => QQ.modRt s mi f (fun r => by rw [hf r]))).2 c oldA oldB s

theorem PZ.setAct {s : Fw σ} (hp : PZ mi s) (a : Option TAction) (ha : ∀ x, a = some x → x.isCancel = true) :
    PZ mi { s with actions := s.actions.set mi a } := by
  refine ⟨hp.lim, fun x hx => ?_⟩
  simp only [List.getElem?_set_self'] at hx
  cases hs : s.actions[mi]? with
  | none => rw [hs] at hx; cases hx
  | some y =>
    rw [hs] at hx
    simp only [Option.map_eq_map, Option.map_some, Function.const_apply, Option.some.injEq] at hx
    exact ha x hx

theorem QQ.setAct (s : Fw σ) (a : Option TAction) (ha : ∀ x, a = some x → x.isCancel = true) :
    QQ mi s { s with actions := s.actions.set mi a } :=
  ⟨[], rfl, fun hp => Or.inr (hp.setAct a ha)⟩

/-- `schedule_action` for `mi`: the log grows, and `PZ` is preserved when the state's action can
    only be a cancel -/
theorem schedule_spec (next : Nat) (s : Fw σ) :
    ∃ l, (scheduleAction ρ mi next s).log = l ++ s.log ∧
      ((∀ m st act, s.machines[mi]? = some m → m.states[next]? = some st → st.action = some act →
          ∃ t, act = .cancel t) → PZ mi s → PZ mi (scheduleAction ρ mi next s)) := by
  have hoob : ∀ P : Prop, ∃ l, (s.withFault .oob).log = l ++ s.log ∧ (P → PZ mi s → PZ mi (s.withFault .oob)) :=
    fun _ => ⟨[], by simp, fun _ hp => ⟨by simpa using hp.lim, by simpa using hp.slot⟩⟩
  rw [scheduleAction_eq]
  cases hm : s.machines[mi]? with
  | none => exact hoob _
  | some m =>
  simp only []
  cases hst : m.states[next]? with
  | none => exact hoob _
  | some st =>
  simp only []
  by_cases hlen : mi ≥ s.actions.length
  · rw [if_pos hlen]; exact hoob _
  · rw [if_neg hlen]
    cases hact : st.action with
    | none => exact ⟨[], rfl, fun _ hp => hp.setAct none nofun⟩
    | some act =>
      simp only []
      obtain ⟨k1, r1⟩ := sampleTimeout_spec ρ mi act s
      obtain ⟨k2, r2⟩ := sampleDuration_spec ρ mi act (sampleTimeout ρ act s).2
      obtain ⟨l, e⟩ := (r1.trans r2).logExt
      refine ⟨l, e, fun hc hp => ?_⟩
      obtain ⟨t, rfl⟩ := hc m st act rfl hst hact
      have hq : PZ mi (sampleDuration ρ (.cancel t) (sampleTimeout ρ (.cancel t) s).2).2 :=
        ⟨by rw [(k1.trans k2).rt]; exact hp.lim, by rw [(k1.trans k2).actions]; exact hp.slot⟩
      exact hq.setAct _ (fun x hx => by cases hx; rfl)

/-- with an exhausted limit the limit predicates admit only a cancel (or no action) -/
theorem below_true_cancel (g : Globals) (r : Runtime) (m : Machine) (hz : r.stateLimit = 0)
    (hb : belowActionLimits g r m = some true) :
    ∀ st act, m.states[r.currentState]? = some st → st.action = some act → ∃ t, act = .cancel t := by
  intro st act hst hact
  have hpos := fun hnc => belowActionLimits_true_pos hst hact hnc hb
  cases act with
  | cancel t => exact ⟨t, rfl⟩
  | _ => exact absurd (hpos nofun) (by omega)

theorem qq_main (fuel : Nat) :
    (∀ ev (s : Fw σ), QQ mi s (transition ρ fuel mi ev s).1) ∧
    (∀ (s : Fw σ), QQ mi s (updateCounter ρ fuel mi s).1) := by
  have h := transition_induct ρ (PT := fun _ _ _ _ => True) (PU := fun _ _ _ => True)
    (T := fun _ j _ s s' _ => QQ j s s') (U := fun _ j s s' _ _ => QQ j s s')
    (fun _ _ s _ => QQ.withFault s _) (fun _ _ _ s _ _ => QQ.withFault s _) ?_
    (fun _ s _ => QQ.withFault s _) (fun _ _ s _ _ => QQ.withFault s _) ?_ fuel
  · exact ⟨fun ev s => h.1 mi ev s trivial, fun s => h.2 mi s trivial⟩
  · intro n mi ev s r m hr hm _ s0
    have h0 : QQ mi s s0 := QQ.push _ _
    refine ⟨fun _ => h0, fun _ => ⟨fun _ => h0.trans (QQ.withFault _ _), fun st _ =>
      ⟨fun _ => h0.trans (QQ.withFault _ _), fun _ => h0, fun vec _ => ?_⟩⟩⟩
    intro d s1
    have h1 : QQ mi s s1 := h0.trans ⟨[.draw d.1], rfl, fun hp => Or.inr ⟨hp.lim, hp.slot⟩⟩
    refine ⟨fun _ => h1, fun next _ => ?_⟩
    intro s2
    have h2 : QQ mi s s2 := h1.trans (QQ.push _ _)
    refine ⟨fun _ => h2.trans (QQ.modRt _ mi _ (by intro _; rfl)), fun _ _ => h2.trans (QQ.same rfl rfl rfl),
      fun _ _ => ?_⟩
    intro s3
    have h3 : QQ mi s s3 := h2.trans (qq_enterState ρ m r.currentState next s2)
    obtain ⟨r1', hr1', hr1c⟩ := enterState_cur ρ mi m r.currentState next s2 r hr rfl
    have hm3 : s3.machines[mi]? = some m := by rw [(frame_enterState ρ mi m r.currentState next s2).machines]; exact hm
    refine ⟨fun _ => h3.trans (QQ.withFault _ _), fun r1 hr1 => ⟨fun _ => h3.trans (QQ.withFault _ _), fun below hb => ?_⟩⟩
    intro res ih s5
    obtain ⟨l1, e1, p1⟩ := ih trivial
    have h5 : QQ mi s3 s5 := by
      show QQ mi s3 (if _ then _ else _)
      split
      · next hcond =>
        -- scheduling with the limit at 0: the gate said yes, so the action is a Cancel
        obtain ⟨l2, e2, p2⟩ := schedule_spec ρ (mi := mi) next res.1
        refine ⟨l2 ++ l1, by rw [e2, e1, List.append_assoc], fun hp => (p1 hp).elim
          (fun ⟨x, hx⟩ => Or.inl ⟨x, List.mem_append_right _ hx⟩) (fun hpU => Or.inr (p2 (fun m' st act hm' hst' hact' => ?_) hpU))⟩
        rw [(updateCounter_reach ρ n mi s3).frame.machines, hm3] at hm'
        cases hm'
        rw [Bool.and_eq_true] at hcond
        rw [hcond.2] at hb
        have hr1e : r1 = r1' := Option.some.inj (hr1.symm.trans hr1')
        exact below_true_cancel s3.g r1 m (hp.lim r1 hr1) hb st act (by rw [hr1e, hr1c]; exact hst') hact'
      · exact ⟨l1, e1, p1⟩
    exact ⟨fun _ => (h3.trans h5).trans (QQ.withFault _ _), fun _ _ => h3.trans h5⟩
  · intro n mi s r m _ _ _
    refine ⟨fun _ => QQ.withFault s _, fun st _ => ?_⟩
    intro ra rb s2
    have h2 : QQ mi s s2 := ((qq_applyCounterA ρ st.counterA r.counterA r.counterB s).trans
      (qq_applyCounterB ρ st.counterB r.counterA r.counterB ra.1)).trans (QQ.push _ _)
    refine ⟨fun _ => h2, fun _ => ?_⟩
    intro res ih
    exact ⟨fun _ => (h2.trans (ih trivial)).trans (QQ.withFault _ _), fun _ _ => h2.trans (ih trivial)⟩

theorem qq_transition (fuel : Nat) (ev : Event) (s : Fw σ) : QQ mi s (transition ρ fuel mi ev s).1 :=
  (qq_main ρ fuel).1 ev s

theorem qq_transitionAny (fuel j : Nat) (ev : Event) (s : Fw σ) : QQ mi s (transition ρ fuel j ev s).1 := by
  by_cases hj : mi = j
  · subst hj; exact qq_transition ρ fuel ev s
  · exact QQ.ofReachOther (transition_reach ρ fuel j ev s) hj

theorem qq_decrementAny (j : Nat) (s : Fw σ) : QQ mi s (decrementLimit ρ j s) := by
  by_cases hj : mi = j
  · subst hj
    rcases decrementLimit_cases ρ mi s with e | ⟨r, hr, hs1⟩
    · rw [e]; exact QQ.withFault _ _
    · -- under PZ the limit is 0 and stays 0
      have h1 : QQ mi s ((s.modRt mi (fun r' => { r' with stateLimit := r.stateLimit - 1 })).push
          (.limit mi (r.stateLimit - 1) true)) := by
        refine ⟨[.limit mi (r.stateLimit - 1) true], by simp [Fw.push],
          fun hp => Or.inr ⟨fun r' hr' => ?_, by simpa using hp.slot⟩⟩
        rw [Fw.push_rt, Fw.modRt_rt_self, hr] at hr'
        cases hr'
        exact Nat.sub_eq_zero_of_le (Nat.le_trans (Nat.le_of_eq (hp.lim r hr)) (Nat.zero_le 1))
      rcases hs1 _ rfl with e | e | ⟨_, e⟩ <;> rw [e]
      · exact h1.trans (QQ.withFault _ _)
      · exact h1
      · exact (h1.trans (QQ.setAct _ none nofun)).trans (qq_transition ρ FUEL .limitReached _)
  · exact QQ.ofReachOther (decrementLimit_reach ρ j s) hj

theorem qq_setG (s : Fw σ) (g' : Globals) : QQ mi s { s with g := g' } := QQ.same rfl rfl rfl

theorem qq_processEvent (e : TEvent) (s : Fw σ) : QQ mi s (processEvent ρ e s) :=
  processEvent_walk ρ QQ.refl QQ.trans (fun j e s => qq_transitionAny ρ FUEL j e.kind s)
    (fun j s _ => qq_decrementAny ρ j s) QQ.withFault qq_setG
    (fun s j f hf => QQ.modRt s j f (fun r => by rw [hf r])) e s

theorem qq_signalRound (s : Fw σ) : QQ mi s (signalRound ρ s) :=
  signalRound_rel ρ QQ.refl QQ.trans (fun _ _ => QQ.same rfl rfl rfl) (fun a j => qq_transitionAny ρ FUEL j .signal a) s

theorem qq_triggerEvents (es : List TEvent) (t : Int) (s : Fw σ) : QQ mi (s.callStart t) (triggerEvents ρ es t s) := by
  unfold triggerEvents
  refine QQ.trans ?_ (qq_signalRound ρ _)
  generalize s.callStart t = a
  induction es generalizing a with
  | nil => exact QQ.refl a
  | cons e es ih => exact (qq_processEvent ρ e a).trans (ih _)

/-- Exhausted limit, whole call: if machine `mi`'s state limit is 0 when a call starts, then
    either the call's log segment records a resampling of its limit (the machine changed its state
    index), or the limit is still 0 afterwards and the slot of `mi` holds at most a Cancel. -/
theorem exhausted_call (es : List TEvent) (t : Int) (s : Fw σ) (hz : ∀ r, s.rt[mi]? = some r → r.stateLimit = 0) :
    ∃ l, (triggerEvents ρ es t s).log = l ++ s.log ∧
      (Resampled mi l ∨ PZ mi (triggerEvents ρ es t s)) := by
  have hp0 : PZ mi (s.callStart t) := by
    refine ⟨fun r hr => ?_, fun a ha => ?_⟩
    · obtain ⟨r0, h0, rfl⟩ := Fw.callStart_rt_some hr
      exact hz r0 h0
    · simp only [Fw.callStart, List.getElem?_map] at ha
      cases hs : s.actions[mi]? <;> rw [hs] at ha <;> simp at ha
  obtain ⟨l, e, p⟩ := qq_triggerEvents ρ (mi := mi) es t s
  exact ⟨l, e, p hp0⟩

theorem triggerEvents_logExt (es : List TEvent) (t : Int) (s : Fw σ) :
    ∃ l, (triggerEvents ρ es t s).log = l ++ s.log := (triggerEvents_run ρ es t s).logExt

theorem runCalls_cons (s : Fw σ) (c : Call) (h : List Call) :
    runCalls ρ s (c :: h) = runCalls ρ (triggerEvents ρ c.1 c.2 s) h := rfl

theorem runCalls_logExt (h : List Call) (s : Fw σ) : ∃ l, (runCalls ρ s h).log = l ++ s.log :=
  (runCalls_run ρ s h).logExt

/-- the same over a whole history: as long as no resampling for the machine is logged, the limit
    stayed 0 and (after at least one call) the slot holds at most a Cancel -/
theorem exhausted_history (h : List Call) (s : Fw σ) (hz : ∀ r, s.rt[mi]? = some r → r.stateLimit = 0) :
    ∃ l, (runCalls ρ s h).log = l ++ s.log ∧
      (Resampled mi l ∨
       ((∀ r, (runCalls ρ s h).rt[mi]? = some r → r.stateLimit = 0) ∧ (h ≠ [] → PZ mi (runCalls ρ s h)))) := by
  induction h generalizing s with
  | nil => exact ⟨[], rfl, Or.inr ⟨hz, fun hne => absurd rfl hne⟩⟩
  | cons c cs ih =>
    rw [runCalls_cons]
    obtain ⟨l1, e1, p1⟩ := exhausted_call ρ (mi := mi) c.1 c.2 s hz
    rcases p1 with ⟨x, hx⟩ | hp
    · -- resampled in the first call: only the log extension is needed for the rest
      obtain ⟨l2, e2⟩ := runCalls_logExt ρ cs (triggerEvents ρ c.1 c.2 s)
      exact ⟨l2 ++ l1, by rw [e2, e1, List.append_assoc], Or.inl ⟨x, List.mem_append_right _ hx⟩⟩
    · obtain ⟨l2, e2, p2⟩ := ih (triggerEvents ρ c.1 c.2 s) hp.lim
      refine ⟨l2 ++ l1, by rw [e2, e1, List.append_assoc],
        p2.imp (fun ⟨x, hx⟩ => ⟨x, List.mem_append_left _ hx⟩) (fun ⟨hz2, hs2⟩ => ⟨hz2, fun _ => ?_⟩)⟩
      cases cs with
      | nil => exact hp
      | cons d ds => exact hs2 (List.cons_ne_nil _ _)

end Mb
