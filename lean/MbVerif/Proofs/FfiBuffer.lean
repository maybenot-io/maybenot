/-
  Helper lemmas for C20: the zip of the converted actions with the caller's buffer, and
  `convert_event`.
-/
import MbVerif.Proofs.FfiAction

namespace Mb.Ffi

theorem zipWrite_eq (acts : List CAction) (slots : List Bytes) :
    zipWrite acts slots = ((acts.take (min acts.length slots.length)).map encodeAction ++
      slots.drop (min acts.length slots.length), min acts.length slots.length) := by
  induction acts generalizing slots with
  | nil => simp [zipWrite]
  | cons a as ih => cases slots with
    | nil => simp [zipWrite]
    | cons s ss => simp [zipWrite, ih, Nat.succ_min_succ]

theorem take_drop_append_drop {α} (l : List α) (k n : Nat) (h : k ≤ n) :
    (l.take n).drop k ++ l.drop n = l.drop k := by
  have : l.drop n = (l.drop k).drop (n - k) := by rw [List.drop_drop]; congr 1; omega
  rw [List.drop_take, this, List.take_append_drop]

/-- the zip with the first `n` slots of the caller's memory: with
    `k = min (number of actions) (min n (size of the memory))`, the first `k` actions are written
    to the first `k` slots, the rest of the memory is as it was, and `k` is the count. -/
theorem writeSlots_eq (acts : List CAction) (n : Nat) (buf : List Bytes) :
    writeSlots acts n buf = ((acts.take (min acts.length (min n buf.length))).map encodeAction ++
      buf.drop (min acts.length (min n buf.length)), min acts.length (min n buf.length)) := by
  rw [writeSlots, zipWrite_eq, List.length_take]
  simp only [List.append_assoc]
  rw [take_drop_append_drop buf _ n (by omega)]

theorem writeSlots_count (acts : List CAction) (n : Nat) (buf : List Bytes) :
    (writeSlots acts n buf).2 = min acts.length (min n buf.length) := by
  rw [writeSlots_eq]

theorem writeSlots_length (acts : List CAction) (n : Nat) (buf : List Bytes) :
    (writeSlots acts n buf).1.length = buf.length := by
  simp only [writeSlots_eq, List.length_append, List.length_map, List.length_take, List.length_drop]
  omega

theorem writeSlots_take (acts : List CAction) (n : Nat) (buf : List Bytes) :
    (writeSlots acts n buf).1.take (writeSlots acts n buf).2 =
      (acts.take (writeSlots acts n buf).2).map encodeAction := by
  rw [writeSlots_eq]
  exact List.take_left' (by simp only [List.length_map, List.length_take]; omega)

theorem writeSlots_drop (acts : List CAction) (n : Nat) (buf : List Bytes) :
    (writeSlots acts n buf).1.drop (writeSlots acts n buf).2 = buf.drop (writeSlots acts n buf).2 := by
  rw [writeSlots_eq]
  exact List.drop_left' (by simp only [List.length_map, List.length_take]; omega)

/-- beyond `num_machines` nothing is ever touched, whatever the framework returns -/
theorem writeSlots_drop_n (acts : List CAction) (n : Nat) (buf : List Bytes) :
    (writeSlots acts n buf).1.drop n = buf.drop n := by
  have hk : (writeSlots acts n buf).2 ≤ n := by rw [writeSlots_count]; omega
  have h := congrArg (List.drop (n - (writeSlots acts n buf).2)) (writeSlots_drop acts n buf)
  rwa [List.drop_drop, List.drop_drop, Nat.add_sub_cancel' hk] at h

theorem onEvents_eq_some {σ : Type} (ρ : Oracle σ) {s : Fw σ} {now : Int} {evs : List CEvent} {buf : List Bytes}
    {r : Fw σ × List Bytes × Nat} (h : onEvents ρ s now evs buf = some r) :
    ∃ tes, evs.mapM convertEvent = some tes ∧
      r = (triggerEvents ρ tes now s,
        writeSlots ((triggerEvents ρ tes now s).actionsOut.map convertAction) s.machines.length buf) := by
  unfold onEvents at h
  cases hm : evs.mapM convertEvent with
  | none => simp [hm] at h
  | some tes =>
    simp only [hm, Option.some.injEq] at h
    exact ⟨tes, rfl, h.symm⟩

/-- name of the same-named C event type -/
def evName : TEvent → String
  | .normalRecv => "NormalRecv"
  | .paddingRecv => "PaddingRecv"
  | .tunnelRecv => "TunnelRecv"
  | .normalSent => "NormalSent"
  | .paddingSent _ => "PaddingSent"
  | .tunnelSent => "TunnelSent"
  | .blockingBegin _ => "BlockingBegin"
  | .blockingEnd => "BlockingEnd"
  | .timerBegin _ => "TimerBegin"
  | .timerEnd _ => "TimerEnd"

/-- the machine carried by a per-machine event -/
def evMachine : TEvent → Option Nat
  | .paddingSent m | .blockingBegin m | .timerBegin m | .timerEnd m => some m
  | _ => none

/-- the framework events, each with machine `m` where it has one, in the order in which
    `convert_event` tests for their codes -/
def evTable (m : Nat) : List TEvent :=
  [.normalRecv, .paddingRecv, .tunnelRecv, .normalSent, .paddingSent m, .tunnelSent, .blockingBegin m,
   .blockingEnd, .timerBegin m, .timerEnd m]

theorem find?_cons_decide {α} (c : α → Prop) [DecidablePred c] (a : α) (l : List α) :
    (a :: l).find? (fun x => decide (c x)) = if c a then some a else l.find? (fun x => decide (c x)) := by
  by_cases h : c a <;> simp [h]

/-- `convert_event` is the lookup of the event type among the codes of the ten same-named events -/
theorem convertEvent_eq_find (e : CEvent) :
    convertEvent e = (evTable e.machine).find? (fun t => decide (e.eventType = evType (evName t))) := by
  simp only [evTable, find?_cons_decide (fun t => e.eventType = evType (evName t)), List.find?_nil]
  rfl

theorem mem_evTable_iff {m : Nat} {t : TEvent} : t ∈ evTable m ↔ ∀ k, evMachine t = some k → k = m := by
  cases t <;> simp [evTable, evMachine, eq_comm]

/-- the ten event-type constants of the header are distinct -/
theorem evCodes_nodup (m : Nat) : ((evTable m).map (fun t => evType (evName t))).Nodup := by
  have h : (["NormalRecv", "PaddingRecv", "TunnelRecv", "NormalSent", "PaddingSent", "TunnelSent",
      "BlockingBegin", "BlockingEnd", "TimerBegin", "TimerEnd"].map evType).Nodup := by decide +kernel
  exact h

theorem find?_key_of_nodup {α β} [DecidableEq β] (f : α → β) {l : List α} (hn : (l.map f).Nodup)
    {t : α} (ht : t ∈ l) : l.find? (fun x => decide (f t = f x)) = some t := by
  induction l with
  | nil => cases ht
  | cons a l ih =>
    rw [List.map_cons, List.nodup_cons] at hn
    rw [find?_cons_decide (fun x => f t = f x)]
    rcases List.mem_cons.mp ht with rfl | ht
    · rw [if_pos rfl]
    · rw [if_neg (fun (h : f t = f a) => hn.1 (h ▸ List.mem_map_of_mem (f := f) ht)), ih hn.2 ht]

/-- `convert_event` produces exactly the same-named event, with the C event's machine id where the
    event has one -/
theorem convertEvent_eq_some_iff (e : CEvent) (t : TEvent) :
    convertEvent e = some t ↔
      e.eventType = evType (evName t) ∧ ∀ m, evMachine t = some m → m = e.machine := by
  rw [convertEvent_eq_find]
  constructor
  · intro h
    have hk := List.find?_some h
    exact ⟨of_decide_eq_true hk, mem_evTable_iff.1 (List.mem_of_find?_eq_some h)⟩
  · rintro ⟨he, hm⟩
    rw [he]
    exact find?_key_of_nodup (fun t => evType (evName t)) (evCodes_nodup _) (mem_evTable_iff.2 hm)

theorem eventOf_eq (t : TEvent) : eventOf t = ⟨evType (evName t), (evMachine t).getD 0⟩ := by
  cases t <;> rfl

theorem convertEvent_eventOf (t : TEvent) : convertEvent (eventOf t) = some t := by
  rw [eventOf_eq, convertEvent_eq_some_iff]
  -- `rfl` for the first part would have the unifier unfold `evType`
  refine ⟨by simp only, fun m h => ?_⟩
  rw [h]; rfl

end Mb.Ffi
