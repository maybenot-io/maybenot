/-
  The specifications of peeking and popping the event queues: what `EventQueue::peek` and
  `SimQueue::peek` select (head of the named heap, exact offset, minimal among all heads), and
  what `pop` removes (the head of the named heap, shifted for the base heap; nothing else moves).
-/
import MbVerif.Proofs.SimFuel

namespace Mb.Sim
open Mb

/-- the heap of a side's queue named by a `Queue` tag -/
def EventQueue.heap (q : EventQueue) : Queue → EvHeap
  | .blocking => q.blocking
  | .bypassable => q.bypassable
  | .internal => q.internal
  | .base => q.base

/-- the delay a queue adds to the head's time when it is served -/
def qShift (qi : Queue) (ds : Nat) : Int := if qi = .base then (ds : Int) else 0

theorem qShift_zero (qi : Queue) : qShift qi 0 = 0 := by unfold qShift; split <;> rfl

theorem optGt_pick_time {a b : Option SimEvent} (qa qb : Queue) {r : SimEvent} (h : a = some r ∨ b = some r) :
    ∃ f, (if optGt a b = true then (a, qa) else (b, qb)).1 = some f ∧ f.time ≤ r.time := by
  cases a with
  | none =>
    cases b with
    | none => rcases h with h | h <;> cases h
    | some y =>
      rcases h with h | h
      · cases h
      · cases h; exact ⟨r, by simp [optGt], Int.le_refl _⟩
  | some x =>
    cases b with
    | none =>
      rcases h with h | h
      · cases h; exact ⟨r, by simp [optGt], Int.le_refl _⟩
      · cases h
    | some y =>
      by_cases hg : optGt (some x) (some y) = true
      · refine ⟨x, by simp [hg], ?_⟩
        simp only [optGt, SimEvent.gt, keyLt, Bool.or_eq_true, Bool.and_eq_true, decide_eq_true_eq, beq_iff_eq] at hg
        rcases h with h | h <;> cases h <;> omega
      · refine ⟨y, by simp [hg], ?_⟩
        simp only [optGt, SimEvent.gt, keyLt, Bool.or_eq_true, Bool.and_eq_true, decide_eq_true_eq, beq_iff_eq] at hg
        rcases h with h | h <;> cases h <;> omega

theorem optGt_pick_none {a b : Option SimEvent} {qa qb : Queue}
    (h : (if optGt a b = true then (a, qa) else (b, qb)).fst = none) : a = none ∧ b = none := by
  cases a <;> cases b
  · exact ⟨rfl, rfl⟩
  · simp [optGt] at h
  · simp [optGt] at h
  · split at h <;> simp at h

theorem EventQueue.peek_total (q : EventQueue) (ds : Nat) (now : Int) :
    (q.len = 0 ∧ q.peek ds now = .ok (none, .blocking, 0)) ∨ ∃ ev qi d, q.peek ds now = .ok (some ev, qi, d) := by
  by_cases hl : q.len = 0
  · left
    refine ⟨hl, ?_⟩
    unfold EventQueue.peek
    simp [hl]
  · right
    unfold EventQueue.peek
    simp only [hl, if_false]
    generalize hF1 : (if optGt q.blocking.peek q.bypassable.peek = true then (q.blocking.peek, Queue.blocking)
      else (q.bypassable.peek, Queue.bypassable)) = F1
    have h1 : F1.fst = none → q.blocking.peek = none ∧ q.bypassable.peek = none := by
      intro h; rw [← hF1] at h; exact optGt_pick_none h
    generalize hF2 : (if optGt q.internal.peek F1.fst = true then (q.internal.peek, Queue.internal)
      else (F1.fst, F1.snd)) = F2
    have h2 : F2.fst = none → q.internal.peek = none ∧ F1.fst = none := by
      intro h; rw [← hF2] at h; exact optGt_pick_none h
    by_cases hb : before q.base.peek F2.fst ds = true
    · simp only [hb, if_true]
      cases hbp : q.base.peek with
      | none => rw [hbp] at hb; simp [before] at hb
      | some e => exact ⟨_, _, _, rfl⟩
    · simp only [hb]
      cases hf : F2.fst with
      | some e => exact ⟨_, _, _, rfl⟩
      | none =>
        exfalso
        obtain ⟨hi, hf1⟩ := h2 hf
        obtain ⟨hbl, hby⟩ := h1 hf1
        have hbase : q.base.peek = none := by
          cases hbp : q.base.peek with
          | none => rfl
          | some e => rw [hbp, hf] at hb; simp [before] at hb
        apply hl
        have a1 := heap_peek_none hbase
        have a2 := heap_peek_none hbl
        have a3 := heap_peek_none hby
        have a4 := heap_peek_none hi
        unfold EventQueue.len; omega

theorem EventQueue.len_zero {q : EventQueue} (hl : q.len = 0) (qj : Queue) : (q.heap qj).data = [] := by
  unfold EventQueue.len Heap.len at hl
  cases qj <;> exact List.eq_nil_of_length_eq_zero (by simp only [EventQueue.heap]; omega)

theorem EventQueue.peek_none {q : EventQueue} {ds : Nat} {now : Int} {qi : Queue} {d : Nat}
    (h : q.peek ds now = .ok (none, qi, d)) (qj : Queue) : (q.heap qj).data = [] := by
  obtain ⟨hl, -⟩ | ⟨ev, qi', d', h'⟩ := EventQueue.peek_total q ds now
  · exact EventQueue.len_zero hl qj
  · rw [h] at h'; cases h'

theorem EventQueue.peek_spec {q : EventQueue} {ds : Nat} {now : Int} {ev : SimEvent} {qi : Queue} {d : Nat}
    (h : q.peek ds now = .ok (some ev, qi, d)) :
    (q.heap qi).peek = some ev ∧ d = dsince (ev.time + qShift qi ds) now ∧
    ∀ qj r, (q.heap qj).peek = some r → ev.time + qShift qi ds ≤ r.time + qShift qj ds := by
  unfold EventQueue.peek at h
  split at h
  · cases h
  simp only [] at h
  generalize hF1 : (if optGt q.blocking.peek q.bypassable.peek = true then (q.blocking.peek, Queue.blocking)
    else (q.bypassable.peek, Queue.bypassable)) = F1 at h
  have g1 : F1.1 = (q.heap F1.2).peek ∧ F1.2 ≠ .base := by
    rw [← hF1]
    split <;> exact ⟨rfl, nofun⟩
  generalize hF2 : (if optGt q.internal.peek F1.fst = true then (q.internal.peek, Queue.internal)
    else (F1.fst, F1.snd)) = F2 at h
  have g2 : F2.1 = (q.heap F2.2).peek ∧ F2.2 ≠ .base := by
    rw [← hF2]
    split
    · exact ⟨rfl, nofun⟩
    · exact g1
  -- `F2` is the earliest head of the three heaps other than base
  have m2 : ∀ qj r, qj ≠ .base → (q.heap qj).peek = some r → ∃ f, F2.1 = some f ∧ f.time ≤ r.time := by
    intro qj r hqj hr
    have viaF1 : ∀ f1, F1.1 = some f1 → f1.time ≤ r.time → ∃ f, F2.1 = some f ∧ f.time ≤ r.time := by
      intro f1 hf1 hft1
      obtain ⟨f, hf, hft⟩ := optGt_pick_time (a := q.internal.peek) (b := F1.1) .internal F1.2 (Or.inr hf1)
      rw [hF2] at hf
      exact ⟨f, hf, Int.le_trans hft hft1⟩
    cases qj with
    | base => exact absurd rfl hqj
    | internal =>
      obtain ⟨f, hf, hft⟩ := optGt_pick_time (a := q.internal.peek) (b := F1.1) .internal F1.2 (Or.inl hr)
      rw [hF2] at hf
      exact ⟨f, hf, hft⟩
    | blocking =>
      obtain ⟨f1, hf1, hft1⟩ := optGt_pick_time (a := q.blocking.peek) (b := q.bypassable.peek)
        .blocking .bypassable (Or.inl hr)
      rw [hF1] at hf1
      exact viaF1 f1 hf1 hft1
    | bypassable =>
      obtain ⟨f1, hf1, hft1⟩ := optGt_pick_time (a := q.blocking.peek) (b := q.bypassable.peek)
        .blocking .bypassable (Or.inr hr)
      rw [hF1] at hf1
      exact viaF1 f1 hf1 hft1
  clear hF1 hF2
  by_cases hb : before q.base.peek F2.fst ds = true
  · simp only [hb, if_true] at h
    cases hbp : q.base.peek with
    | none => rw [hbp] at h; cases h
    | some e =>
      rw [hbp] at h hb
      simp only [Except.ok.injEq, Prod.mk.injEq, Option.some.injEq] at h
      obtain ⟨rfl, rfl, rfl⟩ := h
      refine ⟨hbp, by simp [qShift], fun qj r hr => ?_⟩
      by_cases hqj : qj = .base
      · subst hqj
        rw [show q.heap .base = q.base from rfl, hbp] at hr
        cases hr
        exact Int.le_refl _
      · obtain ⟨f, hf, hft⟩ := m2 qj r hqj hr
        rw [hf] at hb
        simp only [before, keyLe, Bool.or_eq_true, Bool.and_eq_true, decide_eq_true_eq, beq_iff_eq] at hb
        simp only [qShift, if_true, if_neg hqj]
        omega
  · simp only [hb, Bool.false_eq_true, if_false] at h
    cases hf : F2.fst with
    | none => rw [hf] at h; cases h
    | some f =>
      rw [hf] at h hb
      simp only [Except.ok.injEq, Prod.mk.injEq, Option.some.injEq] at h
      obtain ⟨rfl, rfl, rfl⟩ := h
      have hsh : qShift F2.2 ds = 0 := if_neg g2.2
      refine ⟨by rw [← g2.1, hf], by rw [hsh, Int.add_zero], fun qj r hr => ?_⟩
      rw [hsh, Int.add_zero]
      by_cases hqj : qj = .base
      · subst hqj
        rw [show (q.heap .base).peek = q.base.peek from rfl] at hr
        rw [hr] at hb
        simp only [before, keyLe, Bool.or_eq_true, Bool.and_eq_true, decide_eq_true_eq, beq_iff_eq] at hb
        simp only [qShift, if_true]
        omega
      · obtain ⟨f', hf', hft⟩ := m2 qj r hqj hr
        rw [hf] at hf'
        cases hf'
        simp only [qShift, if_neg hqj, Int.add_zero]
        exact hft

theorem SimQueue.peek_spec {s : SimQueue} {cs ss : Nat} {now : Int} {ev : SimEvent} {qi : Queue} {d : Nat}
    (h : s.peek cs ss now = .ok (some ev, qi, d)) :
    ∃ c, ((s.side c).heap qi).peek = some ev ∧ d = dsince (ev.time + qShift qi (if c then cs else ss)) now ∧
      ∀ c' qj r, ((s.side c').heap qj).peek = some r → d ≤ dsince (r.time + qShift qj (if c' then cs else ss)) now := by
  unfold SimQueue.peek at h
  split at h
  · cases h
  rw [bind_ok_iff] at h
  obtain ⟨⟨ce, cq, cd⟩, h1, h⟩ := h
  rw [bind_ok_iff] at h
  obtain ⟨⟨se, sq', sd⟩, h3, h⟩ := h
  simp only [pure, Except.pure] at h
  -- the result is one side's answer, whose offset is not above the other side's
  have pick : ∀ (c : Bool) {e e2 : Option SimEvent} {q q2 : Queue} {dd dd2 : Nat},
      (s.side c).peek (if c then cs else ss) now = .ok (e, q, dd) →
      (s.side (!c)).peek (if (!c) then cs else ss) now = .ok (e2, q2, dd2) →
      (e, q, dd) = (some ev, qi, d) → (e2 ≠ none → dd ≤ dd2) →
      ∃ c, ((s.side c).heap qi).peek = some ev ∧ d = dsince (ev.time + qShift qi (if c then cs else ss)) now ∧
        ∀ c' qj r, ((s.side c').heap qj).peek = some r →
          d ≤ dsince (r.time + qShift qj (if c' then cs else ss)) now := by
    intro c e e2 q q2 dd dd2 hp hp2 he hle
    cases he
    obtain ⟨g1, g2, g3⟩ := EventQueue.peek_spec hp
    refine ⟨c, g1, g2, fun c' qj r hr => ?_⟩
    by_cases hc : c' = c
    · subst hc
      rw [g2]
      exact dsince_mono now (g3 qj r hr)
    · have hc' : c' = !c := by cases c <;> cases c' <;> first | rfl | exact absurd rfl hc
      subst hc'
      cases e2 with
      | none =>
        rw [Heap.peek, EventQueue.peek_none hp2 qj] at hr
        cases hr
      | some x =>
        obtain ⟨_, k2, k3⟩ := EventQueue.peek_spec hp2
        exact Nat.le_trans (hle nofun) (k2 ▸ dsince_mono now (k3 qj r hr))
  cases ce with
  | none =>
    cases se with
    | none => cases h
    | some x => exact pick false h3 h1 (Except.ok.inj h) (fun hn => absurd rfl hn)
  | some y =>
    cases se with
    | none => exact pick true h1 h3 (Except.ok.inj h) (fun hn => absurd rfl hn)
    | some x =>
      simp only [] at h
      split at h
      · rename_i hlt
        simp only [Bool.or_eq_true, Bool.and_eq_true, decide_eq_true_eq, beq_iff_eq] at hlt
        exact pick true h1 h3 (Except.ok.inj h) (fun _ => by omega)
      · rename_i hlt
        simp only [Bool.or_eq_true, Bool.and_eq_true, decide_eq_true_eq, beq_iff_eq] at hlt
        exact pick false h3 h1 (Except.ok.inj h) (fun _ => by omega)

/-- one side's queues: `pop` takes the head of the named heap (a base event leaves shifted by the
    aggregate delay) and leaves the other heaps alone -/
theorem EventQueue.pop_some {q q' : EventQueue} {qi : Queue} {ds : Nat} {e : SimEvent}
    (h : q.pop qi ds = .ok (some (e, q'))) :
    ∃ hd h', Heap.pop SimEvent.le (q.heap qi) = some (hd, h') ∧ e = { hd with time := hd.time + qShift qi ds } ∧
      ∀ qj, q'.heap qj = if qj = qi then h' else q.heap qj := by
  cases qi
  case base =>
    cases hp : q.base.pop with
    | none => simp only [EventQueue.pop, hp] at h; split at h <;> cases h
    | some pr =>
      simp only [EventQueue.pop, hp, Except.ok.injEq, Option.some.injEq, Prod.mk.injEq] at h
      obtain ⟨rfl, rfl⟩ := h
      exact ⟨_, _, hp, rfl, fun qj => by cases qj <;> rfl⟩
  all_goals
    simp only [EventQueue.pop, Except.ok.injEq, Option.map_eq_some_iff, Prod.mk.injEq] at h
    obtain ⟨⟨hd, h'⟩, hp, rfl, rfl⟩ := h
    exact ⟨hd, h', hp, by simp [qShift], fun qj => by cases qj <;> rfl⟩

theorem SimQueue.side_setSide (s : SimQueue) (cl c : Bool) (q : EventQueue) :
    (s.setSide cl q).side c = if c = cl then q else s.side c := by
  cases cl <;> cases c <;> rfl

/-- `SimQueue::pop` is `EventQueue::pop` on the named side (`pop_some`: the direction used to take
    a successful pop apart) -/
theorem SimQueue.pop_ok_iff {s s' : SimQueue} {qi : Queue} {cl : Bool} {ds : Nat} {e : SimEvent} :
    s.pop qi cl ds = .ok (some (e, s')) ↔
      ∃ q', (s.side cl).pop qi ds = .ok (some (e, q')) ∧ s' = s.setSide cl q' := by
  unfold SimQueue.pop
  rw [bind_ok_iff]
  constructor
  · rintro ⟨_ | ⟨e1, q1⟩, hr, h⟩
    · cases h
    · cases h; exact ⟨q1, hr, rfl⟩
  · rintro ⟨q', hr, rfl⟩
    exact ⟨_, hr, rfl⟩

theorem SimQueue.pop_some {s s' : SimQueue} {qi : Queue} {cl : Bool} {ds : Nat} {e : SimEvent}
    (h : s.pop qi cl ds = .ok (some (e, s'))) :
    ∃ q', (s.side cl).pop qi ds = .ok (some (e, q')) ∧ s' = s.setSide cl q' :=
  SimQueue.pop_ok_iff.1 h

/-- `EventQueue.pop_some` for both sides at once: only the named heap of the named side changes -/
theorem SimQueue.pop_heap {s s' : SimQueue} {qi : Queue} {cl : Bool} {ds : Nat} {e : SimEvent}
    (h : s.pop qi cl ds = .ok (some (e, s'))) :
    ∃ hd h', Heap.pop SimEvent.le ((s.side cl).heap qi) = some (hd, h') ∧
      e = { hd with time := hd.time + qShift qi ds } ∧
      ∀ c qj, (s'.side c).heap qj = if c = cl ∧ qj = qi then h' else (s.side c).heap qj := by
  obtain ⟨q', hq', rfl⟩ := SimQueue.pop_some h
  obtain ⟨hd, h', hp, he, hall⟩ := EventQueue.pop_some hq'
  refine ⟨hd, h', hp, he, fun c qj => ?_⟩
  rw [SimQueue.side_setSide]
  by_cases hc : c = cl
  · rw [if_pos hc, hall, hc]; simp only [true_and]
  · rw [if_neg hc, if_neg (fun h => hc h.1)]

theorem SimQueue.peek_some (s : SimQueue) (c sv : Nat) (now : Int) (hl : s.len ≠ 0) :
    ∃ ev qi d, s.peek c sv now = .ok (some ev, qi, d) := by
  unfold SimQueue.peek
  simp only [hl, if_false]
  rcases EventQueue.peek_total s.client c now with ⟨hc0, hc⟩ | ⟨ce, cq, cd, hc⟩ <;>
    rcases EventQueue.peek_total s.server sv now with ⟨hs0, hs⟩ | ⟨se, sq, sd, hs⟩
  · exfalso; apply hl; unfold SimQueue.len; omega
  · rw [hc, hs]; exact ⟨_, _, _, rfl⟩
  · rw [hc, hs]; exact ⟨_, _, _, rfl⟩
  · rw [hc, hs]
    simp only [bind, Except.bind, pure, Except.pure]
    split <;> exact ⟨_, _, _, rfl⟩

theorem Heap.peek_some_pop {α : Type} (le : α → α → Bool) {h : Heap α} {x : α} (hp : h.peek = some x) :
    ∃ y h', Heap.pop le h = some (y, h') := by
  cases hpop : Heap.pop le h with
  | some pr => exact ⟨pr.1, pr.2, rfl⟩
  | none =>
    have := heap_pop_none le hpop
    unfold Heap.peek at hp
    unfold Heap.len at this
    rw [List.eq_nil_of_length_eq_zero this] at hp
    cases hp

/-- popping the heap whose head was peeked succeeds (`G`: for any aggregate delay `ds`, not only
    `ds = 0`) -/
theorem SimQueue.pop_someG {s : SimQueue} {qi : Queue} {cl : Bool} {hd : SimEvent} (ds : Nat)
    (h : ((s.side cl).heap qi).peek = some hd) : ∃ e' s', s.pop qi cl ds = .ok (some (e', s')) := by
  obtain ⟨y, h', hp⟩ := Heap.peek_some_pop SimEvent.le h
  unfold SimQueue.pop EventQueue.pop
  cases qi <;> simp only [EventQueue.heap] at hp <;> simp only [EvHeap.pop, hp] <;> exact ⟨_, _, rfl⟩

end Mb.Sim
