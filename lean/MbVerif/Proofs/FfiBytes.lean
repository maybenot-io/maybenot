/-
  Helper lemmas for C20: little-endian bytes, writes into a byte buffer at an offset,
  and the generic "what was written at pairwise disjoint leaves is read back" lemma.
-/
import MbVerif.Ffi

namespace Mb.Ffi

theorem leBytes_length (k n : Nat) : (leBytes k n).length = k := by
  induction k generalizing n with
  | zero => rfl
  | succ k ih => simp [leBytes, ih]

theorem leVal_leBytes (k n : Nat) : leVal (leBytes k n) = n % 256 ^ k := by
  induction k generalizing n with
  | zero => simp [leBytes, leVal, Nat.mod_one]
  | succ k ih =>
    simp only [leBytes, leVal, ih]
    have h : (UInt8.ofNat (n % 256)).toNat = n % 256 := by
      simp [UInt8.toNat_ofNat']
    rw [h, Nat.pow_succ, Nat.mul_comm (256 ^ k) 256, Nat.mod_mul]

theorem writeAt_length (buf : Bytes) (off : Nat) (seg : Bytes) (h : off + seg.length ≤ buf.length) :
    (writeAt buf off seg).length = buf.length := by
  rw [writeAt, List.length_append, List.length_append, List.length_take_of_le (by omega), List.length_drop]
  omega

theorem readAt_writeAt_same (buf : Bytes) (off : Nat) (seg : Bytes) (h : off + seg.length ≤ buf.length) :
    readAt (writeAt buf off seg) off seg.length = seg := by
  have hA : (buf.take off).length = off := List.length_take_of_le (by omega)
  rw [readAt, writeAt, List.append_assoc, List.drop_append_of_le_length (by omega),
    List.drop_of_length_le (by omega), List.nil_append, List.take_left' rfl]

theorem readAt_writeAt_disjoint (buf : Bytes) (off : Nat) (seg : Bytes) (off' n : Nat)
    (h : off + seg.length ≤ buf.length) (hd : off' + n ≤ off ∨ off + seg.length ≤ off') :
    readAt (writeAt buf off seg) off' n = readAt buf off' n := by
  have hA : (buf.take off).length = off := List.length_take_of_le (by omega)
  unfold readAt writeAt
  rcases hd with hd | hd
  · -- the read lies in `buf.take off`
    rw [List.append_assoc, List.drop_append_of_le_length (by omega),
      List.take_append_of_le_length (by rw [List.length_drop]; omega),
      List.drop_take, List.take_take, Nat.min_eq_left (by omega)]
  · -- the read lies in `buf.drop (off + seg.length)`
    rw [List.drop_append, List.drop_of_length_le (by rw [List.length_append]; omega), List.length_append, hA,
      List.drop_drop, List.nil_append, Nat.add_sub_cancel' hd]

theorem writeLeaf_length (buf : Bytes) (l : Leaf) (v : Nat) (h : l.off + l.size ≤ buf.length) :
    (writeLeaf buf l v).length = buf.length := by
  unfold writeLeaf; apply writeAt_length; rw [leBytes_length]; exact h

theorem readLeaf_writeLeaf_same (buf : Bytes) (l : Leaf) (v : Nat) (h : l.off + l.size ≤ buf.length) :
    readLeaf (writeLeaf buf l v) l = v % 256 ^ l.size := by
  unfold readLeaf writeLeaf
  have := readAt_writeAt_same buf l.off (leBytes l.size v) (by rw [leBytes_length]; exact h)
  rw [leBytes_length] at this
  rw [this, leVal_leBytes]

theorem readLeaf_writeLeaf_disjoint (buf : Bytes) (l m : Leaf) (v : Nat) (h : l.off + l.size ≤ buf.length)
    (hd : m.off + m.size ≤ l.off ∨ l.off + l.size ≤ m.off) :
    readLeaf (writeLeaf buf l v) m = readLeaf buf m := by
  unfold readLeaf writeLeaf
  rw [readAt_writeAt_disjoint buf l.off (leBytes l.size v) m.off m.size (by rw [leBytes_length]; exact h)
    (by rw [leBytes_length]; exact hd)]

def inBounds (total : Nat) (ls : List Leaf) : Prop := ∀ l ∈ ls, l.off + l.size ≤ total

def disjointFrom (m : Leaf) (ls : List Leaf) : Prop :=
  ∀ l ∈ ls, m.off + m.size ≤ l.off ∨ l.off + l.size ≤ m.off

theorem leavesOK_cons {total : Nat} {l : Leaf} {ls : List Leaf} (h : leavesOK total (l :: ls) = true) :
    l.off + l.size ≤ total ∧ disjointFrom l ls ∧ leavesOK total ls = true := by
  simp only [leavesOK, Bool.and_eq_true, decide_eq_true_eq, List.all_eq_true, Bool.or_eq_true] at h
  refine ⟨h.1.1, ?_, h.2⟩
  intro m hm
  have := h.1.2 m hm
  omega

theorem leavesOK_inBounds {total : Nat} {ls : List Leaf} (h : leavesOK total ls = true) : inBounds total ls := by
  induction ls with
  | nil => intro l hl; cases hl
  | cons a ls ih =>
    obtain ⟨h1, _, h3⟩ := leavesOK_cons h
    intro l hl
    cases hl with
    | head => exact h1
    | tail _ hl => exact ih h3 l hl

theorem writeAll_cons (buf : Bytes) (w : Leaf × Nat) (ws : List (Leaf × Nat)) :
    writeAll buf (w :: ws) = writeAll (writeLeaf buf w.1 w.2) ws := rfl

theorem writeAll_length (buf : Bytes) (ws : List (Leaf × Nat)) (h : inBounds buf.length (ws.map (·.1))) :
    (writeAll buf ws).length = buf.length := by
  induction ws generalizing buf with
  | nil => rfl
  | cons w ws ih =>
    have hl := writeLeaf_length buf w.1 w.2 (h w.1 List.mem_cons_self)
    rw [writeAll_cons, ih _ (fun l hl' => by rw [hl]; exact h l (List.mem_cons_of_mem _ hl')), hl]

theorem readLeaf_writeAll_disjoint (buf : Bytes) (ws : List (Leaf × Nat)) (m : Leaf)
    (hb : inBounds buf.length (ws.map (·.1))) (hd : disjointFrom m (ws.map (·.1))) :
    readLeaf (writeAll buf ws) m = readLeaf buf m := by
  induction ws generalizing buf with
  | nil => rfl
  | cons w ws ih =>
    have hw := hb w.1 List.mem_cons_self
    rw [writeAll_cons, ih _ (fun l hl' => by rw [writeLeaf_length buf w.1 w.2 hw]; exact hb l (List.mem_cons_of_mem _ hl'))
      (fun l hl' => hd l (List.mem_cons_of_mem _ hl'))]
    exact readLeaf_writeLeaf_disjoint _ _ _ _ hw (hd w.1 List.mem_cons_self)

/-- values written at pairwise disjoint, in-bounds leaves are read back
    (modulo the width of the leaf) -/
theorem readLeaf_writeAll (buf : Bytes) (ws : List (Leaf × Nat))
    (hok : leavesOK buf.length (ws.map (·.1)) = true) :
    (ws.map (·.1)).map (readLeaf (writeAll buf ws)) = ws.map (fun w => w.2 % 256 ^ w.1.size) := by
  induction ws generalizing buf with
  | nil => rfl
  | cons w ws ih =>
    obtain ⟨h1, h2, h3⟩ := leavesOK_cons hok
    have hl := writeLeaf_length buf w.1 w.2 h1
    rw [← hl] at h3
    rw [List.map_cons, List.map_cons, List.map_cons, writeAll_cons, ih _ h3,
      readLeaf_writeAll_disjoint _ ws w.1 (leavesOK_inBounds h3) h2, readLeaf_writeLeaf_same _ _ _ h1]

theorem blank_writeAll (n : Nat) (ws : List (Leaf × Nat)) (hok : leavesOK n (ws.map (·.1)) = true) :
    (writeAll (List.replicate n FILLER) ws).length = n ∧
    (ws.map (·.1)).map (readLeaf (writeAll (List.replicate n FILLER) ws)) =
      ws.map (fun w => w.2 % 256 ^ w.1.size) := by
  have h : leavesOK (List.replicate n FILLER).length (ws.map (·.1)) = true := by
    rw [List.length_replicate]; exact hok
  exact ⟨by rw [writeAll_length _ _ (leavesOK_inBounds h), List.length_replicate], readLeaf_writeAll _ _ h⟩

end Mb.Ffi
