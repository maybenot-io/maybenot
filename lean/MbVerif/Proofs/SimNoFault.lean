/-
  The simulator with machines does not fault (`C19_total`): the bounds instantiated with multiples
  of the 24 h cap, the main loop, the initial state, and the whole run.

  For a run of at most `N` iterations over a queue whose times lie in `[-d, T]`:
  * a queued TunnelSent is at most `k · W` old after `k` iterations (`W` = 48 h), so one pending
    aggregate delay is at most `aggD N = N · W + N · window`,
  * a side's total aggregate delay is at most `2 N · aggD N`,
  * the clock is at most `T + 2 N · aggD N + k · stepZ N d` after `k` iterations,
  * all clock values handed to the two frameworks lie in a window of width `span N T d`.
  The guard `(N + 2) · span N T d ≤ Duration::MAX` then excludes every checked-arithmetic
  overflow in the simulator and (by the potential argument of `Proofs/DurBound.lean`) in the
  frameworks.
-/
import MbVerif.Proofs.SimNoFaultStep
import MbVerif.Proofs.SimLoopInd
import MbVerif.Proofs.ValidateOK

namespace Mb.Sim
open Mb

namespace TB
/-- the bottleneck window, in ns -/
def WB : Nat := Gen.SIM_BOTTLENECK_WINDOW_NS
/-- bound on one pending aggregate delay in a run of at most `N` iterations -/
def aggD (N : Nat) : Nat := N * W + WB * N
/-- growth of the horizon per iteration -/
def stepZ (N d : Nat) : Nat := (TO + TD + d + WB * N) + W
/-- width of the window of all clock values of a run of at most `N` iterations over a queue with
    times in `[-d, T]` and network delay `d`.  The term `aggK · d` is not a clock value: it is the
    largest multiple of the delay `push_aggregate_delay` computes in checked arithmetic, put here
    so that the one guard on the span covers it too. -/
def span (N T d : Nat) : Nat := T + d + aggK * d + N * (aggD N + aggD N) + N * stepZ N d
end TB

theorem TB.span_eq (N T d : Nat) :
    TB.span N T d = T + d + TB.aggK * d + N * (TB.aggD N + TB.aggD N) + N * TB.stepZ N d := rfl

/-- the parameters of the invariant for a run of at most `N` iterations: the bottleneck adds
    `window / pps ≤ window` per packet over the limit (`pw`), and at most `N` stamps are in a
    window, so at most `WB · N` to one packet (`P`) -/
def mkPar (N d T : Nat) (t0 : Int) : TPar :=
  { d := d, Tm := (T : Int), t0 := t0, pw := TB.WB, P := TB.WB * N, D := TB.aggD N,
    JM := N * (TB.aggD N + TB.aggD N) }

theorem mkPar_S (N d T : Nat) (t0 : Int) : (mkPar N d T t0).S + TB.W = TB.stepZ N d := rfl

theorem span_lt_durMax {N T d : Nat} (hg : (N + 2) * TB.span N T d ≤ durMax) : TB.span N T d < durMax := by
  have h0 : 0 < durMax := by decide
  have h2 : 2 * TB.span N T d ≤ (N + 2) * TB.span N T d := Nat.mul_le_mul_right _ (by omega)
  omega

theorem succ_mul_le {k N : Nat} (hk : k < N) (x : Nat) : k * x + x ≤ N * x :=
  Nat.succ_mul k x ▸ Nat.mul_le_mul_right x hk

theorem mkPar_ok {N d T : Nat} (t0 : Int) (hN : 0 < N) (hg : (N + 2) * TB.span N T d ≤ durMax) :
    (mkPar N d T t0).OK := by
  have hlt : ∀ {x}, x ≤ TB.span N T d → x ≤ durMax := fun hx => Nat.le_of_lt (Nat.lt_of_le_of_lt hx (span_lt_durMax hg))
  have hJ : N * (TB.aggD N + TB.aggD N) ≤ TB.span N T d := Nat.le_trans (Nat.le_add_left _ _) (Nat.le_add_right _ _)
  refine ⟨hlt hJ, hlt (Nat.le_trans (Nat.le_add_left _ _) (Nat.le_trans (Nat.le_add_right _ _) (Nat.le_add_right _ _))),
    hlt ?_⟩
  have h1 : TB.WB * N ≤ N * (TB.aggD N + TB.aggD N) :=
    Nat.le_trans (Nat.le_trans (Nat.le_add_left _ _) (Nat.le_add_right _ _)) (Nat.le_mul_of_pos_left _ hN)
  have hs := TB.span_eq N T d
  show TB.WB * N + d ≤ TB.span N T d
  omega

section
variable {σ : Type} (ρ : Oracle σ)

/-- the loop invariant after `k` iterations -/
def LI (N d T : Nat) (t0 : Int) (k : Nat) (st : St σ) : Prop :=
  PI (mkPar N d T t0) (k * TB.W)
    ((T : Int) + ((N * (TB.aggD N + TB.aggD N) + k * TB.stepZ N d : Nat) : Int)) k
    (k * (TB.aggD N + TB.aggD N)) st ∧
  FwI t0 (TB.span N T d) k st

theorem PI.cast {π : TPar} {A : Nat} {Hn Hn' : Int} {kw J J' : Nat} {st : St σ} (h : PI π A Hn kw J st)
    (h1 : Hn = Hn') (h2 : J = J') : PI π A Hn' kw J' st := by
  subst h1; subst h2; exact h

theorem PI.slotsOK {π : TPar} {A : Nat} {Hn : Int} {kw J : Nat} {st : St σ} (h : PI π A Hn kw J st) : st.slotsOK := by
  have key : ∀ c, Mb.Sim.slotsOK (st.side c).schedAction := by
    intro c a ha
    have := ((h.sides c).acts a ha).2
    cases haa : a.action <;> rw [haa] at this <;> first | rfl | exact absurd this id
  exact ⟨key true, key false⟩

theorem step_LI {N d T : Nat} {t0 : Int} {k : Nat} {st : St σ} (h : LI N d T t0 k st) (hk : k < N)
    (ht0 : -(d : Int) ≤ t0) (hg : (N + 2) * TB.span N T d ≤ durMax) :
    Sound (step ρ st) fun o => ∀ r st', o = some (r, st') → LI N d T t0 (k + 1) st' := by
  have hok := mkPar_ok (T := T) (d := d) t0 (by omega : 0 < N) hg
  -- the side conditions are products of the bounds with `k` and `N`; they are given as terms, since
  -- `omega` over this many nonlinear atoms is slow
  have hst := step_ti ρ (π := mkPar N d T t0) (A := k * TB.W) (A' := (k + 1) * TB.W)
    (Hn := (T : Int) + ((N * (TB.aggD N + TB.aggD N) + k * TB.stepZ N d : Nat) : Int)) (kw := k)
    (J := k * (TB.aggD N + TB.aggD N)) (B := TB.span N T d) (k := k) h.1 h.2 hok
    (by
      show k * (TB.aggD N + TB.aggD N) + TB.aggD N + TB.aggD N ≤ N * (TB.aggD N + TB.aggD N)
      rw [Nat.add_assoc]
      exact succ_mul_le hk _)
    (by show (T : Int) + ((N * (TB.aggD N + TB.aggD N) : Nat) : Int) ≤ _; omega)
    (Nat.le_of_eq (Nat.succ_mul _ _).symm)
    (Nat.le_trans (Nat.mul_le_mul_right _ hk) (Nat.le_add_right _ _))
    (Nat.le_add_left _ _)
    (Nat.mul_le_mul_left _ hk)
    -- a framework that has been called `k` times needs `(k + 2) · span ≤ Duration::MAX` for its
    -- next call (`fw_call`); with `k < N` the guard on `(N + 2) · span` covers it
    (Nat.le_trans (Nat.succ_mul _ _ ▸ Nat.mul_le_mul_right _ (by omega : k + 1 + 1 ≤ N + 2)) hg)
    (by
      have l3 := succ_mul_le hk (TB.stepZ N d)
      rw [mkPar_S]
      show (T : Int) + ((N * (TB.aggD N + TB.aggD N) + k * TB.stepZ N d : Nat) : Int) + (TB.stepZ N d : Int) ≤
        t0 + ((T + d + TB.aggK * d + N * (TB.aggD N + TB.aggD N) + N * TB.stepZ N d : Nat) : Int)
      omega)
  refine hst.mono fun o ho r st' hr => ?_
  obtain ⟨hp, hf⟩ := ho r st' hr
  refine ⟨hp.cast ?_ ?_, hf⟩
  · rw [mkPar_S, Nat.succ_mul]
    omega
  · exact (Nat.add_assoc _ _ _).trans (Nat.succ_mul _ _).symm

/-- the run is capped at `N` iterations: by `max_sim_iterations = N`, or — with both output
    filters off, so that every iteration records its event — by `max_trace_length = N` -/
def CappedAt (args : Args) (N : Nat) : Prop :=
  args.maxSimIterations = N ∨
  (args.maxTraceLength = N ∧ args.onlyClientEvents = false ∧ args.onlyNetworkActivity = false)

/-- an iteration from a state satisfying the loop invariant does not fault at all: the
    environmental faults are excluded by the invariant, the assertions by `step_total` -/
theorem step_LI_ok {N d T : Nat} {t0 : Int} {k : Nat} {st : St σ} (h : LI N d T t0 k st) (hk : k < N)
    (ht0 : -(d : Int) ≤ t0) (hg : (N + 2) * TB.span N T d ≤ durMax) (f : SimFault) : step ρ st ≠ .error f := by
  intro hs
  have h1 := (step_LI ρ h hk ht0 hg).bug hs
  rw [(step_total ρ h.1.slotsOK).1 f hs] at h1
  cases h1

/-- what holds at the head of round `i` of a run capped at `N` iterations (`c` = events recorded
    so far): the loop invariant, and the cap has not been reached -/
def RunHead (args : Args) (N d T : Nat) (t0 : Int) (st : St σ) (i c : Nat) : Prop :=
  LI N d T t0 i st ∧ i < N ∧ (args.maxSimIterations = N ∨ c = i)

theorem RunHead.next {args : Args} {N d T : Nat} {t0 : Int} {st st' : St σ} {i c : Nat} {r : StepRec}
    (hcap : CappedAt args N) (ht0 : -(d : Int) ≤ t0) (hg : (N + 2) * TB.span N T d ≤ durMax)
    (h : RunHead args N d T t0 st i c) (hs : step ρ st = .ok (some (r, st')))
    (hsc : stopCheck args st' i (bump args r c) = none) : RunHead args N d T t0 st' (i + 1) (bump args r c) := by
  obtain ⟨hli, hlt, hrel⟩ := h
  obtain ⟨hnt, hni, _⟩ := stopCheck_eq_none.1 hsc
  refine ⟨(step_LI ρ hli hlt ht0 hg).ok hs r st' rfl, ?_⟩
  -- a cap of `N > 0` that the stop test found not reached
  have lt_of : ∀ {x : Nat}, ¬ (0 < N ∧ N ≤ x) → x < N := fun h =>
    Nat.lt_of_not_le fun hle => h ⟨Nat.zero_lt_of_lt hlt, hle⟩
  have byIter : args.maxSimIterations = N → i + 1 < N ∧ (args.maxSimIterations = N ∨ bump args r c = i + 1) :=
    fun e => ⟨lt_of (e ▸ hni), Or.inl e⟩
  rcases hrel with hrel | rfl
  · exact byIter hrel
  · rcases hcap with hcap | ⟨hc1, hc2, hc3⟩
    · exact byIter hcap
    · have hb : bump args r c = c + 1 := by simp [bump, Args.keep, Sim.keep, hc2, hc3]
      rw [hc1, hb] at hnt
      exact ⟨lt_of hnt, Or.inr hb⟩

/-- what the run needs of the queue: well-formed, heap-ordered, only trace packets (base heaps),
    with times in `[lo, T]`, not empty -/
structure QueueOK (sq : SimQueue) (lo T : Int) : Prop where
  wf : sq.WF
  ord : sq.Ord
  onlyBase : ∀ c qi, qi ≠ .base → ((sq.side c).heap qi).data = []
  times : sq.AllE fun e => lo ≤ e.time ∧ e.time ≤ T
  nonempty : ∃ t0, sq.firstTime = some t0

/-- the hypotheses on a machine list: accepted by validation, and of the shape of the Rust type -/
def MachinesOK (ms : List Machine) : Prop :=
  ∀ m ∈ ms, Validate.machine m = true ∧ ∀ st ∈ m.states, st.transitions.length = EVENT_NUM

theorem Side.new_ti {ms : List Machine} (hms : MachinesOK ms) {fp fb : F64}
    (hfp : Validate.fracOK fp = true) (hfb : Validate.fracOK fb = true) (t0 : Int) (B : Nat) (orc : σ) :
    ∃ sd o, Side.new ρ ms t0 fp fb orc = .ok (sd, o) ∧ FI t0 B 0 sd ∧ ∀ now, SlotI now sd := by
  have hfn : Validate.frameworkNew ms fp fb = true := by
    unfold Validate.frameworkNew
    simp only [hfp, hfb, Bool.true_and, List.all_eq_true]
    exact fun m hm => (hms m hm).1
  have hok : ∀ m ∈ ms, MachineOK m := fun m hm => machineOK_of_validate m (hms m hm).1 (hms m hm).2
  have hV0 := valid_init0 ms fp fb t0 orc hok
  have hS0 : SigOK (Fw.init0 ms fp fb t0 orc) := by intro x hx; simp [Fw.init0] at hx
  obtain ⟨hV1, hS1, hN1, _⟩ := okS_init ρ ms fp fb t0 orc hV0 hS0
  have hG : Good t0 B 0 (Fw.init ρ ms fp fb t0 orc) :=
    good_init ρ ms fp fb t0 orc ⟨Int.le_refl _, by omega⟩
  have hF : (Fw.init ρ ms fp fb t0 orc).fault = none := by
    rcases hN1 with h | ⟨_, h⟩
    · rw [h]; rfl
    · exact absurd h hG.2
  have hI := Inv04.init ρ ms fp fb t0 orc
  have hM : (Fw.init ρ ms fp fb t0 orc).machines = ms := (init_run ρ ms fp fb t0 orc).machines
  unfold Side.new
  simp only [hfn, Bool.not_true, Bool.false_eq_true, if_false, hF]
  refine ⟨_, _, rfl, ?_, ?_⟩
  · exact ⟨⟨hV1.lenRt, hV1.lenAct, hV1.ok, hV1.cur⟩, hS1,
      ⟨⟨hG.1.nowLo, hG.1.nowHi, hG.1.stLo, hG.1.phi, hG.1.le⟩, (by unfold NoDur; simp)⟩, ⟨hI.actLen, hI.rtLen, hI.slots⟩, rfl,
      by simp [hM], by simp [hM]⟩
  · intro now
    refine ⟨fun a ha => ?_, fun t ht => ?_, fun u hu => by cases hu⟩
    · simp only [List.mem_map] at ha
      obtain ⟨_, _, ha⟩ := ha
      cases ha
    · simp only [List.mem_map] at ht
      obtain ⟨_, _, ht⟩ := ht
      cases ht

theorem initState_LI {mc ms : List Machine} (hmc : MachinesOK mc) (hms : MachinesOK ms) {sq : SimQueue} {a : Args}
    {N d T : Nat} (hq : QueueOK sq (-(d : Int)) (T : Int))
    (hfrac : Validate.fracOK a.fpClient = true ∧ Validate.fracOK a.fbClient = true ∧
      Validate.fracOK a.fpServer = true ∧ Validate.fracOK a.fbServer = true)
    (hd : a.network.delay = d) (hpps : 1 ≤ effPps a.network sq.maxPps) (orc : σ) :
    ∃ t0 st, initState ρ mc ms sq a orc = .ok st ∧ -(d : Int) ≤ t0 ∧ LI N d T t0 0 st := by
  obtain ⟨t0, hft⟩ := hq.nonempty
  obtain ⟨_, cm, rm, hrm, hrt⟩ := firstTime_min hq.ord hq.onlyBase hft
  have hrange : -(d : Int) ≤ rm.time ∧ rm.time ≤ (T : Int) := hq.times cm .base rm hrm
  rw [hrt] at hrange
  obtain ⟨c, o1, hc, hfc, hsc⟩ := Side.new_ti ρ hmc hfrac.1 hfrac.2.1 t0 (TB.span N T d) orc
  obtain ⟨s, o2, hsv, hfs, hss⟩ := Side.new_ti ρ hms hfrac.2.2.1 hfrac.2.2.2 t0 (TB.span N T d) o1
  have hdiv : ¬ min (a.network.pps.getD (sq.maxPps.getD usizeMax)) (2 ^ 32 - 1) = 0 := by
    unfold effPps at hpps
    have : (2 : Nat) ^ 32 - 1 ≠ 0 := by decide
    omega
  have hnew : ∃ net, Bottleneck.new a.network Gen.SIM_BOTTLENECK_WINDOW_NS sq.maxPps = .ok net ∧
      NetI (mkPar N d T t0) 0 (0 * (TB.aggD N + TB.aggD N)) net := by
    unfold Bottleneck.new
    simp only [hdiv, if_false]
    refine ⟨_, rfl, ⟨hd, Nat.div_le_self _ _, Nat.zero_le _, Nat.zero_le _, ?_, ?_, fun p hp => by cases hp⟩⟩
    · show 0 + TB.aggD N * 0 ≤ 0 * (TB.aggD N + TB.aggD N)
      omega
    · show 0 + TB.aggD N * 0 ≤ 0 * (TB.aggD N + TB.aggD N)
      omega
  obtain ⟨net, hnew, hnet⟩ := hnew
  have hinit : initState ρ mc ms sq a orc =
      .ok { sq := sq, client := c, server := s, net := net, now := t0, orc := o2 } := by
    unfold initState firstTimeE
    simp only [hft, bind, Except.bind, hc, hsv, hnew, pure, Except.pure]
  refine ⟨t0, _, hinit, hrange.1, ?_, ?_⟩
  · refine ⟨Int.le_refl _, ?_, hq.wf, hq.ord, ?_, fun c' => by cases c' <;> [exact hss t0; exact hsc t0], hnet⟩
    · show t0 ≤ (T : Int) + _
      have := hrange.2
      omega
    · refine hq.times.allQ fun c' qi e he ht => ?_
      by_cases hqi : qi = .base
      · subst hqi
        exact ht.2
      · rw [hq.onlyBase c' qi hqi] at he
        cases he
  · intro c'
    cases c'
    · exact ⟨0, Nat.le_refl _, hfs⟩
    · exact ⟨0, Nat.le_refl _, hfc⟩

/-- Totality of `sim_advanced` with machines (general queue): accepted machines and
    fractions, a non-empty queue of trace packets with times in `[-d, T]`, a packets-per-second
    limit of at least 1, a cap of `N ≥ 1` iterations (`CappedAt`), and `(N + 2) · span N T d ≤ Duration::MAX`:
    the run does not fault, for every oracle. -/
theorem simAdvanced_no_fault (budget : Nat) {mc ms : List Machine} (hmc : MachinesOK mc) (hms : MachinesOK ms)
    {sq : SimQueue} {a : Args} {N d T : Nat} (hq : QueueOK sq (-(d : Int)) (T : Int))
    (hfrac : Validate.fracOK a.fpClient = true ∧ Validate.fracOK a.fbClient = true ∧
      Validate.fracOK a.fpServer = true ∧ Validate.fracOK a.fbServer = true)
    (hd : a.network.delay = d) (hpps : 1 ≤ effPps a.network sq.maxPps)
    (hcap : CappedAt a N) (hN : 0 < N) (hg : (N + 2) * TB.span N T d ≤ durMax) (orc : σ) :
    ∀ f, (simAdvanced ρ budget mc ms sq a orc).stop ≠ .fault f := by
  obtain ⟨t0, st, hi, ht0, hli⟩ := initState_LI ρ hmc hms (N := N) hq hfrac hd hpps orc
  intro f hf
  unfold simAdvanced at hf
  simp only [hi, finish_stop] at hf
  obtain ⟨st1, i1, c1, ⟨hli1, hlt1, _⟩, hs⟩ :=
    (loop_inv ρ a (I := RunHead a N d T t0) (fun _ _ _ _ _ h => h.next ρ hcap ht0 hg) _ st 0 0
      ⟨hli, hN, Or.inr rfl⟩).1 f hf
  exact step_LI_ok ρ hli1 hlt1 ht0 hg f hs

end


theorem parseTrace_queueOK {trace : List TraceLine} (d : Nat) {T : Nat} (hne : trace ≠ [])
    (hT : ∀ l ∈ trace, l.1 ≤ T) : QueueOK (parseTrace trace d) (-(d : Int)) (T : Int) := by
  obtain ⟨hs1, hs2⟩ := parseTrace_sides trace d
  have hside := side_congr hs1 hs2
  refine ⟨(parseTrace_spec trace d).1, ?_, parseTrace_other_empty trace d, ?_, parseTrace_firstTime_some trace d hne⟩
  · intro c qi
    rw [hside]
    exact pushAll_ord _ _ empty_ord c qi
  · refine SimQueue.allE_mono (parseTrace_mem trace d) ?_
    intro e he
    simp only [List.mem_map] at he
    obtain ⟨l, hl, hle⟩ := he
    subst hle
    have := hT l hl
    unfold nsOf
    split <;> simp only [] <;> omega

theorem parseTrace_pps_pos {trace : List TraceLine} (d : Nat) (hne : trace ≠ []) :
    ∃ lim, (parseTrace trace d).maxPps = some lim ∧ 1 ≤ lim := by
  obtain ⟨lim, hlim, hs, hr⟩ := parseTrace_limit trace d
  refine ⟨lim, hlim, ?_⟩
  have hf : 1 ≤ Gen.SIM_PARSE_PPS_FACTOR := by decide
  cases htr : trace with
  | nil => exact absurd htr hne
  | cons l ls =>
    cases hl : l.2
    · have : rTimes trace = (l.1 : Int) :: rTimes ls := by rw [htr]; simp [rTimes, hl]
      rw [this] at hr
      have := hr 1 (feedCounts_head _ _ _)
      omega
    · have : sTimes trace = (l.1 : Int) :: sTimes ls := by rw [htr]; simp [sTimes, hl]
      rw [this] at hs
      have := hs 1 (feedCounts_head _ _ _)
      omega

theorem parseTrace_effPps {trace : List TraceLine} (d : Nat) (hne : trace ≠ []) (net : Network)
    (hpps : ∀ p, net.pps = some p → 1 ≤ p) : 1 ≤ effPps net (parseTrace trace d).maxPps := by
  unfold effPps
  cases hp : net.pps with
  | some p => exact hpps p hp
  | none =>
    obtain ⟨lim, hlim, hpos⟩ := parseTrace_pps_pos d hne
    simp [hlim, hpos]

end Mb.Sim
