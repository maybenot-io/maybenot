/-
  C08, call level, order on the log: the ghost log segment of any single call satisfies the two
  rules of the monitor `C08.checkLog` / `C08.strayCZ` (Spec/C08.lean): read chronologically, every
  `counter mi ao an bo bn` entry is immediately followed by `trans mi CounterZero _` exactly when
  the update was a zeroing one (non-zero -> zero for a counter whose per-call flag of that machine
  was still unset), every `trans mi CounterZero _` entry is immediately preceded by a
  `counter mi ..` entry, and all logged counter values are u64.

  Method: `Good f c f'` says that the monitor, started with flags `f` in front of the chronological
  segment `c` followed by any continuation that does not start with a CounterZero delivery, ends up
  with flags `f'` in front of the continuation (for both rules). Such segments compose. `Inv f s`
  ties the monitor's flag lists to the model's per-machine `zeroedA/zeroedB` flags and carries the
  u64 bound on the counters. The relation `R s t` ("`t` extends the log of `s` by a good segment,
  and the invariant is carried along") is reflexive, transitive and holds for `transition` /
  `updateCounter` (mutual induction on the fuel, with the fuel potential `2 * unset + 2` of C01 to
  know that the CounterZero delivery really happens), hence - by the generic walker - for whole
  calls. `counters_spec` describes the two counter updates of `update_counter` once, for `R` here
  and for the value rule of the monitor (MonitorAcceptB.lean).
-/
import MbVerif.Proofs.Calm
import MbVerif.Proofs.TransInduct
import MbVerif.Proofs.SafeCall
import MbVerif.Proofs.CzCount
import MbVerif.Spec.C08

namespace Mb
namespace CL
open C08 (Flags checkLog strayCZ operandOf)

def headCZ : List LogEntry → Bool
  | .trans _ ev _ :: _ => ev == Gen.EV_CounterZero
  | _ => false

/-- entries the monitor skips: everything but counter updates and CounterZero deliveries -/
def plain : LogEntry → Bool
  | .counter .. => false
  | .trans _ ev _ => ev != Gen.EV_CounterZero
  | _ => true

def nextCZ (mi : Nat) : List LogEntry → Bool
  | .trans m ev _ :: _ => m == mi && ev == Gen.EV_CounterZero
  | _ => false

theorem headCZ_append {c₁ c₂ : List LogEntry} (h₁ : headCZ c₁ = false) (h₂ : headCZ c₂ = false) :
    headCZ (c₁ ++ c₂) = false := by
  cases c₁ with
  | nil => exact h₂
  | cons e c => cases e <;> exact h₁

theorem nextCZ_of_headCZ (mi : Nat) {l : List LogEntry} (h : headCZ l = false) : nextCZ mi l = false := by
  cases l with
  | nil => rfl
  | cons e l =>
    cases e with
    | trans m ev st => exact (congrArg (m == mi && ·) (show (ev == Gen.EV_CounterZero) = false from h)).trans (Bool.and_false _)
    | _ => rfl

/-- `strayCZ` only inspects adjacent pairs: an entry in front of a list that does not start with a
    CounterZero delivery changes nothing -/
theorem strayCZ_cons (e : LogEntry) (l : List LogEntry) (h : headCZ l = false) :
    strayCZ (e :: l) = strayCZ l := by
  cases l with
  | nil => rfl
  | cons b r =>
    cases b with
    | trans mi ev st =>
      have hev : (ev == Gen.EV_CounterZero) = false := h
      simp [strayCZ, hev]
    | _ => simp only [strayCZ]

theorem strayCZ_pair (mi ao an bo bn st : Nat) (l : List LogEntry) :
    strayCZ (.counter mi ao an bo bn :: .trans mi Gen.EV_CounterZero st :: l) =
      strayCZ (.trans mi Gen.EV_CounterZero st :: l) := by
  simp [strayCZ]

/-- the monitor, started with flags `f` in front of `c ++ rest`, reaches `rest` with flags `f'`
    (for every continuation `rest` that does not start with a CounterZero delivery) -/
structure Good (f : Flags) (c : List LogEntry) (f' : Flags) : Prop where
  head : headCZ c = false
  chk : ∀ rest, headCZ rest = false → checkLog f (c ++ rest) = checkLog f' rest
  stray : ∀ rest, headCZ rest = false → strayCZ (c ++ rest) = strayCZ rest

theorem Good.nil (f : Flags) : Good f [] f := ⟨rfl, fun _ _ => rfl, fun _ _ => rfl⟩

theorem Good.append {f f₁ f₂ : Flags} {c₁ c₂ : List LogEntry} (h₁ : Good f c₁ f₁) (h₂ : Good f₁ c₂ f₂) :
    Good f (c₁ ++ c₂) f₂ := by
  refine ⟨headCZ_append h₁.head h₂.head, fun rest hr => ?_, fun rest hr => ?_⟩
  · rw [List.append_assoc, h₁.chk _ (headCZ_append h₂.head hr), h₂.chk _ hr]
  · rw [List.append_assoc, h₁.stray _ (headCZ_append h₂.head hr), h₂.stray _ hr]

theorem Good.accepted {f f' : Flags} {c : List LogEntry} (h : Good f c f') : checkLog f c = none ∧ strayCZ c = none := by
  have h1 := h.chk [] rfl
  have h2 := h.stray [] rfl
  rw [List.append_nil] at h1 h2
  exact ⟨h1, h2⟩

theorem checkLog_plain (f : Flags) (e : LogEntry) (he : plain e = true) (l : List LogEntry) :
    checkLog f (e :: l) = checkLog f l := by
  cases e with
  | counter => cases he
  | _ => simp only [checkLog]

theorem Good.single (f : Flags) (e : LogEntry) (he : plain e = true) : Good f [e] f := by
  refine ⟨?_, fun rest _ => checkLog_plain f e he rest, fun rest hr => strayCZ_cons e rest hr⟩
  cases e with
  | trans mi ev st => simpa [headCZ, plain] using he
  | _ => rfl

theorem Good.ofPlain (f : Flags) (c : List LogEntry) (h : ∀ e ∈ c, plain e = true) : Good f c f := by
  induction c with
  | nil => exact Good.nil f
  | cons e c ih =>
    exact (Good.single f e (h e List.mem_cons_self)).append (ih fun e' he' => h e' (List.mem_cons_of_mem _ he'))

/-- the flags after a counter update in which A / B were (`za` / `zb`) zeroed -/
def upd (f : Flags) (mi : Nat) (za zb : Bool) : Flags :=
  { a := if za then mi :: f.a else f.a, b := if zb then mi :: f.b else f.b }

/-- the monitor's step on a counter entry, with the look-ahead named -/
theorem checkLog_counter (f : Flags) (mi ao an bo bn : Nat) (rest : List LogEntry) :
    checkLog f (.counter mi ao an bo bn :: rest) =
      if an > Fp.u64Max || bn > Fp.u64Max then some s!"counter of machine {mi} left the u64 range" else
      if ((ao != 0 && an == 0 && !f.a.contains mi) || (bo != 0 && bn == 0 && !f.b.contains mi)) && !nextCZ mi rest then
        some s!"machine {mi}: counter went to zero ({ao}->{an}, {bo}->{bn}) but no CounterZero followed"
      else if !((ao != 0 && an == 0 && !f.a.contains mi) || (bo != 0 && bn == 0 && !f.b.contains mi)) && nextCZ mi rest then
        some s!"machine {mi}: CounterZero without a counter reaching zero from non-zero ({ao}->{an}, {bo}->{bn})"
      else checkLog (upd f mi (ao != 0 && an == 0 && !f.a.contains mi) (bo != 0 && bn == 0 && !f.b.contains mi)) rest := by
  cases rest with
  | nil => rfl
  | cons b r => cases b <;> rfl

theorem checkLog_counter_ok (f : Flags) (mi ao an bo bn : Nat) (rest : List LogEntry)
    (han : an ≤ Fp.u64Max) (hbn : bn ≤ Fp.u64Max)
    (hn : nextCZ mi rest = ((ao != 0 && an == 0 && !f.a.contains mi) || (bo != 0 && bn == 0 && !f.b.contains mi))) :
    checkLog f (.counter mi ao an bo bn :: rest) =
      checkLog (upd f mi (ao != 0 && an == 0 && !f.a.contains mi) (bo != 0 && bn == 0 && !f.b.contains mi)) rest := by
  rw [checkLog_counter, hn, if_neg (by simp only [Bool.or_eq_true, decide_eq_true_eq]; omega),
    Bool.and_not_self, Bool.not_and_self]
  rfl

theorem checkLog_counter_none (f : Flags) (mi ao an bo bn : Nat) (rest : List LogEntry)
    (h : checkLog f (.counter mi ao an bo bn :: rest) = none) :
    an ≤ Fp.u64Max ∧ bn ≤ Fp.u64Max ∧
    nextCZ mi rest = ((ao != 0 && an == 0 && !f.a.contains mi) || (bo != 0 && bn == 0 && !f.b.contains mi)) ∧
    checkLog (upd f mi (ao != 0 && an == 0 && !f.a.contains mi) (bo != 0 && bn == 0 && !f.b.contains mi)) rest = none := by
  rw [checkLog_counter] at h
  generalize ((ao != 0 && an == 0 && !f.a.contains mi) || (bo != 0 && bn == 0 && !f.b.contains mi)) = z at h ⊢
  generalize nextCZ mi rest = nx at h ⊢
  split at h
  · cases h
  · next hb =>
    simp only [Bool.or_eq_true, decide_eq_true_eq, not_or, Nat.not_lt] at hb
    refine ⟨hb.1, hb.2, ?_⟩
    revert h
    cases z <;> cases nx <;> simp

theorem Good.counterNZ (f : Flags) (mi ao an bo bn : Nat) (za zb : Bool) (han : an ≤ Fp.u64Max) (hbn : bn ≤ Fp.u64Max)
    (hza : (ao != 0 && an == 0 && !f.a.contains mi) = za) (hzb : (bo != 0 && bn == 0 && !f.b.contains mi) = zb)
    (hz : (za || zb) = false) : Good f [.counter mi ao an bo bn] (upd f mi za zb) := by
  subst hza hzb
  exact ⟨rfl, fun rest hr => checkLog_counter_ok f mi ao an bo bn rest han hbn ((nextCZ_of_headCZ mi hr).trans hz.symm),
    fun rest hr => strayCZ_cons _ rest hr⟩

theorem Good.counterZ (f : Flags) (mi ao an bo bn st : Nat) (za zb : Bool) (han : an ≤ Fp.u64Max) (hbn : bn ≤ Fp.u64Max)
    (hza : (ao != 0 && an == 0 && !f.a.contains mi) = za) (hzb : (bo != 0 && bn == 0 && !f.b.contains mi) = zb)
    (hz : (za || zb) = true) :
    Good f [.counter mi ao an bo bn, .trans mi Gen.EV_CounterZero st] (upd f mi za zb) := by
  subst hza hzb
  refine ⟨rfl, fun rest hr => ?_, fun rest hr => ?_⟩
  · exact (checkLog_counter_ok f mi ao an bo bn _ han hbn
      ((show nextCZ mi (.trans mi Gen.EV_CounterZero st :: rest) = true by simp [nextCZ]).trans hz.symm)).trans
      (by simp only [checkLog])
  · exact (strayCZ_pair mi ao an bo bn st rest).trans (strayCZ_cons _ rest hr)

theorem nextCZ_iff (mi : Nat) (l : List LogEntry) :
    nextCZ mi l = true ↔ ∃ st rest, l = .trans mi Gen.EV_CounterZero st :: rest := by
  cases l with
  | nil => simp [nextCZ]
  | cons b r =>
    cases b with
    | trans m ev st =>
      simp only [nextCZ, Bool.and_eq_true, beq_iff_eq, List.cons.injEq, LogEntry.trans.injEq]
      exact ⟨fun ⟨h1, h2⟩ => ⟨st, r, ⟨h1, h2, rfl⟩, rfl⟩, fun ⟨_, _, ⟨h1, h2, _⟩, _⟩ => ⟨h1, h2⟩⟩
    | _ => simp [nextCZ]

theorem strayCZ_tail (a b : LogEntry) (l : List LogEntry) (h : strayCZ (a :: b :: l) = none) :
    strayCZ (b :: l) = none := by
  cases b with
  | trans mi ev st =>
    simp only [strayCZ] at h
    split at h
    · cases a with
      | counter m ao an bo bn =>
        simp only [] at h
        split at h
        · exact h
        · cases h
      | _ => cases h
    · exact h
  | _ => simpa only [strayCZ] using h

/-- rule 2, read off an accepted log: a CounterZero delivery that is not the first entry comes
    directly after a counter update of the same machine -/
theorem strayCZ_preceded (a : LogEntry) (p rest : List LogEntry) (mi st : Nat)
    (h : strayCZ (a :: p ++ .trans mi Gen.EV_CounterZero st :: rest) = none) :
    ∃ pre' ao an bo bn, a :: p = pre' ++ [.counter mi ao an bo bn] := by
  induction p generalizing a with
  | nil =>
    simp only [List.cons_append, List.nil_append, strayCZ, beq_self_eq_true, if_true] at h
    cases a with
    | counter m ao an bo bn =>
      simp only [] at h
      split at h
      · next hm =>
        have : m = mi := by simpa using hm
        subst this
        exact ⟨[], ao, an, bo, bn, rfl⟩
      · cases h
    | _ => cases h
  | cons b p ih =>
    obtain ⟨pre', ao, an, bo, bn, e⟩ := ih b (strayCZ_tail a b _ h)
    exact ⟨a :: pre', ao, an, bo, bn, by rw [e]; rfl⟩

/-- the flags the monitor holds after an accepted prefix -/
def flagsAfter : Flags → List LogEntry → Flags
  | f, [] => f
  | f, .counter mi ao an bo bn :: rest =>
    flagsAfter (upd f mi (ao != 0 && an == 0 && !f.a.contains mi) (bo != 0 && bn == 0 && !f.b.contains mi)) rest
  | f, _ :: rest => flagsAfter f rest

theorem checkLog_split (f : Flags) (pre rest : List LogEntry) (h : checkLog f (pre ++ rest) = none) :
    checkLog (flagsAfter f pre) rest = none := by
  induction pre generalizing f with
  | nil => exact h
  | cons e pre ih =>
    cases e with
    | counter mi ao an bo bn => exact ih _ (checkLog_counter_none f mi ao an bo bn _ h).2.2.2
    | _ => exact ih f (by simpa only [List.cons_append, checkLog] using h)

/-- counter A of machine `mi` went from non-zero to zero somewhere in the segment -/
def ZeroedA (mi : Nat) (pre : List LogEntry) : Prop :=
  ∃ ao an bo bn, LogEntry.counter mi ao an bo bn ∈ pre ∧ ao ≠ 0 ∧ an = 0

/-- counter B of machine `mi` went from non-zero to zero somewhere in the segment -/
def ZeroedB (mi : Nat) (pre : List LogEntry) : Prop :=
  ∃ ao an bo bn, LogEntry.counter mi ao an bo bn ∈ pre ∧ bo ≠ 0 ∧ bn = 0

theorem mem_flag (l : List Nat) (m mi o n : Nat) :
    mi ∈ (if (o != 0 && n == 0 && !l.contains m) = true then m :: l else l) ↔ mi ∈ l ∨ (m = mi ∧ o ≠ 0 ∧ n = 0) := by
  by_cases hm : m = mi
  · subst hm
    by_cases h1 : o = 0 <;> by_cases h2 : n = 0 <;> by_cases h3 : m ∈ l <;> simp [h1, h2, h3]
  · have hm' : mi ≠ m := fun h => hm h.symm
    split <;> simp [hm, hm']

/-- membership in one of the two flag lists (`sel`) after a prefix, given what a counter entry does
    to that list -/
theorem flagsAfter_mem (sel : Flags → List Nat) (p : Nat → Nat → Nat → Nat → Prop) (mi : Nat)
    (hsel : ∀ f m ao an bo bn,
      mi ∈ sel (upd f m (ao != 0 && an == 0 && !f.a.contains m) (bo != 0 && bn == 0 && !f.b.contains m)) ↔
        mi ∈ sel f ∨ (m = mi ∧ p ao an bo bn)) (f : Flags) (pre : List LogEntry) :
    mi ∈ sel (flagsAfter f pre) ↔
      mi ∈ sel f ∨ ∃ ao an bo bn, LogEntry.counter mi ao an bo bn ∈ pre ∧ p ao an bo bn := by
  induction pre generalizing f with
  | nil => simp [flagsAfter]
  | cons e pre ih =>
    cases e with
    | counter m ao an bo bn =>
      refine (ih _).trans ?_
      rw [hsel, or_assoc]
      refine or_congr_right ⟨?_, ?_⟩
      · rintro (⟨rfl, hp⟩ | ⟨ao', an', bo', bn', hm, hp⟩)
        · exact ⟨ao, an, bo, bn, List.mem_cons_self, hp⟩
        · exact ⟨ao', an', bo', bn', List.mem_cons_of_mem _ hm, hp⟩
      · rintro ⟨ao', an', bo', bn', hm, hp⟩
        rcases List.mem_cons.1 hm with h | h
        · cases h; exact Or.inl ⟨rfl, hp⟩
        · exact Or.inr ⟨ao', an', bo', bn', h, hp⟩
    | _ =>
      refine (ih f).trans (or_congr_right (exists_congr fun _ => exists_congr fun _ => exists_congr fun _ =>
        exists_congr fun _ => and_congr_left' ?_))
      exact ⟨List.mem_cons_of_mem _, fun h => (List.mem_cons.1 h).resolve_left nofun⟩

theorem flagsAfter_a (mi : Nat) (f : Flags) (pre : List LogEntry) :
    mi ∈ (flagsAfter f pre).a ↔ mi ∈ f.a ∨ ZeroedA mi pre :=
  flagsAfter_mem (·.a) (fun ao an _ _ => ao ≠ 0 ∧ an = 0) mi (fun f m ao an _ _ => mem_flag f.a m mi ao an) f pre

theorem flagsAfter_b (mi : Nat) (f : Flags) (pre : List LogEntry) :
    mi ∈ (flagsAfter f pre).b ↔ mi ∈ f.b ∨ ZeroedB mi pre :=
  flagsAfter_mem (·.b) (fun _ _ bo bn => bo ≠ 0 ∧ bn = 0) mi (fun f m _ _ bo bn => mem_flag f.b m mi bo bn) f pre

/-- rule 1, read off an accepted log of a call (the flags start empty): a counter update logs u64
    values and is directly followed by the CounterZero delivery to the same machine exactly when
    counter A or counter B goes from non-zero to zero here for the first time in the segment -/
theorem checkLog_exact (pre rest : List LogEntry) (mi ao an bo bn : Nat)
    (h : checkLog { a := [], b := [] } (pre ++ .counter mi ao an bo bn :: rest) = none) :
    an ≤ Fp.u64Max ∧ bn ≤ Fp.u64Max ∧
    ((∃ st rest', rest = .trans mi Gen.EV_CounterZero st :: rest') ↔
      (ao ≠ 0 ∧ an = 0 ∧ ¬ ZeroedA mi pre) ∨ (bo ≠ 0 ∧ bn = 0 ∧ ¬ ZeroedB mi pre)) := by
  obtain ⟨k1, k2, k3, _⟩ := checkLog_counter_none _ mi ao an bo bn rest (checkLog_split _ pre _ h)
  refine ⟨k1, k2, ?_⟩
  rw [← nextCZ_iff, k3]
  simp [flagsAfter_a, flagsAfter_b, and_assoc]

variable {σ : Type} (ρ : Oracle σ)

/-- the monitor's flag lists agree with the model's per-machine flags, and all counters are u64 -/
structure Inv (f : Flags) (s : Fw σ) : Prop where
  a : ∀ mi, mi ∈ f.a ↔ zeroedAOf s mi = true
  b : ∀ mi, mi ∈ f.b ↔ zeroedBOf s mi = true
  bnd : ∀ (mi : Nat) (r : Runtime), s.rt[mi]? = some r → r.counterA ≤ Fp.u64Max ∧ r.counterB ≤ Fp.u64Max

/-- the part of a runtime the invariant depends on -/
def key (r : Runtime) : Bool × Bool × Nat × Nat := (r.zeroedA, r.zeroedB, r.counterA, r.counterB)

theorem Inv.congr {f : Flags} {s t : Fw σ} (h : SameOn key s t) (hi : Inv f s) : Inv f t := by
  refine ⟨fun mi => ?_, fun mi => ?_, fun mi r hr => ?_⟩
  · have e : zeroedAOf t mi = zeroedAOf s mi := by
      rw [zeroedAOf_eq, zeroedAOf_eq]; exact congrArg (·.getD false) (h.comp (·.1) mi)
    rw [e]; exact hi.a mi
  · have e : zeroedBOf t mi = zeroedBOf s mi := by
      rw [zeroedBOf_eq, zeroedBOf_eq]; exact congrArg (·.getD false) (h.comp (·.2.1) mi)
    rw [e]; exact hi.b mi
  · obtain ⟨r0, hs, hk⟩ := SameOn.some h hr
    rw [show r.counterA = r0.counterA from congrArg (·.2.2.1) hk, show r.counterB = r0.counterB from congrArg (·.2.2.2) hk]
    exact hi.bnd mi r0 hs

theorem flag_update {l : List Nat} {fs ft : Nat → Bool} {mi : Nat} {z : Bool} (h : ∀ j, j ∈ l ↔ fs j = true)
    (hmi : ft mi = (fs mi || z)) (ho : ∀ j, j ≠ mi → ft j = fs j) (j : Nat) :
    j ∈ (if z = true then mi :: l else l) ↔ ft j = true := by
  by_cases hj : j = mi
  · subst hj
    rw [hmi]
    cases z <;> simp [h j]
  · rw [ho j hj, ← h j]
    cases z <;> simp [hj]

theorem Inv.update {f : Flags} {s t : Fw σ} {mi : Nat} {r r' : Runtime} (za zb : Bool) (hi : Inv f s)
    (hr : s.rt[mi]? = some r) (hr' : t.rt[mi]? = some r')
    (ho : ∀ j, j ≠ mi → t.rt[j]? = s.rt[j]?)
    (hza : r'.zeroedA = (r.zeroedA || za)) (hzb : r'.zeroedB = (r.zeroedB || zb))
    (hca : r'.counterA ≤ Fp.u64Max) (hcb : r'.counterB ≤ Fp.u64Max) : Inv (upd f mi za zb) t := by
  refine ⟨flag_update hi.a ?_ fun j hj => ?_, flag_update hi.b ?_ fun j hj => ?_, fun j rj hj => ?_⟩
  · unfold zeroedAOf; rw [hr, hr']; exact hza
  · unfold zeroedAOf; rw [ho j hj]
  · unfold zeroedBOf; rw [hr, hr']; exact hzb
  · unfold zeroedBOf; rw [ho j hj]
  · by_cases hjm : j = mi
    · rw [hjm, hr'] at hj
      cases hj
      exact ⟨hca, hcb⟩
    · rw [ho j hjm] at hj
      exact hi.bnd j rj hj

/-- `t` extends the log of `s` by a segment `l` (newest first) which, read chronologically, the
    monitor accepts starting from any flags that agree with `s`, ending with flags that agree with `t` -/
def R (s t : Fw σ) : Prop :=
  ∃ l, t.log = l ++ s.log ∧ ∀ f, Inv f s → ∃ f', Good f l.reverse f' ∧ Inv f' t

theorem R.refl (s : Fw σ) : R s s := ⟨[], rfl, fun f hf => ⟨f, Good.nil f, hf⟩⟩

theorem R.trans {s t u : Fw σ} (h₁ : R s t) (h₂ : R t u) : R s u := by
  obtain ⟨l1, e1, p1⟩ := h₁
  obtain ⟨l2, e2, p2⟩ := h₂
  refine ⟨l2 ++ l1, by rw [e2, e1, List.append_assoc], fun f hf => ?_⟩
  obtain ⟨f1, g1, i1⟩ := p1 f hf
  obtain ⟨f2, g2, i2⟩ := p2 f1 i1
  exact ⟨f2, by rw [List.reverse_append]; exact g1.append g2, i2⟩

theorem R.keep {s t : Fw σ} (hl : t.log = s.log) (hk : SameOn key s t) : R s t :=
  ⟨[], hl, fun f hf => ⟨f, Good.nil f, hf.congr hk⟩⟩

theorem R.modRt (s : Fw σ) (j : Nat) (g : Runtime → Runtime) (hg : ∀ r, key (g r) = key r) : R s (s.modRt j g) :=
  R.keep (by simp) (SameOn.modRt key s j g hg)

theorem R.push (s : Fw σ) (e : LogEntry) (he : plain e = true) : R s (s.push e) :=
  ⟨[e], rfl, fun f hf => ⟨f, Good.single f e he, ⟨hf.a, hf.b, hf.bnd⟩⟩⟩

theorem plain_of_calm {e : LogEntry} (h : calm e = true) : plain e = true := by
  cases e <;> first | rfl | cases h

theorem _root_.Mb.Calm.toR {s t : Fw σ} (h : Calm s t) : R s t := by
  obtain ⟨l, e, q⟩ := h.log
  exact ⟨l, e, fun f hf => ⟨f, Good.ofPlain f _ (fun x hx => plain_of_calm (q x (List.mem_reverse.1 hx))),
    hf.congr (h.rt.comp (·.2))⟩⟩

theorem r_enterState (mi : Nat) (m : Machine) (cur next : Nat) (s : Fw σ) : R s (enterState ρ mi m cur next s) := by
  by_cases h : cur = next
  · rw [h, enterState_self]; exact R.refl s
  · exact (R.modRt s mi (fun r => { r with currentState := next }) (fun _ => rfl)).trans (calm_enterState ρ mi m s h).toR

theorem applyOp_le (op : Operation) (cur change : Nat) (hc : cur ≤ Fp.u64Max) (hv : change ≤ Fp.u64Max) :
    applyOp op cur change ≤ Fp.u64Max := by
  cases op with
  | increment => show (if cur + change > Fp.u64Max then Fp.u64Max else cur + change) ≤ _; split <;> omega
  | decrement => exact Nat.le_trans (Nat.sub_le cur change) hc
  | set => exact hv

theorem sampleValue_le (c : Counter) (s : Fw σ) : (sampleValue ρ c s).1 ≤ Fp.u64Max := by
  unfold sampleValue
  cases c.dist with
  | none => simp [Fp.u64Max]
  | some d => simp only []; exact toU64_lt _

theorem counterOperand_le (c : Counter) (other : Nat) (s : Fw σ) (ho : other ≤ Fp.u64Max) :
    (counterOperand ρ c other s).1 ≤ Fp.u64Max := by
  unfold counterOperand; split
  · exact ho
  · exact sampleValue_le ρ c s

theorem storeA_spec (mi oldA newA : Nat) (s : Fw σ) (r : Runtime) (hr : s.rt[mi]? = some r) :
    (storeCounterA mi oldA newA s).2 = (decide (oldA ≠ 0) && decide (newA = 0) && !r.zeroedA) ∧
    (storeCounterA mi oldA newA s).1.rt[mi]? =
      some { r with counterA := newA, zeroedA := r.zeroedA || (storeCounterA mi oldA newA s).2 } ∧
    (∀ j, j ≠ mi → (storeCounterA mi oldA newA s).1.rt[j]? = s.rt[j]?) ∧
    (storeCounterA mi oldA newA s).1.log = s.log ∧
    (storeCounterA mi oldA newA s).1.machines = s.machines := by
  have hz : zeroedAOf (s.modRt mi (fun r => { r with counterA := newA })) mi = r.zeroedA := by
    rw [zeroedAOf_modRt, hr]; rfl
  unfold storeCounterA
  simp only [hz]
  split
  · next h =>
    refine ⟨h.symm, ?_, fun j hj => ?_, by simp, by simp⟩
    · rw [Fw.modRt_rt_self, Fw.modRt_rt_self, hr]; simp
    · rw [Fw.modRt_rt_other _ mi j _ hj, Fw.modRt_rt_other _ mi j _ hj]
  · next h =>
    refine ⟨?_, ?_, fun j hj => ?_, by simp, by simp⟩
    · simp only [Bool.not_eq_true] at h; exact h.symm
    · rw [Fw.modRt_rt_self, hr]; simp
    · rw [Fw.modRt_rt_other _ mi j _ hj]

theorem storeB_spec (mi oldB newB : Nat) (s : Fw σ) (r : Runtime) (hr : s.rt[mi]? = some r) :
    (storeCounterB mi oldB newB s).2 = (decide (oldB ≠ 0) && decide (newB = 0) && !r.zeroedB) ∧
    (storeCounterB mi oldB newB s).1.rt[mi]? =
      some { r with counterB := newB, zeroedB := r.zeroedB || (storeCounterB mi oldB newB s).2 } ∧
    (∀ j, j ≠ mi → (storeCounterB mi oldB newB s).1.rt[j]? = s.rt[j]?) ∧
    (storeCounterB mi oldB newB s).1.log = s.log ∧
    (storeCounterB mi oldB newB s).1.machines = s.machines := by
  have hz : zeroedBOf (s.modRt mi (fun r => { r with counterB := newB })) mi = r.zeroedB := by
    rw [zeroedBOf_modRt, hr]; rfl
  unfold storeCounterB
  simp only [hz]
  split
  · next h =>
    refine ⟨h.symm, ?_, fun j hj => ?_, by simp, by simp⟩
    · rw [Fw.modRt_rt_self, Fw.modRt_rt_self, hr]; simp
    · rw [Fw.modRt_rt_other _ mi j _ hj, Fw.modRt_rt_other _ mi j _ hj]
  · next h =>
    refine ⟨?_, ?_, fun j hj => ?_, by simp, by simp⟩
    · simp only [Bool.not_eq_true] at h; exact h.symm
    · rw [Fw.modRt_rt_self, hr]; simp
    · rw [Fw.modRt_rt_other _ mi j _ hj]

/-- number of raw samples one counter specification consumes. `need` and `expOf` are the functions
    `MB.needOf` and `MB.expAOf` of MonitorAcceptB.lean, which the statements about the value rule are
    written with and which lie above this file in the import order; `MB.v_counters` passes between the two pairs by
    unfolding. -/
def need (c : Option Counter) : Nat :=
  match c with
  | some c => if !c.copy && c.dist.isSome then 1 else 0
  | none => 0

/-- the value the monitor expects from a counter specification for the old values `own`, `other`
    and the raw samples at hand, and the raw samples left -/
def expOf (c : Option Counter) (own other : Nat) (raws : List F64) : Nat × List F64 :=
  match c with
  | none => (own, raws)
  | some c => (applyOp c.operation own (operandOf c other raws).1, (operandOf c other raws).2)

/-- the operand of a counter update as the model computes it is the operand the monitor computes
    from the raw samples the update logs -/
theorem operand_val (c : Counter) (other : Nat) (s : Fw σ) :
    ∃ raws : List F64, raws.length = need (some c) ∧
      (counterOperand ρ c other s).2.log = (raws.map LogEntry.distRaw).reverse ++ s.log ∧
      (counterOperand ρ c other s).2.rt = s.rt ∧ (counterOperand ρ c other s).2.machines = s.machines ∧
      ∀ more, operandOf c other (raws ++ more) = ((counterOperand ρ c other s).1, more) := by
  unfold counterOperand operandOf
  cases hc : c.copy with
  | true => exact ⟨[], by simp [need, hc], rfl, rfl, rfl, fun more => by simp⟩
  | false =>
    simp only [Bool.false_eq_true, if_false]
    unfold sampleValue
    cases hd : c.dist with
    | none => exact ⟨[], by simp [need, hc, hd], rfl, rfl, rfl, fun more => by simp⟩
    | some d =>
      simp only []
      unfold distSample
      refine ⟨[match d.constUniform with | some lo => lo | none => (ρ.d d s.rng).1], by simp [need, hc, hd],
        rfl, rfl, rfl, fun more => ?_⟩
      cases d.constUniform <;> simp

/-- counter A part of `update_counter` on a machine with runtime `r`: it logs the raw samples of its
    operand, from which the monitor computes the stored value; the value is a u64; the report is
    "non-zero -> zero with the flag unset" and sets the flag; nothing else changes -/
theorem applyA_spec (mi : Nat) (c : Option Counter) (oldA oldB : Nat) (s : Fw σ) (r : Runtime)
    (hr : s.rt[mi]? = some r) (hoA : oldA = r.counterA) :
    ∃ (raws : List F64) (newA : Nat), raws.length = need c ∧
      (∀ more, expOf c oldA oldB (raws ++ more) = (newA, more)) ∧
      (oldA ≤ Fp.u64Max → oldB ≤ Fp.u64Max → newA ≤ Fp.u64Max) ∧
      (applyCounterA ρ mi c oldA oldB s).2 = (decide (oldA ≠ 0) && decide (newA = 0) && !r.zeroedA) ∧
      (applyCounterA ρ mi c oldA oldB s).1.rt[mi]? =
        some { r with counterA := newA, zeroedA := r.zeroedA || (applyCounterA ρ mi c oldA oldB s).2 } ∧
      (∀ j, j ≠ mi → (applyCounterA ρ mi c oldA oldB s).1.rt[j]? = s.rt[j]?) ∧
      (applyCounterA ρ mi c oldA oldB s).1.log = (raws.map LogEntry.distRaw).reverse ++ s.log ∧
      (applyCounterA ρ mi c oldA oldB s).1.machines = s.machines := by
  unfold applyCounterA
  cases c with
  | none =>
    refine ⟨[], oldA, rfl, fun _ => rfl, fun hA _ => hA, ?_, ?_, fun _ _ => rfl, rfl, rfl⟩
    · by_cases h0 : oldA = 0 <;> simp [h0]
    · subst hoA; simp [hr]
  | some c =>
    simp only []
    obtain ⟨raws, hlen, hl, hrt, hm, hop⟩ := operand_val ρ c oldB s
    have hle := counterOperand_le ρ c oldB s
    generalize counterOperand ρ c oldB s = p at hl hrt hm hop hle ⊢
    obtain ⟨h1, h2, h3, h4, h5⟩ := storeA_spec mi oldA (applyOp c.operation oldA p.1) p.2 r (by rw [hrt]; exact hr)
    exact ⟨raws, _, hlen, fun more => by simp only [expOf, hop more], fun hA hB => applyOp_le _ _ _ hA (hle hB), h1, h2,
      fun j hj => by rw [h3 j hj, hrt], by rw [h4, hl], h5.trans hm⟩

theorem applyB_spec (mi : Nat) (c : Option Counter) (oldA oldB : Nat) (s : Fw σ) (r : Runtime)
    (hr : s.rt[mi]? = some r) (hoB : oldB = r.counterB) :
    ∃ (raws : List F64) (newB : Nat), raws.length = need c ∧
      (∀ more, expOf c oldB oldA (raws ++ more) = (newB, more)) ∧
      (oldA ≤ Fp.u64Max → oldB ≤ Fp.u64Max → newB ≤ Fp.u64Max) ∧
      (applyCounterB ρ mi c oldA oldB s).2 = (decide (oldB ≠ 0) && decide (newB = 0) && !r.zeroedB) ∧
      (applyCounterB ρ mi c oldA oldB s).1.rt[mi]? =
        some { r with counterB := newB, zeroedB := r.zeroedB || (applyCounterB ρ mi c oldA oldB s).2 } ∧
      (∀ j, j ≠ mi → (applyCounterB ρ mi c oldA oldB s).1.rt[j]? = s.rt[j]?) ∧
      (applyCounterB ρ mi c oldA oldB s).1.log = (raws.map LogEntry.distRaw).reverse ++ s.log ∧
      (applyCounterB ρ mi c oldA oldB s).1.machines = s.machines := by
  unfold applyCounterB
  cases c with
  | none =>
    refine ⟨[], oldB, rfl, fun _ => rfl, fun _ hB => hB, ?_, ?_, fun _ _ => rfl, rfl, rfl⟩
    · by_cases h0 : oldB = 0 <;> simp [h0]
    · subst hoB; simp [hr]
  | some c =>
    simp only []
    obtain ⟨raws, hlen, hl, hrt, hm, hop⟩ := operand_val ρ c oldA s
    have hle := counterOperand_le ρ c oldA s
    generalize counterOperand ρ c oldA s = p at hl hrt hm hop hle ⊢
    obtain ⟨h1, h2, h3, h4, h5⟩ := storeB_spec mi oldB (applyOp c.operation oldB p.1) p.2 r (by rw [hrt]; exact hr)
    exact ⟨raws, _, hlen, fun more => by simp only [expOf, hop more], fun hA hB => applyOp_le _ _ _ hB (hle hA), h1, h2,
      fun j hj => by rw [h3 j hj, hrt], by rw [h4, hl], h5.trans hm⟩

/-- the two counter updates of `update_counter` on a machine with runtime `r`, one after the other -/
theorem counters_spec (mi : Nat) (s : Fw σ) (r : Runtime) (ca cb : Option Counter) (hr : s.rt[mi]? = some r)
    (ra rb : Fw σ × Bool) (hra : ra = applyCounterA ρ mi ca r.counterA r.counterB s)
    (hrb : rb = applyCounterB ρ mi cb r.counterA r.counterB ra.1) :
    ∃ (rawsA rawsB : List F64) (newA newB : Nat) (r' : Runtime),
      rawsA.length = need ca ∧ rawsB.length = need cb ∧
      (∀ more, expOf ca r.counterA r.counterB (rawsA ++ more) = (newA, more)) ∧
      (∀ more, expOf cb r.counterB r.counterA (rawsB ++ more) = (newB, more)) ∧
      (r.counterA ≤ Fp.u64Max → r.counterB ≤ Fp.u64Max → newA ≤ Fp.u64Max ∧ newB ≤ Fp.u64Max) ∧
      ra.2 = (decide (r.counterA ≠ 0) && decide (newA = 0) && !r.zeroedA) ∧
      rb.2 = (decide (r.counterB ≠ 0) && decide (newB = 0) && !r.zeroedB) ∧
      rb.1.rt[mi]? = some r' ∧ r'.currentState = r.currentState ∧ r'.counterA = newA ∧ r'.counterB = newB ∧
      r'.zeroedA = (r.zeroedA || ra.2) ∧ r'.zeroedB = (r.zeroedB || rb.2) ∧
      (∀ j, j ≠ mi → rb.1.rt[j]? = s.rt[j]?) ∧
      rb.1.log = (rawsB.map LogEntry.distRaw).reverse ++ ((rawsA.map LogEntry.distRaw).reverse ++ s.log) ∧
      rb.1.machines = s.machines := by
  subst hrb hra
  obtain ⟨rawsA, newA, lA, eA, bA, zA, hA, oA, logA, mA⟩ := applyA_spec ρ mi ca r.counterA r.counterB s r hr rfl
  generalize applyCounterA ρ mi ca r.counterA r.counterB s = ra at zA hA oA logA mA ⊢
  obtain ⟨rawsB, newB, lB, eB, bB, zB, hB, oB, logB, mB⟩ := applyB_spec ρ mi cb r.counterA r.counterB ra.1 _ hA rfl
  generalize applyCounterB ρ mi cb r.counterA r.counterB ra.1 = rb at zB hB oB logB mB ⊢
  exact ⟨rawsA, rawsB, newA, newB, _, lA, lB, eA, eB, fun h1 h2 => ⟨bA h1 h2, bB h1 h2⟩, zA, zB, hB, rfl, rfl, rfl, rfl, rfl,
    fun j hj => (oB j hj).trans (oA j hj), by rw [logB, logA], mB.trans mA⟩

theorem za_eq (ao an mi : Nat) (l : List Nat) (z : Bool) (h : mi ∈ l ↔ z = true) :
    (ao != 0 && an == 0 && !l.contains mi) = (decide (ao ≠ 0) && decide (an = 0) && !z) := by
  have hc : l.contains mi = z := by
    cases z
    · simpa using h
    · simpa using h
  rw [hc]
  by_cases h1 : ao = 0 <;> by_cases h2 : an = 0 <;> simp [h1, h2]

/-- the two counter updates of `update_counter` and the entry they log. Without a report the log has
    grown by a segment the monitor accepts. With a report this holds once the CounterZero transition
    has appended to its own `trans` entry a segment the monitor accepts; that transition has its
    fuel, since a report costs an unset flag. -/
theorem r_counters (mi : Nat) (s : Fw σ) (r : Runtime) (ca cb : Option Counter) (hr : s.rt[mi]? = some r)
    (ra rb : Fw σ × Bool) (hra : ra = applyCounterA ρ mi ca r.counterA r.counterB s)
    (hrb : rb = applyCounterB ρ mi cb r.counterA r.counterB ra.1) :
    ((ra.2 || rb.2) = false →
      R s (rb.1.push (.counter mi r.counterA (counterAOf rb.1 mi) r.counterB (counterBOf rb.1 mi)))) ∧
    ((ra.2 || rb.2) = true →
      unset rb.1 mi + 1 ≤ unset s mi ∧ rb.1.machines = s.machines ∧ (∃ r2, rb.1.rt[mi]? = some r2) ∧
      ∀ st u, R ((rb.1.push (.counter mi r.counterA (counterAOf rb.1 mi) r.counterB (counterBOf rb.1 mi))).push
        (.trans mi Gen.EV_CounterZero st)) u → R s u) := by
  obtain ⟨_, _, newA, newB, r', -, -, -, -, hbnd, hzA, hzB, hrtB, -, hcA, hcB, hfA, hfB, ho, -, hm⟩ :=
    counters_spec ρ mi s r ca cb hr ra rb hra hrb
  rw [show counterAOf rb.1 mi = newA by unfold counterAOf; rw [hrtB]; exact hcA,
    show counterBOf rb.1 mi = newB by unfold counterBOf; rw [hrtB]; exact hcB]
  -- what the monitor computes for the entry from flags that agree with `s`, and its flags afterwards
  have hkey : ∀ f, Inv f s → (r.counterA != 0 && newA == 0 && !f.a.contains mi) = ra.2 ∧
      (r.counterB != 0 && newB == 0 && !f.b.contains mi) = rb.2 ∧ Inv (upd f mi ra.2 rb.2) rb.1 ∧
      newA ≤ Fp.u64Max ∧ newB ≤ Fp.u64Max := by
    intro f hf
    have ha' : mi ∈ f.a ↔ r.zeroedA = true := by
      have := hf.a mi; unfold zeroedAOf at this; rw [hr] at this; exact this
    have hb' : mi ∈ f.b ↔ r.zeroedB = true := by
      have := hf.b mi; unfold zeroedBOf at this; rw [hr] at this; exact this
    obtain ⟨kA, kB⟩ := hbnd (hf.bnd mi r hr).1 (hf.bnd mi r hr).2
    exact ⟨(za_eq _ _ _ _ _ ha').trans hzA.symm, (za_eq _ _ _ _ _ hb').trans hzB.symm,
      Inv.update _ _ hf hr hrtB ho hfA hfB (hcA ▸ kA) (hcB ▸ kB), kA, kB⟩
  subst hrb hra
  have hmi : mi < s.rt.length := by
    rcases Nat.lt_or_ge mi s.rt.length with h | h
    · exact h
    · simp [List.getElem?_eq_none h] at hr
  have gA := grow_applyCounterA ρ mi ca r.counterA r.counterB s
  obtain ⟨l, e, q⟩ := (gA.trans (grow_applyCounterB ρ mi cb r.counterA r.counterB _)).log
  have hl := fun f => Good.ofPlain f l.reverse fun x hx => plain_of_calm (q x (List.mem_reverse.1 hx))
  refine ⟨fun hz => ⟨.counter mi r.counterA newA r.counterB newB :: l, congrArg (_ :: ·) e, fun f hf => ?_⟩,
    fun hz => ⟨?_, hm, ⟨r', hrtB⟩, fun st u ⟨lT, eT, pT⟩ =>
      ⟨lT ++ (.trans mi Gen.EV_CounterZero st :: .counter mi r.counterA newA r.counterB newB :: l),
        by rw [eT]; simp [Fw.push, e], fun f hf => ?_⟩⟩⟩
  · obtain ⟨ka, kb, ki, kA, kB⟩ := hkey f hf
    exact ⟨_, by rw [List.reverse_cons]; exact (hl f).append (Good.counterNZ f mi _ _ _ _ _ _ kA kB ka kb hz),
      ⟨ki.a, ki.b, ki.bnd⟩⟩
  · have uA := unset_applyCounterA ρ mi ca r.counterA r.counterB s hmi
    have uB := unset_applyCounterB ρ mi cb r.counterA r.counterB _ (gA.len.symm ▸ hmi)
    have : (if (applyCounterA ρ mi ca r.counterA r.counterB s).2 = true then 1 else 0) +
        (if (applyCounterB ρ mi cb r.counterA r.counterB (applyCounterA ρ mi ca r.counterA r.counterB s).1).2 = true
          then 1 else 0) ≥ 1 := by
      revert hz
      cases (applyCounterA ρ mi ca r.counterA r.counterB s).2 <;>
        cases (applyCounterB ρ mi cb r.counterA r.counterB (applyCounterA ρ mi ca r.counterA r.counterB s).1).2 <;> decide
    omega
  · obtain ⟨ka, kb, ki, kA, kB⟩ := hkey f hf
    obtain ⟨f'', gT, iT⟩ := pT _ ⟨ki.a, ki.b, ki.bnd⟩
    exact ⟨f'', by simpa using ((hl f).append (Good.counterZ f mi _ _ _ _ st _ _ kA kB ka kb hz)).append gT, iT⟩

/-- with fuel for two deliveries per flag still unset, `transition` extends the log after its own
    `trans` entry, and `update_counter` the log as it finds it, by a segment the monitor accepts -/
theorem main (fuel : Nat) :
    (∀ mi (ev : Event) (s : Fw σ), 2 * unset s mi + 2 ≤ fuel → ∀ r, s.rt[mi]? = some r → s.machines[mi]? ≠ none →
      R (s.push (.trans mi ev.toNat r.currentState)) (transition ρ fuel mi ev s).1) ∧
    (∀ mi (s : Fw σ), 2 * unset s mi + 1 ≤ fuel → R s (updateCounter ρ fuel mi s).1) := by
  refine transition_induct ρ (PT := fun fuel mi _ s => 2 * unset s mi + 2 ≤ fuel)
    (PU := fun fuel mi s => 2 * unset s mi + 1 ≤ fuel)
    (T := fun _ mi ev s s' _ => ∀ r, s.rt[mi]? = some r → s.machines[mi]? ≠ none →
      R (s.push (.trans mi ev.toNat r.currentState)) s')
    (U := fun _ _ s s' _ _ => R s s')
    (fun _ _ _ h => by omega)
    (fun _ _ _ _ h _ r hr hm => h.elim (fun h => nomatch h.symm.trans hr) (fun h => absurd h hm))
    (fun n mi ev s r m hr hm hf => ?_)
    (fun _ _ h => by omega) (fun _ _ s _ _ => (Calm.withFault s _).toR)
    (fun n mi s r m hr hm hf => ?_) fuel
  · intro s0
    have wrap : ∀ {s' : Fw σ}, R s0 s' → ∀ r', s.rt[mi]? = some r' → s.machines[mi]? ≠ none →
        R (s.push (.trans mi ev.toNat r'.currentState)) s' :=
      fun h r' hr' _ => by cases hr.symm.trans hr'; exact h
    have h0 : R s0 s0 := R.refl _
    refine ⟨fun _ => wrap h0, fun _ => ⟨fun _ => wrap (Calm.withFault _ _).toR, fun st _ =>
      ⟨fun _ => wrap (Calm.withFault _ _).toR, fun _ => wrap h0, fun vec _ => ?_⟩⟩⟩
    intro d s1
    have h1 : R s0 s1 := Calm.toR (Calm.log1 (.draw d.1) rfl rfl rfl rfl)
    refine ⟨fun _ => wrap h1, fun next _ => ?_⟩
    intro s2
    have h2 : R s0 s2 := h1.trans (R.push _ _ rfl)
    refine ⟨fun _ => wrap (h2.trans (R.modRt _ _ _ (by intro _; rfl))),
      fun _ _ => wrap (h2.trans (Calm.toR (Calm.same rfl rfl rfl))), fun _ _ => ?_⟩
    intro s3
    have h3 : R s0 s3 := h2.trans (r_enterState ρ mi m r.currentState next s2)
    have hu3 : unset s3 mi = unset s mi := (unset_enterState ρ mi m r.currentState next s2).trans (unset_congr rfl)
    refine ⟨fun _ => wrap (h3.trans (Calm.withFault _ _).toR), fun r1 _ =>
      ⟨fun _ => wrap (h3.trans (Calm.withFault _ _).toR), fun below _ => ?_⟩⟩
    intro res ih s5
    have h4 : R s0 res.1 := h3.trans (ih (by omega))
    have h5 : R s0 s5 := by
      show R s0 (if (res.2.1 && below) = true then _ else _)
      split
      · exact h4.trans (calm_scheduleAction ρ mi next _).toR
      · exact h4
    exact ⟨fun _ => wrap (h5.trans (Calm.withFault _ _).toR), fun _ _ => wrap h5⟩
  · refine ⟨fun _ => (Calm.withFault s _).toR, fun st _ => ?_⟩
    intro ra rb s2
    obtain ⟨hNZ, hZ⟩ := r_counters ρ mi s r st.counterA st.counterB hr ra rb rfl rfl
    refine ⟨hNZ, fun hz => ?_⟩
    obtain ⟨hu, hm2, ⟨r2, hr2⟩, hR⟩ := hZ hz
    intro res ih
    have hu2 : unset s2 mi = unset rb.1 mi := unset_congr rfl
    have hR : R s res.1 := hR _ _ (ih (by omega) r2 hr2 (by
      show rb.1.machines[mi]? ≠ none
      rw [hm2, hm]; nofun))
    exact ⟨fun _ => hR.trans (Calm.withFault _ _).toR, fun _ _ => hR⟩

theorem r_transition (fuel j : Nat) (ev : Event) (s : Fw σ) (hev : ev ≠ .counterZero)
    (hf : 2 * unset s j + 2 ≤ fuel) : R s (transition ρ fuel j ev s).1 := by
  cases fuel with
  | zero => omega
  | succ n =>
    cases hr : s.rt[j]? with
    | none => rw [transition_oob ρ n j ev s (.inl hr)]; exact (Calm.withFault _ _).toR
    | some r =>
    cases hm : s.machines[j]? with
    | none => rw [transition_oob ρ n j ev s (.inr hm)]; exact (Calm.withFault _ _).toR
    | some m =>
      refine (R.push s (.trans j ev.toNat r.currentState) ?_).trans
        ((main ρ (n + 1)).1 j ev s hf r hr (by rw [hm]; nofun))
      have : ev.toNat ≠ Gen.EV_CounterZero := fun h => hev ((toNat_counterZero ev).1 h)
      simpa [plain] using this

theorem walkR : WalkEv ρ (R (σ := σ)) :=
  WalkEv.ofCalm ρ R.refl R.trans Calm.toR fun j ev s hev =>
    r_transition ρ FUEL j ev s hev (by have := unset_le_two s j; unfold FUEL; omega)

/-- the flags start empty: `callStart` clears every machine's flags -/
theorem inv_callStart (s : Fw σ) (t : Int)
    (hb : ∀ r ∈ s.rt, r.counterA ≤ Fp.u64Max ∧ r.counterB ≤ Fp.u64Max) :
    Inv { a := [], b := [] } (s.callStart t) := by
  refine ⟨fun mi => ?_, fun mi => ?_, fun mi r hr => ?_⟩
  · unfold zeroedAOf
    simp only [Fw.callStart, List.getElem?_map]
    cases s.rt[mi]? <;> simp
  · unfold zeroedBOf
    simp only [Fw.callStart, List.getElem?_map]
    cases s.rt[mi]? <;> simp
  · simp only [Fw.callStart, List.getElem?_map] at hr
    cases hs : s.rt[mi]? with
    | none => rw [hs] at hr; cases hr
    | some r0 =>
      rw [hs] at hr
      simp only [Option.map_some, Option.some.injEq] at hr
      rw [← hr]
      exact hb r0 (List.mem_of_getElem? hs)

theorem counters_init (ms : List Machine) (fp fb : F64) (t0 : Int) (rng : σ) :
    ∀ r ∈ (Fw.init ρ ms fp fb t0 rng).rt, r.counterA = 0 ∧ r.counterB = 0 := by
  intro r hr
  obtain ⟨i, hi, hget⟩ := List.getElem_of_mem hr
  obtain ⟨r0, h0, hk⟩ := SameOn.some (calm_init ρ ms fp fb t0 rng).rt
    (show _[i]? = some r by rw [List.getElem?_eq_getElem hi, hget])
  obtain ⟨_, _, rfl⟩ := List.mem_map.1 (show r0 ∈ (Fw.init0 ms fp fb t0 rng).rt from List.mem_of_getElem? h0)
  exact ⟨congrArg (·.2.2.2.1) hk, congrArg (·.2.2.2.2) hk⟩

/-- The log segment of a call satisfies the monitor. -/
theorem call_good (es : List TEvent) (t : Int) (s : Fw σ)
    (hb : ∀ r ∈ s.rt, r.counterA ≤ Fp.u64Max ∧ r.counterB ≤ Fp.u64Max) :
    ∃ c f', (triggerEvents ρ es t s).log = c.reverse ++ s.log ∧ Good { a := [], b := [] } c f' ∧
      Inv f' (triggerEvents ρ es t s) := by
  unfold triggerEvents
  have W := walkR ρ (σ := σ)
  have h1 : R (s.callStart t) (es.foldl (fun s e => processEvent ρ e s) (s.callStart t)) :=
    W.toWalkCore.foldl _ (fun a e => W.processEvent e a) es _
  have h2 := W.toWalkCore.signalRound (es.foldl (fun s e => processEvent ρ e s) (s.callStart t))
  obtain ⟨l, hl, hp⟩ := h1.trans h2
  obtain ⟨f', hg, hi⟩ := hp _ (inv_callStart s t hb)
  exact ⟨l.reverse, f', by rw [List.reverse_reverse]; exact hl, hg, hi⟩

end CL
end Mb
