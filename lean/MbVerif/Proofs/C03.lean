/-
  C03: blocking budgets — gate consequence and the blocking part of the accounting refinement.
-/
import MbVerif.Proofs.C02
import MbVerif.Spec.C03

namespace Mb
variable {σ : Type} (ρ : Oracle σ)

/-- the budget / share part of the blocking limit predicate, on the model's accounting fields -/
def blockOKF (g : Globals) (a : RtAcct) (m : Machine) (rp : Bool) : Prop :=
  (rp = true ∧ g.blockingActive = true) ∨
  a.blockingDur + (if g.blockingActive then durSince g.now g.blockingStarted else 0) < a.allowedBlocked ∨
  (C03.belowShare (a.blockingDur + (if g.blockingActive then durSince g.now g.blockingStarted else 0))
      (durSince g.now a.machineStart) m.maxBlockingFrac = true ∧
   C03.belowShare (g.blockingDur + (if g.blockingActive then durSince g.now g.blockingStarted else 0))
      (durSince g.now g.start) g.maxBlockingFrac = true)

def QBlock (g : Globals) (a : RtAcct) (m : Machine) (act : TAction) : Prop :=
  match act with
  | .blockOutgoing _ _ _ rp _ => blockOKF g a m rp
  | _ => True

theorem belowLimitBlocking_true (g : Globals) (r : Runtime) (m : Machine) (rp : Bool)
    (h : belowLimitBlocking g r m rp = some true) : blockOKF g r.acct m rp := by
  by_cases h1 : (rp && g.blockingActive) = true
  · left; simpa using h1
  · rw [belowLimitBlocking, if_neg h1] at h
    obtain ⟨_, h⟩ := of_ite_ne (by simp) h
    by_cases h3 : r.acct.blockingDur + (if g.blockingActive then durSince g.now g.blockingStarted else 0) <
        r.acct.allowedBlocked
    · exact Or.inr (Or.inl h3)
    · rw [if_neg h3] at h
      obtain ⟨hm, h⟩ := of_ite_ne (by simp) h
      exact Or.inr (Or.inr ⟨hm, (of_ite_ne (by simp) h).1⟩)

theorem gateConseq_QBlock : GateConseq QBlock := by
  intro g m r₁ st act mi tmo dur hst hact hb
  cases act with
  | blockOutgoing b rp tmo' du lim =>
    unfold belowActionLimits at hb
    rw [hst] at hb
    simp only [hact] at hb
    exact belowLimitBlocking_true g r₁ m rp hb
  | _ => trivial

/-- the accounting pair `p` agrees with the recount `b` of the blocking reports -/
structure BlkRel (t0 : Int) (fb : F64) (al : Nat → Nat) (b : C03.BlockAcc) (p : Globals × List RtAcct) : Prop where
  active : p.1.blockingActive = b.active
  started : p.1.blockingStarted = b.started
  total : p.1.blockingDur = b.total
  start : p.1.start = t0
  frac : p.1.maxBlockingFrac = fb
  per : ∀ i a, p.2[i]? = some a → a.blockingDur = b.total ∧ a.machineStart = t0 ∧ a.allowedBlocked = al i

theorem blk_gEvent {b : C03.BlockAcc} {g : Globals} (e : TEvent)
    (h1 : g.blockingActive = b.active) (h2 : g.blockingStarted = b.started) (h3 : g.blockingDur = b.total) :
    (Acct.gEvent e g).blockingActive = (C03.blockEvent g.now e b).active ∧
    (Acct.gEvent e g).blockingStarted = (C03.blockEvent g.now e b).started ∧
    (Acct.gEvent e g).blockingDur = (C03.blockEvent g.now e b).total ∧
    (Acct.gEvent e g).start = g.start ∧ (Acct.gEvent e g).maxBlockingFrac = g.maxBlockingFrac := by
  cases e with
  | blockingBegin m =>
    simp only [Acct.gEvent, C03.blockEvent]
    rw [h1]
    cases hb : b.active <;> simp [h1, h2, h3, hb]
  | blockingEnd =>
    simp only [Acct.gEvent, C03.blockEvent]
    rw [h1]
    cases hb : b.active <;> simp [h1, h2, h3, hb]
  | normalRecv | paddingRecv | tunnelRecv | normalSent | paddingSent _ | tunnelSent | timerBegin _ | timerEnd _ =>
    exact ⟨h1, h2, h3, rfl, rfl⟩

theorem blk_rEvent {b : C03.BlockAcc} {g : Globals} (e : TEvent) (i : Nat) (a : RtAcct)
    (h1 : g.blockingActive = b.active) (h2 : g.blockingStarted = b.started) (ha : a.blockingDur = b.total) :
    (Acct.rEvent e g i a).blockingDur = (C03.blockEvent g.now e b).total ∧
    (Acct.rEvent e g i a).machineStart = a.machineStart ∧ (Acct.rEvent e g i a).allowedBlocked = a.allowedBlocked := by
  cases e with
  | paddingSent m =>
    simp only [Acct.rEvent, C03.blockEvent]
    split <;> exact ⟨ha, rfl, rfl⟩
  | blockingBegin m =>
    simp only [Acct.rEvent, C03.blockEvent]
    split <;> simp [ha]
  | blockingEnd =>
    simp only [Acct.rEvent, C03.blockEvent]
    rw [h1]
    cases hb : b.active
    · simp [ha]
    · simp only [if_true]
      by_cases hz : durSince g.now g.blockingStarted = 0
      · simp [hz, ha, ← h2]
      · simp [hz, ha, ← h2]
  | normalRecv | paddingRecv | tunnelRecv | normalSent | tunnelSent | timerBegin _ | timerEnd _ =>
    exact ⟨ha, rfl, rfl⟩

theorem BlkRel.event {t0 : Int} {fb : F64} {al : Nat → Nat} {b : C03.BlockAcc} {p : Globals × List RtAcct}
    (e : TEvent) (h : BlkRel t0 fb al b p) : BlkRel t0 fb al (C03.blockEvent p.1.now e b) (Acct.event e p) := by
  obtain ⟨g1, g2, g3, g4, g5⟩ := blk_gEvent (g := p.1) e h.active h.started h.total
  refine ⟨g1, g2, g3, g4.trans h.start, g5.trans h.frac, ?_⟩
  intro i a' ha'
  rw [Acct.event, List.getElem?_mapIdx] at ha'
  obtain ⟨a, hpa, rfl⟩ := Option.map_eq_some_iff.mp ha'
  obtain ⟨p1, p2, p3⟩ := h.per i a hpa
  obtain ⟨r1, r2, r3⟩ := blk_rEvent (g := p.1) e i a h.active h.started p1
  exact ⟨r1, r2.trans p2, r3.trans p3⟩

theorem gEvent_now (e : TEvent) (g : Globals) : (Acct.gEvent e g).now = g.now := by
  cases e <;> simp [Acct.gEvent] <;> split <;> rfl

theorem BlkRel.foldEvents {t0 : Int} {fb : F64} {al : Nat → Nat} (now : Int) (es : List TEvent) :
    ∀ (b : C03.BlockAcc) (p : Globals × List RtAcct), p.1.now = now → BlkRel t0 fb al b p →
      BlkRel t0 fb al (es.foldl (fun b e => C03.blockEvent now e b) b) (es.foldl (fun p e => Acct.event e p) p) ∧
      (es.foldl (fun p e => Acct.event e p) p).1.now = now := by
  induction es with
  | nil => exact fun b p hn h => ⟨h, hn⟩
  | cons e es ih =>
    exact fun b p hn h => ih _ _ (by simp [Acct.event, gEvent_now, hn]) (hn ▸ h.event e)

theorem BlkRel.call {t0 : Int} {fb : F64} {al : Nat → Nat} {b : C03.BlockAcc} {p : Globals × List RtAcct}
    (c : Call) (h : BlkRel t0 fb al b p) :
    BlkRel t0 fb al (C03.blockCall c b) (Acct.call c.1 c.2 p) ∧ (Acct.call c.1 c.2 p).1.now = c.2 := by
  unfold C03.blockCall Acct.call
  exact BlkRel.foldEvents c.2 c.1 b _ rfl ⟨h.active, h.started, h.total, h.start, h.frac, h.per⟩

theorem BlkRel.history {t0 : Int} {fb : F64} {al : Nat → Nat} (h : List Call) :
    ∀ (b : C03.BlockAcc) (p : Globals × List RtAcct), BlkRel t0 fb al b p →
      BlkRel t0 fb al (h.foldl (fun b c => C03.blockCall c b) b) (Acct.history h p) := by
  induction h with
  | nil => exact fun b p hb => hb
  | cons c h ih => exact fun b p hb => ih _ _ (hb.call c).1

end Mb
