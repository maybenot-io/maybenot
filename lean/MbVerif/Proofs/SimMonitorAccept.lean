/-
  What the three `…_monitor_accepts_model` theorems (Props C14, C15, C19) need of a model run.

  `modelObs` is the observation the driver compares the implementation with (`modelRun` /
  `SimOut.res` of `Sim/Obs.lean`): the returned trace on the observation time axis, or a panic
  class when the model run ends in a fault (or in the model's own loop budget).  The monitors
  read only what a shift to that axis leaves alone; the rest is what the stop reason says about
  the stream, that a cap that did not stop the run did not change it, and that under the
  time-bound invariant of `C19_total` a run that ends because `pick_next` returned `None` has
  drained its queues.
-/
import MbVerif.Proofs.SimNoFault
import MbVerif.Proofs.SimRun
import MbVerif.Proofs.SimMatch
import MbVerif.Proofs.SimRaw
import MbVerif.Spec.C14
import MbVerif.Spec.C15
import MbVerif.Spec.C19

namespace Mb.Sim
open Mb Mb.SimSpec

section
variable {σ : Type} (ρ : Oracle σ)

/-- the simulator model's own observation of one run of a case: exactly what the driver builds
    to compare the implementation's result with -/
def modelObs (budget : Nat) (c : CaseIn) (r : RunIn) (orc : σ) : ObsRun :=
  ⟨r, (modelRun ρ budget c r orc).1.res (modelRun ρ budget c r orc).2⟩

def modelOut (budget : Nat) (c : CaseIn) (r : RunIn) (orc : σ) : SimOut σ :=
  simAdvanced ρ budget c.mc c.ms (parseTraceRaw c.trace c.delay) (r.effArgs c.delay) orc

/-- the origin of the observation time axis: the first base event -/
def obsT0 (c : CaseIn) : Int := (parseTraceRaw c.trace c.delay).firstTime.getD 0

/-- does the observation of this run report a panic? (a fault of the model, or its own loop
    budget running out, which is only possible without an iteration cap) -/
def Stop.isPanic : Stop → Bool
  | .fault _ => true
  | .loopFuel => true
  | _ => false

theorem modelObs_run (budget : Nat) (c : CaseIn) (r : RunIn) (orc : σ) : (modelObs ρ budget c r orc).run = r := rfl

theorem modelObs_res (budget : Nat) (c : CaseIn) (r : RunIn) (orc : σ) :
    (modelObs ρ budget c r orc).res = (modelOut ρ budget c r orc).res (obsT0 c) := rfl

theorem res_ok {o : SimOut σ} {t0 : Int} (h : o.stop.isPanic = false) :
    o.res t0 = .ok (o.trace.map (SimEvent.shift t0)) := by
  unfold SimOut.res
  cases hs : o.stop <;> simp_all [Stop.isPanic]

theorem res_panic {o : SimOut σ} {t0 : Int} (h : o.stop.isPanic = true) : ∃ cls, o.res t0 = .panic cls := by
  unfold SimOut.res
  cases hs : o.stop <;> simp_all [Stop.isPanic]

theorem res_ok_inv {o : SimOut σ} {t0 : Int} {tr : List SimEvent} (h : o.res t0 = .ok tr) :
    o.stop.isPanic = false ∧ tr = o.trace.map (SimEvent.shift t0) := by
  cases hp : o.stop.isPanic with
  | true => obtain ⟨cls, hc⟩ := res_panic (t0 := t0) hp; rw [hc] at h; cases h
  | false => rw [res_ok hp] at h; cases h; exact ⟨rfl, rfl⟩

theorem isPanic_false_no_fault {s : Stop} (h : s.isPanic = false) : ∀ f, s ≠ .fault f := by
  intro f hf; subst hf; simp [Stop.isPanic] at h

end

@[simp] theorem shift_event (t0 : Int) (e : SimEvent) : (e.shift t0).event = e.event := rfl
@[simp] theorem shift_client (t0 : Int) (e : SimEvent) : (e.shift t0).client = e.client := rfl
@[simp] theorem shift_pad (t0 : Int) (e : SimEvent) : (e.shift t0).containsPadding = e.containsPadding := rfl
@[simp] theorem shift_time (t0 : Int) (e : SimEvent) : (e.shift t0).time = e.time - t0 := rfl

theorem pairwise_shift (t0 : Int) (l : List SimEvent) (h : l.Pairwise (fun x y => x.time ≤ y.time)) :
    (l.map (SimEvent.shift t0)).Pairwise (fun x y => x.time ≤ y.time) := by
  rw [List.pairwise_map]
  exact h.imp (fun {a b} hab => by simp only [shift_time]; omega)

theorem sortedByTime_shift (t0 : Int) (l : List SimEvent) (h : l.Pairwise (fun x y => x.time ≤ y.time)) :
    sortedByTime (l.map (SimEvent.shift t0)) = true :=
  sortedByTime_of_pairwise _ (pairwise_shift t0 l h)

theorem recvP_shift (c pd : Bool) (T t0 : Int) (e : SimEvent) :
    recvP c pd T (e.shift t0) = recvP c pd (T + t0) e := by
  simp only [recvP, shift_event, shift_client, shift_pad, shift_time]
  congr 1
  apply decide_eq_decide.2
  omega

theorem sendP_shift (c pd : Bool) (T t0 : Int) (d : Nat) (e : SimEvent) :
    sendP c pd T d (e.shift t0) = sendP c pd (T + t0) d e := by
  simp only [sendP, shift_event, shift_client, shift_pad, shift_time]
  congr 1
  apply decide_eq_decide.2
  omega

/-- Hall-form causality is invariant under the shift, so the monitor's matching predicate holds
    of the shifted trace as well -/
theorem causality_shift (d : Nat) (t0 : Int) (tr : List SimEvent)
    (h : ∀ (c pd : Bool) (T : Int), tr.countP (recvP c pd T) ≤ tr.countP (sendP c pd T d)) :
    C15.causality d (tr.map (SimEvent.shift t0)) = true := by
  apply causality_of_hall
  intro c pd T
  rw [List.countP_map, List.countP_map]
  have h1 : (recvP c pd T ∘ SimEvent.shift t0) = recvP c pd (T + t0) := funext fun e => recvP_shift c pd T t0 e
  have h2 : (sendP c pd T d ∘ SimEvent.shift t0) = sendP c pd (T + t0) d := funext fun e => sendP_shift c pd T t0 d e
  rw [h1, h2]
  exact h c pd (T + t0)

theorem normalSentCount_shift (t0 : Int) (tr : List SimEvent) (cl : Bool) :
    C15.normalSentCount (tr.map (SimEvent.shift t0)) cl = C15.normalSentCount tr cl := by
  unfold C15.normalSentCount
  rw [List.filter_map, List.length_map]
  rfl

theorem keepObs_shift (on oc : Bool) (t0 : Int) (e : SimEvent) : keepObs on oc (e.shift t0) = keepObs on oc e := rfl

theorem filter_keepObs_shift (on oc : Bool) (t0 : Int) (l : List SimEvent) :
    (l.map (SimEvent.shift t0)).filter (keepObs on oc) = (l.filter (keepObs on oc)).map (SimEvent.shift t0) := by
  rw [List.filter_map]
  rfl

section
variable {σ : Type} (ρ : Oracle σ)

theorem stopCheck_uncapped {a : Args} {st : St σ} {iters c c0 : Nat} (h : stopCheck a st iters c ≠ some .maxTrace) :
    stopCheck a.uncapped st iters c0 = stopCheck a st iters c := by
  by_cases hx : a.maxTraceLength > 0 ∧ c ≥ a.maxTraceLength
  · exact absurd (stopCheck_at_cap a st iters c hx.1 hx.2) h
  · have h1 : (decide (a.maxTraceLength > 0) && decide (c ≥ a.maxTraceLength)) = false := by
      simp only [Bool.and_eq_false_imp, decide_eq_true_eq, decide_eq_false_iff_not]
      exact fun h0 h1 => hx ⟨h0, h1⟩
    simp [stopCheck, Args.uncapped, h1]

/-- A cap that did not stop the run did not change it: if the loop does not end on the
    length cap, it is the loop of the same arguments without the cap. -/
theorem loop_cap_nonbinding (a : Args) (fuel : Nat) (st : St σ) (iters cnt cnt0 : Nat)
    (h : (loop ρ a fuel st iters cnt).stop ≠ .maxTrace) :
    loop ρ a fuel st iters cnt = loop ρ a.uncapped fuel st iters cnt0 :=
  (loop_follow ρ a a.uncapped (fun _ _ => True) (· = .maxTrace) (fun _ _ _ _ => trivial)
    (fun st i c c' _ hn => by rw [stopCheck_uncapped (by rw [hn]; nofun), hn])
    (fun st i c c' s _ hs hb => by rw [stopCheck_uncapped (by rw [hs]; exact fun h => hb (Option.some.inj h)), hs])
    fuel st iters cnt fuel cnt0 trivial h (Or.inl rfl)).symm

theorem loop_queueEmpty_final (a : Args) (fuel : Nat) (st : St σ) (iters cnt : Nat)
    (h : (loop ρ a fuel st iters cnt).stop = .queueEmpty) :
    ∃ stf, (loop ρ a fuel st iters cnt).final = some stf ∧ step ρ stf = .ok none := by
  obtain ⟨stf, _, _, _, hf, hs⟩ :=
    (loop_inv ρ a (I := fun _ _ _ => True) (fun _ _ _ _ _ _ _ _ => trivial) fuel st iters cnt trivial).2 h
  exact ⟨stf, hf, hs⟩

end

section
variable {σ : Type} (ρ : Oracle σ)

theorem finish_final {args : Args} {o : LoopOut σ} {stf : St σ} (h : (finish args o).final = some stf) :
    o.final = some stf := by
  unfold finish at h
  cases hs : o.stop <;> simp only [hs] at h <;> first | exact h | cases h

theorem simAdvanced_trace_stream (budget : Nat) (mc ms : List Machine) (sq : SimQueue) (a : Args) (orc : σ)
    (hok : ∀ f, (simAdvanced ρ budget mc ms sq a orc).stop ≠ .fault f) :
    (simAdvanced ρ budget mc ms sq a orc).trace =
      ((simAdvanced ρ budget mc ms sq a orc).stream.filter a.keep).map (·.ev) := by
  have hnf : (simAdvanced ρ budget mc ms sq a orc).stop.isFault = false := by
    cases hs : (simAdvanced ρ budget mc ms sq a orc).stop with
    | fault f => exact absurd hs (hok f)
    | queueEmpty | maxTrace | maxIter | noNormal | loopFuel => rfl
  rw [simAdvanced_trace, hnf]
  rfl

theorem simAdvanced_trace_le_stream (budget : Nat) (mc ms : List Machine) (sq : SimQueue) (a : Args) (orc : σ) :
    (simAdvanced ρ budget mc ms sq a orc).trace.length ≤ (simAdvanced ρ budget mc ms sq a orc).stream.length := by
  rw [simAdvanced_trace]
  split
  · exact Nat.zero_le _
  · rw [List.length_map]
    exact List.length_filter_le _ _

theorem simAdvanced_stopped (budget : Nat) (mc ms : List Machine) (sq : SimQueue) (a : Args) (orc : σ)
    (h : (simAdvanced ρ budget mc ms sq a orc).stop = .maxTrace ∨ (simAdvanced ρ budget mc ms sq a orc).stop = .maxIter ∨
      (simAdvanced ρ budget mc ms sq a orc).stop = .noNormal) :
    ∃ (stf : St σ) (k : Nat), (simAdvanced ρ budget mc ms sq a orc).stream.length = k + 1 ∧
      stopCheck a stf k ((simAdvanced ρ budget mc ms sq a orc).stream.filter a.keep).length =
        some (simAdvanced ρ budget mc ms sq a orc).stop := by
  unfold simAdvanced at h ⊢
  cases hi : initState ρ mc ms sq a orc with
  | error f => rw [hi] at h; rcases h with h | h | h <;> cases h
  | ok st =>
    simp only [hi, finish_stop, finish_stream] at h ⊢
    obtain ⟨stf, k, _, hl, hc⟩ := loop_stopped ρ a _ st 0 0 h
    rw [Nat.zero_add, Nat.zero_add] at hc
    exact ⟨stf, k, hl, hc⟩

theorem simAdvanced_maxIter (budget : Nat) (mc ms : List Machine) (sq : SimQueue) (a : Args) (orc : σ)
    (h : (simAdvanced ρ budget mc ms sq a orc).stop = .maxIter) :
    0 < a.maxSimIterations ∧ a.maxSimIterations ≤ (simAdvanced ρ budget mc ms sq a orc).stream.length := by
  obtain ⟨stf, k, hl, hc⟩ := simAdvanced_stopped ρ budget mc ms sq a orc (Or.inr (Or.inl h))
  rw [h] at hc
  rcases stopCheck_eq_some hc with ⟨h', _⟩ | ⟨_, h1, h2⟩ | ⟨h', _⟩
  · cases h'
  · exact ⟨h1, hl ▸ h2⟩
  · cases h'

theorem simAdvanced_maxTrace (budget : Nat) (mc ms : List Machine) (sq : SimQueue) (a : Args) (orc : σ)
    (h : (simAdvanced ρ budget mc ms sq a orc).stop = .maxTrace) :
    0 < a.maxTraceLength ∧ a.maxTraceLength ≤ (simAdvanced ρ budget mc ms sq a orc).trace.length := by
  obtain ⟨stf, k, _, hc⟩ := simAdvanced_stopped ρ budget mc ms sq a orc (Or.inl h)
  rw [simAdvanced_trace_stream ρ budget mc ms sq a orc (by rw [h]; nofun), List.length_map]
  rw [h] at hc
  rcases stopCheck_eq_some hc with ⟨_, h1⟩ | ⟨h', _⟩ | ⟨h', _⟩
  · exact h1
  · cases h'
  · cases h'

theorem simAdvanced_nonbinding (budget : Nat) (mc ms : List Machine) (sq : SimQueue) (a : Args) (orc : σ)
    (h : (simAdvanced ρ budget mc ms sq a orc).stop ≠ .maxTrace) :
    simAdvanced ρ budget mc ms sq a orc = simAdvanced ρ budget mc ms sq a.uncapped orc := by
  unfold simAdvanced at h ⊢
  have hinit : initState ρ mc ms sq a.uncapped orc = initState ρ mc ms sq a orc := rfl
  rw [hinit]
  cases hi : initState ρ mc ms sq a orc with
  | error f => rfl
  | ok st =>
    simp only [hi, finish_stop] at h
    simp only []
    have hfu : loopFuel a.uncapped budget = loopFuel a budget := rfl
    rw [hfu, ← loop_cap_nonbinding ρ a (loopFuel a budget) st 0 0 0 h]
    rfl

theorem simAdvanced_queueEmpty_final (budget : Nat) (mc ms : List Machine) (sq : SimQueue) (a : Args) (orc : σ)
    (h : (simAdvanced ρ budget mc ms sq a orc).stop = .queueEmpty) :
    ∃ stf, (simAdvanced ρ budget mc ms sq a orc).final = some stf ∧ step ρ stf = .ok none := by
  unfold simAdvanced at h ⊢
  cases hi : initState ρ mc ms sq a orc with
  | error f => simp [hi] at h
  | ok st =>
    simp only [hi, finish_stop] at h
    simp only []
    obtain ⟨stf, hf, hs⟩ := loop_queueEmpty_final ρ a (loopFuel a budget) st 0 0 h
    refine ⟨stf, ?_, hs⟩
    rw [finish_ok a _ (by intro f hf'; rw [h] at hf'; cases hf')]
    exact hf

/-- Conservation in terms of the final state: processed normal TunnelSent events per side
    never exceed the side's share, and when the run ends in a state in which no normal packet
    waits any more they equal it. -/
theorem simAdvanced_conserve_final (budget : Nat) (mc ms : List Machine) (trace : List TraceLine) (delay : Nat)
    (a : Args) (orc : σ) :
    (∀ c, (simAdvanced ρ budget mc ms (parseTrace trace delay) a orc).stream.countP (sentNormal c) ≤ shareOf trace c) ∧
    (∀ stf, (simAdvanced ρ budget mc ms (parseTrace trace delay) a orc).final = some stf →
      (∀ c, stf.sq.pending c = 0) →
      ∀ c, (simAdvanced ρ budget mc ms (parseTrace trace delay) a orc).stream.countP (sentNormal c) = shareOf trace c) := by
  unfold simAdvanced
  have hpt := parseTrace_spec trace delay
  cases hi : initState ρ mc ms (parseTrace trace delay) a orc with
  | error f => exact ⟨by simp, fun stf h => by cases h⟩
  | ok st =>
    simp only []
    have hsq := initState_sq ρ hi
    have hw : st.sq.WF := by rw [hsq]; exact hpt.1
    have hc := loop_conserve ρ a (loopFuel a budget) st 0 0 hw
    rw [finish_stream]
    constructor
    · intro c
      have := hc.1 c
      rw [hsq, hpt.2 c] at this
      exact this
    · intro stf hfin hz c
      have h2 := hc.2 stf (finish_final hfin)
      have h3 := h2.2 c
      rw [hz c, hsq, hpt.2 c] at h3
      omega

end

def Args.withIters (a : Args) (m : Nat) : Args := { a with maxSimIterations := m }

section
variable {σ : Type} (ρ : Oracle σ)

/-- a fault under an iteration cap is a fault under every larger cap (with at least as much fuel):
    until the smaller cap stops the run, both loops do the same -/
theorem loop_iters_fault (a : Args) (M : Nat) (hpos : 0 < a.maxSimIterations) (hM : a.maxSimIterations ≤ M)
    (f : SimFault) (fuel fuel' : Nat) (st : St σ) (iters cnt : Nat) (hle : fuel ≤ fuel')
    (h : (loop ρ a fuel st iters cnt).stop = .fault f) :
    (loop ρ (a.withIters M) fuel' st iters cnt).stop = .fault f := by
  have hM' : ∀ i, ¬ (0 < a.maxSimIterations ∧ a.maxSimIterations ≤ i + 1) → ¬ (0 < M ∧ M ≤ i + 1) := by omega
  rw [loop_follow ρ a (a.withIters M) Eq (· = .maxIter) (fun r c c' hc => hc ▸ rfl) ?_ ?_
    fuel st iters cnt fuel' cnt rfl (by rw [h]; nofun) (Or.inr ⟨hle, by rw [h]; nofun⟩), h]
  · rintro st i c _ rfl hn
    obtain ⟨h1, h2, h3⟩ := stopCheck_eq_none.1 hn
    exact stopCheck_eq_none.2 ⟨h1, hM' i h2, h3⟩
  · rintro st i c _ s rfl hs hb
    unfold stopCheck at hs ⊢
    by_cases h1 : (decide (a.maxTraceLength > 0) && decide (c ≥ a.maxTraceLength)) = true
    · rw [if_pos h1] at hs
      exact (if_pos h1).trans hs
    · rw [if_neg h1] at hs
      by_cases h2 : (decide (a.maxSimIterations > 0) && decide (i + 1 ≥ a.maxSimIterations)) = true
      · rw [if_pos h2] at hs
        exact absurd (Option.some.inj hs).symm hb
      · rw [if_neg h2] at hs
        have h2' : ¬ (decide (M > 0) && decide (i + 1 ≥ M)) = true := by
          simp only [Bool.and_eq_true, decide_eq_true_eq] at h2 ⊢
          exact hM' i h2
        exact ((if_neg h1).trans (if_neg h2')).trans hs

theorem simAdvanced_iters_fault (budget : Nat) (mc ms : List Machine) (sq : SimQueue) (a : Args) (orc : σ) (M : Nat)
    (hpos : 0 < a.maxSimIterations) (hM : a.maxSimIterations ≤ M) (f : SimFault)
    (h : (simAdvanced ρ budget mc ms sq a orc).stop = .fault f) :
    (simAdvanced ρ budget mc ms sq (a.withIters M) orc).stop = .fault f := by
  unfold simAdvanced at h ⊢
  have hinit : initState ρ mc ms sq (a.withIters M) orc = initState ρ mc ms sq a orc := rfl
  rw [hinit]
  cases hi : initState ρ mc ms sq a orc with
  | error f0 => simp only [hi] at h ⊢; exact h
  | ok st =>
    simp only [hi, finish_stop] at h ⊢
    have hf1 : loopFuel a budget = a.maxSimIterations := by simp [loopFuel, hpos]
    have hf2 : loopFuel (a.withIters M) budget = M := by
      have : (a.withIters M).maxSimIterations = M := rfl
      simp only [loopFuel, this]
      have : M > 0 := by omega
      simp [this]
    rw [hf1] at h
    rw [hf2]
    exact loop_iters_fault ρ a M hpos hM f _ _ st 0 0 hM h

theorem simAdvanced_cap_fault (budget : Nat) (mc ms : List Machine) (sq : SimQueue) (a : Args) (orc : σ) (f : SimFault)
    (h : (simAdvanced ρ budget mc ms sq a orc).stop = .fault f) :
    (simAdvanced ρ budget mc ms sq a.uncapped orc).stop = .fault f := by
  rw [← simAdvanced_nonbinding ρ budget mc ms sq a orc (by rw [h]; intro hc; cases hc)]
  exact h

theorem simAdvanced_no_loopFuel (budget : Nat) (mc ms : List Machine) (sq : SimQueue) (a : Args) (orc : σ)
    (hm : a.maxSimIterations > 0) : (simAdvanced ρ budget mc ms sq a orc).stop ≠ .loopFuel := by
  unfold simAdvanced
  cases hi : initState ρ mc ms sq a orc with
  | error f => simp
  | ok st =>
    simp only []
    have hf : loopFuel a budget = a.maxSimIterations := by simp [loopFuel, hm]
    rw [finish_stop]
    exact (loop_iters ρ a hm (loopFuel a budget) st 0 0 hm (by rw [hf]; omega)).2

end

section
variable {σ : Type}

/-- "nothing to do": every candidate offset is `MAX`, in particular the queue's -/
theorem pickDecide_nothing {st : St σ} (h : pickDecide st = .ok .nothing) :
    ∃ qid c, peekQueue st durMax = .ok (durMax, qid, c) := by
  obtain ⟨⟨q, qid, c⟩, hr, hp⟩ := pickDecide_ok_iff.1 h
  obtain ⟨h1, h2, h3, h4, h5⟩ := Pick.choose_nothing hp
  have hb : st.bound = durMax := by
    show min (min (min st.actOff st.timOff) st.blkExp.1) st.aggOff = durMax
    rw [h1, h2, h3, h4, Nat.min_self, Nat.min_self, Nat.min_self]
  rw [hb] at hr
  cases h5
  exact ⟨qid, c, hr⟩

theorem peekQueueEarliestSide_le_blocked (sq : SimQueue) (bu : Option Int) (byp : Bool) (now : Int) (ds : Nat) (c : Bool)
    {b : SimEvent} (hb : (sq.peekBlocking byp c).1 = some b) :
    (peekQueueEarliestSide sq bu byp now ds c).1 ≤ dsince (max b.time (bu.getD now)) now := by
  rcases peekQueueEarliestSide_cases sq bu byp now ds c with ⟨hn, _, h⟩ | ⟨b', hb', h⟩ | ⟨n, t, _, _, hle, h⟩ <;> rw [h]
  · rw [hb] at hn
    cases hn
  · rw [hb] at hb'
    cases hb'
    exact Nat.le_refl _
  · exact dsince_mono now (hle b hb)

theorem side_wf {sq : SimQueue} (hw : sq.WF) (c : Bool) : (sq.side c).WF c := by
  cases c
  · exact hw.server
  · exact hw.client

/-- a queued TunnelSent that the side's blocking applies to makes `peek_blocking` report a head -/
theorem peekBlocking_some {sq : SimQueue} (hw : sq.WF) {byp c : Bool} {qi : Queue} {e : SimEvent}
    (he : e ∈ ((sq.side c).heap qi).data) (hts : isTS e = true) (hby : byp = true → e.bypass = false) :
    ∃ b, (sq.peekBlocking byp c).1 = some b := by
  have hwc := side_wf hw c
  obtain ⟨r, hr⟩ := evHeap_peek_of_mem he
  -- with a bypassable blocking only the blocking heap is looked at; otherwise the earlier head of the two
  have pick : byp = false → (hr' : (sq.side c).blocking.peek = some r ∨ (sq.side c).bypassable.peek = some r) →
      ∃ b, (sq.peekBlocking byp c).1 = some b := by
    rintro rfl hr'
    obtain ⟨f, hf, _⟩ := optGt_pick_time Queue.blocking Queue.bypassable hr'
    exact ⟨f, hf⟩
  cases qi with
  | base =>
    have := List.countP_eq_zero.1 hwc.base e he
    simp only [isNS, isTS, beq_iff_eq] at this hts
    simp [hts] at this
  | internal =>
    have := List.countP_eq_zero.1 hwc.internal e he
    simp [hts] at this
  | blocking =>
    cases byp with
    | true => exact ⟨r, hr⟩
    | false => exact pick rfl (Or.inl hr)
  | bypassable =>
    have := List.countP_eq_zero.1 hwc.bypassable e he
    simp only [hts, Bool.not_true, Bool.false_or, Bool.or_eq_true, Bool.not_eq_true', bne_iff_ne, ne_eq, not_or,
      Bool.not_eq_false, Decidable.not_not] at this
    cases byp with
    | false => exact pick rfl (Or.inr hr)
    | true => simp_all

/-- under the time-bound invariant every queued event is less than `Duration::MAX` ahead of the
    clock: base events by the bound on trace times and aggregate delays, internal events by `S`,
    queued TunnelSent events are due -/
theorem PI.peek_lt {π : TPar} {A : Nat} {Hn : Int} {kw J : Nat} {st : St σ} (h : PI π A Hn kw J st)
    (hb1 : π.Tm + (J : Int) - π.t0 < (durMax : Int)) (hb2 : π.S < durMax)
    {pk : SimEvent} {qu : Queue} {dur : Nat}
    (hpk : st.sq.peek st.net.clientAgg st.net.serverAgg st.now = .ok (some pk, qu, dur)) : dur < durMax := by
  obtain ⟨hhead, hdur⟩ := SimQueue.peek_own h.wf hpk
  have hx : pk.time + qShift qu (if pk.client then st.net.clientAgg else st.net.serverAgg) ≤ _ :=
    qpred_time_le (h.q pk.client qu pk (Heap.peek_mem hhead)) (h.net.agg_le pk.client)
  have ht0 := h.t0le
  rw [hdur]
  rcases le_max_iff.1 hx with hx | hx
  · exact Nat.lt_of_le_of_lt (dsince_le_of_le (w := (π.Tm + (J : Int) - π.t0).toNat) (by omega)) (by omega)
  · exact Nat.lt_of_le_of_lt (dsince_le_of_le hx) hb2

/-- under the invariant, a queue head held back by its side's blocking can be served when the
    blocking expires, within `W` -/
theorem PI.earliest_le {π : TPar} {A : Nat} {Hn : Int} {kw J : Nat} {st : St σ} (h : PI π A Hn kw J st)
    {pk : SimEvent} {qu : Queue} {dur : Nat}
    (hpk : st.sq.peek st.net.clientAgg st.net.serverAgg st.now = .ok (some pk, qu, dur))
    (hp : st.passes pk = false) : st.earliest.1 ≤ TB.W := by
  obtain ⟨hts, hsome, hbyp⟩ := St.passes_eq_false.1 hp
  obtain ⟨u, hu⟩ := Option.isSome_iff_exists.1 hsome
  obtain ⟨b, hb⟩ := peekBlocking_some h.wf (byp := (st.side pk.client).blockingBypassable)
    (Heap.peek_mem (SimQueue.peek_own h.wf hpk).1) (by simp [isTS, hts]) hbyp
  obtain ⟨qb, hqb, hbm, _, _⟩ := peekBlocking_mem hb
  have hbq := h.q pk.client qb b hbm
  have hbt : b.time ≤ st.now := by
    rcases hqb with rfl | rfl <;> exact hbq.1
  have hul := (h.sides pk.client).untl u hu
  obtain ⟨c, hc, hmin⟩ := st.earliest_cases
  rw [hc]
  refine Nat.le_trans (hmin pk.client) (Nat.le_trans
    (peekQueueEarliestSide_le_blocked st.sq _ _ st.now (st.net.agg pk.client) pk.client hb) (dsince_le_of_le ?_))
  rw [hu, Option.getD_some]
  omega

/-- Under the time-bound invariant `peek_queue` answers `MAX` to the bound `MAX` only for empty
    queues, so `pick_next` reports "nothing to do" only then (`pickDecide_nothing`). -/
theorem peekQueue_durMax_empty {π : TPar} {A : Nat} {Hn : Int} {kw J : Nat} {st : St σ} (h : PI π A Hn kw J st)
    (hb1 : π.Tm + (J : Int) - π.t0 < (durMax : Int)) (hb2 : π.S < durMax) (hW : TB.W < durMax)
    {qid : Queue} {c : Bool} (hq : peekQueue st durMax = .ok (durMax, qid, c)) : st.sq.isEmpty = true := by
  rcases peekQueue_ok_iff.1 hq with ⟨h0, _⟩ | ⟨pk, qu, dur, hpk, hlt, _⟩ | ⟨pk, qu, dur, hpk, _, _, hr⟩ |
    ⟨pk, qu, dur, hpk, _, hp, hr⟩
  · exact h0
  · exact absurd (h.peek_lt hb1 hb2 hpk) (by omega)
  · cases hr
    exact absurd (h.peek_lt hb1 hb2 hpk) (Nat.lt_irrefl _)
  · have := h.earliest_le hpk hp
    rw [← hr] at this
    exact absurd (Nat.lt_of_le_of_lt this hW) (Nat.lt_irrefl _)

theorem isEmpty_pending {sq : SimQueue} (h : sq.isEmpty = true) (c : Bool) : sq.pending c = 0 := by
  have hnil : sq.events = [] :=
    List.eq_nil_of_length_eq_zero (by rw [← SimQueue.len_eq_length]; simpa [SimQueue.isEmpty] using h)
  have key : ∀ qi, ((sq.side c).heap qi).data.countP wN = 0 := fun qi =>
    List.countP_eq_zero.2 fun e he => by
      have := SimQueue.mem_events.2 ⟨c, qi, he⟩
      rw [hnil] at this
      cases this
  exact (Nat.add_eq_zero_iff.2 ⟨Nat.add_eq_zero_iff.2 ⟨key .base, key .blocking⟩, key .bypassable⟩ :)

theorem pickNext_none_pending {π : TPar} {A : Nat} {Hn : Int} {kw J : Nat} (hJ : J ≤ durMax)
    (hb1 : π.Tm + (J : Int) - π.t0 < (durMax : Int)) (hb2 : π.S < durMax) (hW : TB.W < durMax) :
    ∀ (fuel : Nat) (st st' : St σ) (e : Option SimEvent), pickNext fuel st = some (.ok (e, st')) →
      PI π A Hn kw J st → e = none → ∀ c, st.sq.pending c = 0 := by
  refine pickNext_ok_induct ?_ ?_ ?_ ?_ ?_ ?_
  · intro st hd h _ c
    obtain ⟨qid, qc, hq⟩ := pickDecide_nothing hd
    exact isEmpty_pending (peekQueue_durMax_empty h hb1 hb2 hW hq) c
  · intro st st1 e st' _ ha ih h he c
    obtain ⟨hp1, _, _, hsq⟩ := (pickAgg_ti h hJ).ok ha
    rw [← hsq]
    exact ih hp1 he c
  · intro st b cl e st' _ _ _ he
    cases he
  · intro st q qid cl e st' _ _ _ he
    cases he
  · intro st st1 i e st' _ ht ih h he c
    rw [← (pickTimer_conserve h.wf ht).2 c]
    exact ih ((pickTimer_ti h).ok ht).1 he c
  · intro st st1 s e st' _ ha ih h he c
    rw [← (pickAction_conserve h.wf ha).2 c]
    exact ih ((pickAction_ti h).ok ha).1 he c

end

section
variable {σ : Type} (ρ : Oracle σ)

/-- Under the guard of `C19_total`, an iteration in which `pick_next` returns `None` finds the
    queues drained: no normal packet waits any more. -/
theorem step_none_drained {N d T : Nat} {t0 : Int} {k : Nat} {st : St σ} (hli : LI N d T t0 k st) (hk : k < N)
    (ht0 : -(d : Int) ≤ t0) (hg : (N + 2) * TB.span N T d ≤ durMax) (hs : step ρ st = .ok none) (c : Bool) :
    st.sq.pending c = 0 := by
  obtain ⟨st', hpn⟩ := (step_none_iff ρ).1 hs
  -- everything in sight is at most the span, which is below `Duration::MAX`
  have hlt : ∀ {x}, x ≤ TB.span N T d → x < durMax := fun hx => Nat.lt_of_le_of_lt hx (span_lt_durMax hg)
  have hsp := TB.span_eq N T d
  have l2 : k * (TB.aggD N + TB.aggD N) ≤ N * (TB.aggD N + TB.aggD N) := Nat.mul_le_mul_right _ (Nat.le_of_lt hk)
  have hZ : TB.stepZ N d ≤ TB.span N T d :=
    Nat.le_trans (Nat.le_mul_of_pos_left _ (Nat.zero_lt_of_lt hk)) (Nat.le_add_left _ _)
  have hSW : (mkPar N d T t0).S + TB.W = TB.stepZ N d := mkPar_S N d T t0
  have hTJ : T + k * (TB.aggD N + TB.aggD N) + d ≤ TB.span N T d := by omega
  exact pickNext_none_pending (π := mkPar N d T t0) (J := k * (TB.aggD N + TB.aggD N))
    (Nat.le_of_lt (hlt (Nat.le_trans (Nat.le_add_left _ _) (Nat.le_trans (Nat.le_add_right _ _) hTJ))))
    (by
      have := hlt hTJ
      show ((T : Nat) : Int) + ((k * (TB.aggD N + TB.aggD N) : Nat) : Int) - t0 < (durMax : Int)
      omega)
    (hlt (Nat.le_trans (hSW ▸ Nat.le_add_right _ _) hZ)) (hlt (Nat.le_trans (hSW ▸ Nat.le_add_left _ _) hZ))
    (pickMeasure st + 1) st st' none hpn hli.1 rfl c

theorem simAdvanced_drained (budget : Nat) {mc ms : List Machine} (hmc : MachinesOK mc) (hms : MachinesOK ms)
    {sq : SimQueue} {a : Args} {N d T : Nat} (hq : QueueOK sq (-(d : Int)) (T : Int))
    (hfrac : Validate.fracOK a.fpClient = true ∧ Validate.fracOK a.fbClient = true ∧
      Validate.fracOK a.fpServer = true ∧ Validate.fracOK a.fbServer = true)
    (hd : a.network.delay = d) (hpps : 1 ≤ effPps a.network sq.maxPps)
    (hcap : CappedAt a N) (hN : 0 < N) (hg : (N + 2) * TB.span N T d ≤ durMax) (orc : σ)
    (hstop : (simAdvanced ρ budget mc ms sq a orc).stop = .queueEmpty) :
    ∀ stf, (simAdvanced ρ budget mc ms sq a orc).final = some stf → ∀ c, stf.sq.pending c = 0 := by
  obtain ⟨t0, st, hi, ht0, hli⟩ := initState_LI ρ hmc hms (N := N) hq hfrac hd hpps orc
  unfold simAdvanced at hstop ⊢
  simp only [hi, finish_stop] at hstop ⊢
  intro stf hfin
  obtain ⟨st1, i1, c1, ⟨hli1, hlt1, _⟩, hf1, hs⟩ :=
    (loop_inv ρ a (I := RunHead a N d T t0) (fun _ _ _ _ _ h => h.next ρ hcap ht0 hg) _ st 0 0
      ⟨hli, hN, Or.inr rfl⟩).2 hstop
  rw [finish_final hfin] at hf1
  cases hf1
  exact step_none_drained ρ hli1 hlt1 ht0 hg hs

end

section
variable {σ : Type} (ρ : Oracle σ)

/-- a trace without a normal line makes `sq.get_first_time().unwrap()` panic -/
theorem no_normal_line_panics (budget : Nat) (c : CaseIn) (r : RunIn) (orc : σ) (h : normalLines c.trace = []) :
    (modelOut ρ budget c r orc).stop.isPanic = true := by
  unfold modelOut
  rw [parseTraceRaw_eq, h]
  rfl

end

theorem normalSentCount_map_ev (l : List StepRec) (c : Bool) :
    C15.normalSentCount (l.map (·.ev)) c = l.countP (sentNormal c) := by
  induction l with
  | nil => rfl
  | cons r rs ih =>
    simp only [C15.normalSentCount, List.map_cons, List.filter_cons, List.countP_cons] at ih ⊢
    by_cases h : sentNormal c r = true
    · have h' : (r.ev.client == c && r.ev.event == TEvent.tunnelSent && !r.ev.containsPadding) = true := by
        simpa [sentNormal, isTS] using h
      simp [h, h', ih]
    · have h1 : sentNormal c r = false := by simpa using h
      have h' : (r.ev.client == c && r.ev.event == TEvent.tunnelSent && !r.ev.containsPadding) = false := by
        simpa [sentNormal, isTS] using h1
      simp [h1, h', ih]

theorem share_eq_shareOf (trace : List TraceLine) (c : Bool) : C15.share trace c = shareOf trace c := by
  simp [C15.share, shareOf, List.countP_eq_length_filter]

theorem filter_keep_unfiltered (a : Args) (hoc : a.onlyClientEvents = false) (hon : a.onlyNetworkActivity = false)
    (l : List StepRec) : l.filter a.keep = l := by
  apply List.filter_eq_self.2
  intro r _
  simp [Args.keep, keep, hoc, hon]

theorem effArgs_delay (r : RunIn) (d : Nat) : (r.effArgs d).network.delay = d := by
  unfold RunIn.effArgs; split <;> rfl

/-- a `sim` call has no `only_client_events` parameter: a run through `sim` is recorded with
    that flag off -/
def RunIn.WF (r : RunIn) : Prop := r.adv = false → r.args.onlyClientEvents = false

instance (r : RunIn) : Decidable r.WF := by unfold RunIn.WF; infer_instance

theorem sameBase_of_sameArgs {a b : RunIn} (h : C19.sameArgs a b = true) : C19.sameBase a b = true := by
  unfold C19.sameArgs at h
  simp only [Bool.and_eq_true] at h
  exact h.1.1.1

/-- runs with the same arguments (in the monitor's sense) have the same effective arguments -/
theorem effArgs_eq_of_sameArgs {a b : RunIn} (d : Nat) (h : C19.sameArgs a b = true) : a.effArgs d = b.effArgs d := by
  unfold C19.sameArgs C19.sameBase at h
  simp only [Bool.and_eq_true, beq_iff_eq] at h
  obtain ⟨⟨⟨hsb, hmtl⟩, hoc⟩, hon⟩ := h
  obtain ⟨⟨⟨⟨⟨⟨⟨⟨⟨hadv, hpps⟩, _⟩, _⟩, hmsi⟩, hcont⟩, h1⟩, h2⟩, h3⟩, h4⟩ := hsb
  unfold RunIn.effArgs
  rw [hadv, hpps]
  cases hx : a.args
  cases hy : b.args
  rw [hx] at hmsi hcont h1 h2 h3 h4 hmtl hoc hon
  rw [hy] at hmsi hcont h1 h2 h3 h4 hmtl hoc hon
  simp only [] at hmsi hcont h1 h2 h3 h4 hmtl hoc hon
  subst hmsi hcont h1 h2 h3 h4 hmtl hoc hon
  rfl

theorem uncapped_eq_self (a : Args) (h : a.maxTraceLength = 0) : a.uncapped = a := by
  cases a
  simp only [Args.uncapped] at h ⊢
  subst h
  rfl

/-- for a reference run `u` (no cap, no filters) and a run `f` with the same base, the effective
    arguments of `u` are those of `f` without cap and filters, and the monitor reads `f`'s own
    cap and filters -/
theorem effArgs_reference {u f : RunIn} (d : Nat) (href : C19.isReference u = true) (hsb : C19.sameBase u f = true)
    (hwf : f.WF) :
    u.effArgs d = (f.effArgs d).uncapped.unfiltered ∧
    (f.effArgs d).maxTraceLength = f.args.maxTraceLength ∧
    (f.effArgs d).onlyClientEvents = f.args.onlyClientEvents ∧
    (f.effArgs d).onlyNetworkActivity = f.args.onlyNetworkActivity := by
  unfold C19.sameBase at hsb
  unfold C19.isReference at href
  simp only [Bool.and_eq_true, beq_iff_eq, Bool.not_eq_true'] at hsb href
  obtain ⟨⟨⟨⟨⟨⟨⟨⟨⟨hadv, hpps⟩, _⟩, _⟩, hmsi⟩, hcont⟩, h1⟩, h2⟩, h3⟩, h4⟩ := hsb
  obtain ⟨⟨hmtl, hoc⟩, hon⟩ := href
  unfold RunIn.WF at hwf
  unfold RunIn.effArgs
  rw [hadv, hpps]
  cases hx : u.args
  cases hy : f.args
  rw [hx] at hmsi hcont h1 h2 h3 h4 hmtl hoc hon
  rw [hy] at hmsi hcont h1 h2 h3 h4 hwf
  simp only [] at hmsi hcont h1 h2 h3 h4 hmtl hoc hon hwf
  subst hmsi hcont h1 h2 h3 h4 hmtl hoc hon
  cases hfa : f.adv with
  | true => exact ⟨rfl, rfl, rfl, rfl⟩
  | false =>
    have := hwf hfa
    subst this
    exact ⟨rfl, rfl, rfl, rfl⟩

theorem project_shift (on oc : Bool) (cap : Nat) (t0 : Int) (l : List SimEvent) :
    C19.project on oc cap (l.map (SimEvent.shift t0)) = (C19.project on oc cap l).map (SimEvent.shift t0) := by
  unfold C19.project takeCap
  rw [filter_keepObs_shift]
  split
  · rw [List.map_take]
  · rfl

/- Concrete cases for the non-vacuity examples and witnesses.  The returned trace of the model goes
   through `List.mergeSort` (well-founded recursion, which the kernel does not unfold);
   `modelObs_of_stream` restates the observation through the iteration stream, which the kernel
   evaluates. -/

theorem modelObs_of_stream {σ : Type} (ρ : Oracle σ) (budget : Nat) (c : CaseIn) (r : RunIn) (orc : σ)
    (hp : (modelOut ρ budget c r orc).stop.isPanic = false) :
    modelObs ρ budget c r orc =
      ⟨r, .ok ((((modelOut ρ budget c r orc).stream.filter (r.effArgs c.delay).keep).map (·.ev)).map
        (SimEvent.shift (obsT0 c)))⟩ := by
  have h1 : modelObs ρ budget c r orc = ⟨r, (modelOut ρ budget c r orc).res (obsT0 c)⟩ := rfl
  rw [h1, res_ok hp]
  have := simAdvanced_trace_stream ρ budget c.mc c.ms (parseTraceRaw c.trace c.delay) (r.effArgs c.delay) orc
    (isPanic_false_no_fault hp)
  unfold modelOut
  rw [this]

/-- the observation, computed through the stream (kernel-evaluable form of `modelObs`) -/
def modelObsS {σ : Type} (ρ : Oracle σ) (budget : Nat) (c : CaseIn) (r : RunIn) (orc : σ) : ObsRun :=
  ⟨r, if (modelOut ρ budget c r orc).stop.isPanic then (modelOut ρ budget c r orc).res (obsT0 c)
      else .ok ((((modelOut ρ budget c r orc).stream.filter (r.effArgs c.delay).keep).map (·.ev)).map
        (SimEvent.shift (obsT0 c)))⟩

theorem modelObs_eq_S {σ : Type} (ρ : Oracle σ) (budget : Nat) (c : CaseIn) (r : RunIn) (orc : σ) :
    modelObs ρ budget c r orc = modelObsS ρ budget c r orc := by
  unfold modelObsS
  cases hp : (modelOut ρ budget c r orc).stop.isPanic with
  | true => rfl
  | false => exact modelObs_of_stream ρ budget c r orc hp

/-- runs of one case that differ only in the output filters (no length cap) observe the same
    iteration stream, so that evaluating several of them evaluates the loop once -/
theorem modelObsS_unfiltered {σ : Type} (ρ : Oracle σ) (budget : Nat) (c : CaseIn) (r u : RunIn) (orc : σ)
    (hu : (r.effArgs c.delay).unfiltered = u.effArgs c.delay) (hcap : (r.effArgs c.delay).maxTraceLength = 0) :
    modelObsS ρ budget c r orc =
      ⟨r, if (modelOut ρ budget c u orc).stop.isPanic then (modelOut ρ budget c u orc).res (obsT0 c)
          else .ok ((((modelOut ρ budget c u orc).stream.filter (r.effArgs c.delay).keep).map (·.ev)).map
            (SimEvent.shift (obsT0 c)))⟩ := by
  obtain ⟨hs, hp⟩ := simAdvanced_unfiltered ρ budget c.mc c.ms (parseTraceRaw c.trace c.delay) (r.effArgs c.delay) orc hcap
  unfold modelObsS modelOut SimOut.res
  rw [← hu, hs, hp]
  generalize (simAdvanced ρ budget c.mc c.ms (parseTraceRaw c.trace c.delay) (r.effArgs c.delay) orc).stop = s
  cases s <;> simp only [Stop.isPanic, if_true, Bool.false_eq_true, if_false]

/-- a run enters its observation only through its effective arguments -/
theorem modelObsS_congr {σ : Type} (ρ : Oracle σ) (budget : Nat) (c : CaseIn) (r u : RunIn) (orc : σ)
    (h : r.effArgs c.delay = u.effArgs c.delay) :
    modelObsS ρ budget c r orc = ⟨r, (modelObsS ρ budget c u orc).res⟩ := by
  unfold modelObsS modelOut
  rw [h]

/-- 1000.0 as f64 -/
def demoDist : Dist := { dist := .uniform 0x408F400000000000 0x408F400000000000, start := 0, max := 0 }

/-- a one-state padding machine: every NormalSent (re-)enters state 0, which schedules a padding -/
def demoPad : Machine :=
  { allowedPaddingPackets := 1000, maxPaddingFrac := 0, allowedBlockedMicrosec := 0, maxBlockingFrac := 0,
    states := [
      { action := some (.sendPadding false false demoDist none), counterA := none, counterB := none,
        transitions := [none, none, none, some [{ target := 0, prob := 0x3f800000 }], none,
                        none, none, none, none, none, none, none, none] }] }

/-- the padding machine on the client, a four-line raw trace (one padding line), 10 ms delay -/
def demoCase : CaseIn :=
  { mc := [demoPad], ms := [], trace := [⟨0, .s⟩, ⟨1000000, .r⟩, ⟨2000000, .sp⟩, ⟨3000000, .sn⟩], delay := 10000000 }

/-- the same trace without machines -/
def demoCase0 : CaseIn := { demoCase with mc := [] }

def demoArgs (mtl msi : Nat) (cont oc on : Bool) : Args :=
  { network := ⟨0, none⟩, maxTraceLength := mtl, maxSimIterations := msi, continueAfterAllNormal := cont,
    onlyClientEvents := oc, onlyNetworkActivity := on, fpClient := 0, fbClient := 0, fpServer := 0, fbServer := 0 }

/-- a `sim_advanced` run with seed 1 -/
def demoRun (name : String) (mtl msi : Nat) (cont oc on : Bool) : RunIn :=
  { name := name, adv := true, pps := none, args := demoArgs mtl msi cont oc on, seed := some 1 }

/-- a `sim` run (thread RNG: no seed) -/
def demoSim (mtl : Nat) (on : Bool) : RunIn :=
  { name := "sim", adv := false, pps := none, args := demoArgs mtl 0 false false on, seed := none }

/-- the runs of a generated case, in small: main run, its repetition, the uncapped unfiltered
    reference, the three filter settings, a capped filtered run, and a run through `sim` -/
def demoRuns : List (RunIn × Unit) :=
  [(demoRun "main" 5 40 true true false, ()), (demoRun "det" 5 40 true true false, ()),
   (demoRun "u" 0 40 true false false, ()), (demoRun "f10" 0 40 true true false, ()),
   (demoRun "f01" 0 40 true false true, ()), (demoRun "f11" 0 40 true true true, ()),
   (demoRun "cap" 3 40 true false true, ()), (demoSim 7 false, ())]

/-- an oracle whose sampler answers with its state, read as the bits of an f64 -/
def natOracle : Oracle Nat := ⟨fun s => (0, s), fun _ s => (UInt64.ofNat s, s)⟩

/-- the padding machine with a timeout that is really sampled: Uniform(1000.0, 3000.0) µs -/
def widePad : Machine :=
  { demoPad with states := [
      { action := some (.sendPadding false false
          { dist := .uniform 0x408F400000000000 0x40A7700000000000, start := 0, max := 0 } none),
        counterA := none, counterB := none,
        transitions := [none, none, none, some [{ target := 0, prob := 0x3f800000 }], none,
                        none, none, none, none, none, none, none, none] }] }

def wideCase : CaseIn := { demoCase with mc := [widePad] }

/-- a trace that is NOT in time order: packets at 0, 1, 2, … ns, each followed by one 10 s, 20 s, …
    later; `parse_trace`'s 100 ms window is flushed by every late packet, so it counts at most two
    packets and derives a limit of 20 per second, although `k` packets fall into the first second -/
def zigzag (k : Nat) : List RawLine := (List.range k).flatMap fun i => [⟨i, .s⟩, ⟨(i + 1) * 10000000000, .s⟩]

def zigzagCase : CaseIn := { mc := [], ms := [], trace := zigzag 22, delay := 1000 }

/-- two client packets, the second one exactly `Duration::MAX` after the first; no machines, delay 0 -/
def farCase : CaseIn := { mc := [], ms := [], trace := [⟨0, .s⟩, ⟨durMax, .s⟩], delay := 0 }

end Mb.Sim

namespace Mb.C15
open Mb Mb.Sim Mb.SimSpec

/-- the monitor returns no failure on an observed trace that is ordered and — when unfiltered —
    satisfies the causality and the conservation predicate with the monitor's own "complete" flag -/
theorem monitor_none_of {c : CaseIn} {r : ObsRun} {tr : List SimEvent} (hres : r.res = .ok tr)
    (h1 : sortedByTime tr = true)
    (h2 : (r.run.effArgs c.delay).onlyClientEvents = false → (r.run.effArgs c.delay).onlyNetworkActivity = false →
      causality c.delay tr = true ∧
      conservation (normalLines c.trace)
        (((r.run.effArgs c.delay).maxTraceLength == 0 || decide (tr.length < (r.run.effArgs c.delay).maxTraceLength))
          && ((r.run.effArgs c.delay).maxSimIterations == 0 || decide (tr.length < (r.run.effArgs c.delay).maxSimIterations)))
        tr = true) :
    C15.monitor c r = none := by
  unfold C15.monitor
  rw [hres]
  simp only [h1, Bool.not_true, Bool.false_eq_true, if_false]
  cases hoc : (r.run.effArgs c.delay).onlyClientEvents with
  | true => simp
  | false =>
    cases hon : (r.run.effArgs c.delay).onlyNetworkActivity with
    | true => simp
    | false =>
      obtain ⟨hc, hk⟩ := h2 hoc hon
      simp only [Bool.or_self, Bool.false_eq_true, if_false, hc, Bool.not_true, hk]

end Mb.C15

namespace Mb.C19
open Mb Mb.Sim Mb.SimSpec

/-- the "panic" entries of the monitor's output: one per run whose result is a panic -/
def panicMsgs (c : CaseIn) (runs : List ObsRun) : List String :=
  runs.filterMap fun r => match r.res with
    | .panic cls => some s!"run {r.run.name}: panic {cls} (pps={r.run.pps} delay={c.delay})"
    | .ok _ => none

theorem append3_nil (A B C D : List String) (hB : B = []) (hC : C = []) (hD : D = []) : A ++ B ++ C ++ D = A := by
  subst hB hC hD; simp

/-- what the monitor compares: if every returned trace respects its bounds, runs with the same
    arguments have the same result, and every capped / filtered run with the base of an
    uncapped unfiltered reference run returns the projection of the reference trace, the monitor
    reports the panics and nothing else -/
theorem monitor_eq_panics_of (c : CaseIn) (runs : List ObsRun)
    (hb : ∀ r ∈ runs, ∀ tr, r.res = .ok tr → boundsOK (r.run.effArgs c.delay) tr = true)
    (hd : ∀ r ∈ runs, ∀ r' ∈ runs, sameArgs r.run r'.run = true → r.res = r'.res)
    (hp : ∀ u ∈ runs, ∀ f ∈ runs, isReference u.run = true → isReference f.run = false →
      sameBase u.run f.run = true → ∀ ut ft, u.res = .ok ut → f.res = .ok ft →
      ft = project f.run.args.onlyNetworkActivity f.run.args.onlyClientEvents f.run.args.maxTraceLength ut) :
    C19.monitor c runs = panicMsgs c runs := by
  unfold C19.monitor panicMsgs
  simp only []
  apply append3_nil
  · rw [List.filterMap_eq_nil_iff]
    intro r hr
    cases hres : r.res with
    | panic cls => rfl
    | ok tr => simp only [hb r hr tr hres, if_true]
  · rw [List.flatMap_eq_nil_iff]
    rintro ⟨r, i⟩ hri
    simp only []
    rw [List.filterMap_eq_nil_iff]
    intro r' hr'
    have hr : r ∈ runs := List.fst_mem_of_mem_zipIdx hri
    have hr'' : r' ∈ runs := List.mem_of_mem_drop hr'
    cases hsa : sameArgs r.run r'.run with
    | false => simp
    | true => simp [hd r hr r' hr'' hsa]
  · rw [List.flatMap_eq_nil_iff]
    intro u hu
    cases href : isReference u.run with
    | false => simp
    | true =>
      simp only [Bool.not_true, Bool.false_eq_true, if_false]
      cases hures : u.res with
      | panic cls => rfl
      | ok ut =>
        simp only []
        rw [List.filterMap_eq_nil_iff]
        intro f hf
        cases hfr : isReference f.run with
        | true => simp
        | false =>
          cases hsb : sameBase u.run f.run with
          | false => simp
          | true =>
            simp only [Bool.false_or, Bool.not_true, Bool.false_eq_true, if_false]
            cases hfres : f.res with
            | panic cls => rfl
            | ok ft =>
              simp only []
              rw [hp u hu f hf href hfr hsb ut ft hures hfres]
              simp

end Mb.C19
