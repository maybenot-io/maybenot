/-
  From the Hall-form causality statement to the monitor's predicate `C15.causality`: on
  ascending lists the order-preserving matching works.  Likewise the monitor's conservation
  predicate from its two counting facts.
-/
import MbVerif.Proofs.SimCausal
import MbVerif.Spec.C15

namespace Mb.Sim
open Mb Mb.SimSpec

theorem insertSorted_countP (p : Int → Bool) (x : Int) : ∀ l, (insertSorted x l).countP p = (x :: l).countP p := by
  intro l
  induction l with
  | nil => rfl
  | cons y r ih =>
    simp only [insertSorted]
    split
    · rfl
    · simp only [List.countP_cons, ih]; omega

theorem sortInts_countP (p : Int → Bool) : ∀ l, (sortInts l).countP p = l.countP p := by
  intro l
  induction l with
  | nil => rfl
  | cons x r ih =>
    show (insertSorted x (sortInts r)).countP p = _
    rw [insertSorted_countP, List.countP_cons, List.countP_cons, ih]

theorem mem_insertSorted {x z : Int} : ∀ {l : List Int}, z ∈ insertSorted x l → z = x ∨ z ∈ l
  | [], h => Or.inl (List.mem_singleton.1 h)
  | y :: r, h => by
    simp only [insertSorted] at h
    split at h
    · exact List.mem_cons.1 h
    · rcases List.mem_cons.1 h with rfl | h
      · exact Or.inr List.mem_cons_self
      · exact (mem_insertSorted h).imp_right (List.mem_cons_of_mem _)

theorem insertSorted_asc (x : Int) : ∀ l : List Int, l.Pairwise (· ≤ ·) → (insertSorted x l).Pairwise (· ≤ ·)
  | [], _ => List.pairwise_singleton _ _
  | y :: r, h => by
    obtain ⟨hy, hr⟩ := List.pairwise_cons.1 h
    simp only [insertSorted]
    split
    · refine List.pairwise_cons.2 ⟨fun z hz => ?_, h⟩
      rcases List.mem_cons.1 hz with rfl | hz
      · assumption
      · exact Int.le_trans ‹x ≤ y› (hy z hz)
    · refine List.pairwise_cons.2 ⟨fun z hz => ?_, insertSorted_asc x r hr⟩
      rcases mem_insertSorted hz with rfl | hz
      · omega
      · exact hy z hz
theorem sortInts_asc : ∀ l, (sortInts l).Pairwise (· ≤ ·) := by
  intro l
  induction l with
  | nil => exact List.Pairwise.nil
  | cons x r ih => exact insertSorted_asc x _ ih

/-- Hall's condition implies the order-preserving matching on ascending lists -/
theorem hall_matched (d : Nat) : ∀ (R S : List Int), R.Pairwise (· ≤ ·) → S.Pairwise (· ≤ ·) →
    (∀ T : Int, R.countP (fun r => decide (r ≤ T)) ≤ S.countP (fun s => decide (s + d ≤ T))) →
    C15.matched d S R = true
  | [], S, _, _, _ => by cases S <;> rfl
  | r :: rs, [], _, _, hall => by have := hall r; simp at this
  | r :: rs, s :: ss, hR, hS, hall => by
    obtain ⟨hr, hrs⟩ := List.pairwise_cons.1 hR
    obtain ⟨hs, hss⟩ := List.pairwise_cons.1 hS
    -- some send is at least `d` before `r`, and `s` is the earliest send
    have hsr : s + d ≤ r := by
      have h1 := hall r
      rw [List.countP_cons_of_pos (by simp)] at h1
      obtain ⟨w, hw, hwd⟩ := List.countP_pos_iff.1 (Nat.lt_of_lt_of_le (Nat.succ_pos _) h1)
      simp only [decide_eq_true_eq] at hwd
      rcases List.mem_cons.1 hw with rfl | hw
      · exact hwd
      · have := hs w hw; omega
    simp only [C15.matched, Bool.and_eq_true, decide_eq_true_eq]
    refine ⟨hsr, hall_matched d rs ss hrs hss fun T => ?_⟩
    by_cases hT : r ≤ T
    · have h1 := hall T
      simp only [List.countP_cons, hT, decide_true, if_true] at h1
      split at h1 <;> omega
    · rw [List.countP_eq_zero.2 fun x hx => by have := hr x hx; simp only [decide_eq_true_eq]; omega]
      exact Nat.zero_le _
theorem times_countP_recv (tr : List SimEvent) (c pd : Bool) (T : Int) :
    (C15.times tr c .tunnelRecv pd).countP (fun r => decide (r ≤ T)) = tr.countP (recvP c pd T) := by
  unfold C15.times
  rw [sortInts_countP, List.countP_map, List.countP_filter]
  apply List.countP_congr
  intro e _
  simp only [Function.comp, recvP, Bool.and_eq_true, beq_iff_eq, decide_eq_true_eq]
  constructor
  · rintro ⟨h1, ⟨h2, h3⟩, h4⟩; exact ⟨⟨⟨h3, h2⟩, h4⟩, h1⟩
  · rintro ⟨⟨⟨h3, h2⟩, h4⟩, h1⟩; exact ⟨h1, ⟨h2, h3⟩, h4⟩

theorem times_countP_send (tr : List SimEvent) (c pd : Bool) (T : Int) (d : Nat) :
    (C15.times tr (!c) .tunnelSent pd).countP (fun s => decide (s + d ≤ T)) = tr.countP (sendP c pd T d) := by
  unfold C15.times
  rw [sortInts_countP, List.countP_map, List.countP_filter]
  apply List.countP_congr
  intro e _
  simp only [Function.comp, sendP, Bool.and_eq_true, beq_iff_eq, decide_eq_true_eq]
  constructor
  · rintro ⟨h1, ⟨h2, h3⟩, h4⟩; exact ⟨⟨⟨h3, h2⟩, h4⟩, h1⟩
  · rintro ⟨⟨⟨h3, h2⟩, h4⟩, h1⟩; exact ⟨h1, ⟨h2, h3⟩, h4⟩

theorem causality_of_hall (d : Nat) (tr : List SimEvent)
    (h : ∀ (c pd : Bool) (T : Int), tr.countP (recvP c pd T) ≤ tr.countP (sendP c pd T d)) :
    C15.causality d tr = true := by
  unfold C15.causality
  simp only [List.all_cons, List.all_nil, Bool.and_true, Bool.and_eq_true]
  have key : ∀ c pd, C15.matched d (C15.times tr (!c) .tunnelSent pd) (C15.times tr c .tunnelRecv pd) = true := by
    intro c pd
    apply hall_matched d _ _ (sortInts_asc _) (sortInts_asc _)
    intro T
    have h1 := times_countP_recv tr c pd T
    have h2 := times_countP_send tr c pd T d
    have h3 := h c pd T
    unfold C15.times at h1 h2
    show List.countP _ (sortInts _) ≤ List.countP _ (sortInts _)
    rw [h1, h2]; exact h3
  exact ⟨⟨key true true, key true false⟩, ⟨key false true, key false false⟩⟩

theorem conservation_of {trace : List TraceLine} {complete : Bool} {tr : List SimEvent}
    (hle : ∀ cl, C15.normalSentCount tr cl ≤ C15.share trace cl)
    (heq : complete = true → ∀ cl, C15.normalSentCount tr cl = C15.share trace cl) :
    C15.conservation trace complete tr = true := by
  unfold C15.conservation
  cases complete with
  | false => simpa using ⟨hle true, hle false⟩
  | true => simpa using ⟨heq rfl true, heq rfl false⟩

end Mb.Sim
