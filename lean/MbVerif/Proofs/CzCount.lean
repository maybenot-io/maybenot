/-
  C08, call level: a machine receives CounterZero at most twice per call (once per counter),
  counted on the ghost log. Potential: CounterZero deliveries to the machine so far + number of
  its guard flags still unset; no step of a call after its start increases it.
-/
import MbVerif.Proofs.WorkBound

namespace Mb
variable {σ : Type} (ρ : Oracle σ)

def μCz (mi0 : Nat) : LogEntry → Nat
  | .trans m ev _ => if m = mi0 ∧ ev = Gen.EV_CounterZero then 1 else 0
  | _ => 0

theorem μCz_transOnly (mi0 : Nat) : TransOnly (μCz mi0) := by
  intro e he
  cases e with
  | trans m ev st => exact absurd rfl (he m ev st)
  | _ => rfl

def czOf (mi0 : Nat) (s : Fw σ) : Nat := wsum (μCz mi0) s.log

def czPot (mi0 : Nat) (s : Fw σ) : Nat := czOf mi0 s + unset s mi0

theorem toNat_counterZero (ev : Event) : ev.toNat = Gen.EV_CounterZero ↔ ev = .counterZero := by
  cases ev <;> decide

theorem czPot_transition (mi0 j : Nat) (ev : Event) (s : Fw σ) (hev : ev ≠ .counterZero) :
    czPot mi0 (transition ρ FUEL j ev s).1 ≤ czPot mi0 s := by
  unfold czPot czOf
  by_cases hj : j = mi0
  · subst hj
    have := (count_main ρ (μCz_transOnly j) 1 FUEL).1 j ev 0 s
      (fun st => by
        simp only [μCz, toNat_counterZero]
        simp [hev])
      (fun st => by simp only [μCz]; split <;> omega)
    omega
  · have := (count_main ρ (μCz_transOnly mi0) 0 FUEL).1 j ev 0 s
      (fun st => by simp [μCz, hj])
      (fun st => by simp [μCz, hj])
    have hu : unset (transition ρ FUEL j ev s).1 mi0 = unset s mi0 :=
      unset_congr ((transition_reach ρ FUEL j ev s).frame.rtOther mi0 (fun h => hj h.symm))
    omega

theorem czPot_same {mi0 : Nat} {s t : Fw σ} (hl : t.log = s.log) (hr : t.rt[mi0]? = s.rt[mi0]?) :
    czPot mi0 t ≤ czPot mi0 s := by
  unfold czPot czOf
  rw [hl, unset_congr hr]

theorem czPot_modRt (mi0 j : Nat) (f : Runtime → Runtime) (s : Fw σ)
    (hA : ∀ r, (f r).zeroedA = r.zeroedA) (hB : ∀ r, (f r).zeroedB = r.zeroedB) :
    czPot mi0 (s.modRt j f) ≤ czPot mi0 s := by
  unfold czPot czOf
  rw [Fw.modRt_log]
  by_cases hj : j = mi0
  · subst hj; rw [unset_modRt_keep s j f hA hB]
  · rw [unset_congr (Fw.modRt_rt_other s j mi0 f (fun h => hj h.symm))]

theorem czPot_push (mi0 : Nat) (s : Fw σ) (e : LogEntry) (he : ∀ m ev st, e ≠ .trans m ev st) :
    czPot mi0 (s.push e) ≤ czPot mi0 s := by
  unfold czPot czOf
  rw [(quiet_push (μCz_transOnly mi0) s e he).w, unset_push]

theorem czPot_decrement (mi0 j : Nat) (s : Fw σ) : czPot mi0 (decrementLimit ρ j s) ≤ czPot mi0 s :=
  decrementLimit_rel ρ (Q := fun s t : Fw σ => czPot mi0 t ≤ czPot mi0 s) j
    (fun h₁ h₂ => Nat.le_trans h₂ h₁) (fun s => czPot_same (by simp) (by simp))
    (fun s l => Nat.le_trans (czPot_push mi0 _ _ (fun _ _ _ h => by cases h))
      (czPot_modRt mi0 j _ s (fun _ => rfl) (fun _ => rfl)))
    (fun s _ => czPot_same rfl rfl) (fun s => czPot_transition ρ mi0 j .limitReached s (by decide)) s

/-- after the start of a call the potential never grows: a walker over events -/
theorem walkCz (mi0 : Nat) : WalkEv ρ (fun (s t : Fw σ) => czPot mi0 t ≤ czPot mi0 s) where
  refl s := Nat.le_refl _
  trans h₁ h₂ := Nat.le_trans h₂ h₁
  transition j ev s hev := czPot_transition ρ mi0 j ev s hev
  decrement j s _ := czPot_decrement ρ mi0 j s
  fault s f := czPot_same (by simp) (by simp)
  signal s p := czPot_same rfl rfl
  setG s g' := czPot_same rfl rfl
  acct s j f hf := czPot_modRt mi0 j f s (fun r => by rw [hf r]) (fun r => by rw [hf r])

/-- At most two CounterZero deliveries per machine per call. -/
theorem cz_triggerEvents (mi0 : Nat) (es : List TEvent) (t : Int) (s : Fw σ) :
    czOf mi0 (triggerEvents ρ es t s) ≤ czOf mi0 s + 2 := by
  unfold triggerEvents
  have W := walkCz ρ (σ := σ) mi0
  have h1 : czPot mi0 (es.foldl (fun s e => processEvent ρ e s) (s.callStart t)) ≤ czPot mi0 (s.callStart t) :=
    W.toWalkCore.foldl _ (fun a e => W.processEvent e a) es _
  have h2 := W.toWalkCore.signalRound (es.foldl (fun s e => processEvent ρ e s) (s.callStart t))
  have h0 : czOf mi0 (s.callStart t) = czOf mi0 s := rfl
  have hu := unset_le_two (s.callStart t) mi0
  unfold czPot at h1 h2
  omega

end Mb
