/-
  C07, the remaining rules of `C07.monitor` on the model's own log, and the monitor over whole
  histories of the model.

  * rule "own completions only": per call, decrements of `j` <= completions reported for `j`
    (`Countdown.dec_triggerEvents`);
  * rule "a completion that leaves the state unchanged consumes exactly one unit, one that changes
    the state consumes none" for single-event calls (`RuleC`, from `LL.main2`: the Boolean
    `Changed` returned by `transition` is the monitor's `changedState` over the log segment);
  * rule "no limited action while the limit stayed 0" (`Mb.exhausted_call` and the slot
    invariant `Inv04`);
  * `monitor_model`: `C07.monitor` returns `none` on the trace the model produces for any history.

  Also here, for all monitors (MonitorAcceptA/B/C): the model's own trace as the driver records it
  (`resOf`, `resetLog`, `callRec`, `callRecs`, `modelTrace`) and the lemmas by which a monitor's walk
  over it is handled (`callRecs_accept`, `callRecs_forall`).
-/
import MbVerif.Proofs.LimitStep
import MbVerif.Proofs.C04
import MbVerif.Proofs.SigCount

namespace Mb
namespace LL
open C07 (isRegular)

/-- the monitor's test "not a decrement of `m`" -/
def notDec (m : Nat) : LogEntry → Bool := fun e => match e with
  | LogEntry.limit mm _ true => mm != m
  | _ => true

def isSigTrans : LogEntry → Bool
  | .trans _ ev _ => ev == Gen.EV_Signal
  | _ => false

/-- no effect on the single-completion rule for machine `m`: not a sampled state of `m`, not a
    decrement of `m`, not a Signal delivery -/
def neutral (m : Nat) (e : LogEntry) : Prop :=
  (∀ ev nx, e ≠ .sampled m ev nx) ∧ notDec m e = true ∧ isSigTrans e = false

/-- the single-completion rule of the monitor on the pre-signal part `pre` of a call's log -/
def RuleC (m cur : Nat) (pre : List LogEntry) : Prop :=
  (C07.decrements m pre = 0 ∧ C07.changedState m cur pre = true) ∨
  (C07.decrements m pre = 1 ∧ C07.changedState m cur (pre.takeWhile (notDec m)) = false)

theorem decrements_eq (m : Nat) (l : List LogEntry) : C07.decrements m l = l.countP (fun e => !notDec m e) := by
  unfold C07.decrements
  congr 1
  funext e
  cases e with
  | limit mm v d => cases d <;> simp [notDec, bne]
  | _ => rfl

theorem decrements_append (m : Nat) (a b : List LogEntry) :
    C07.decrements m (a ++ b) = C07.decrements m a + C07.decrements m b := by
  simp [decrements_eq, List.countP_append]

theorem decrements_zero (m : Nat) (a : List LogEntry) (h : ∀ e ∈ a, notDec m e = true) : C07.decrements m a = 0 := by
  rw [decrements_eq, List.countP_eq_zero]
  intro e he
  simp [h e he]

theorem takeWhile_stop {p : LogEntry → Bool} (a b : List LogEntry) (h : ∃ e ∈ a, p e = false) :
    (a ++ b).takeWhile p = a.takeWhile p := by
  induction a with
  | nil => obtain ⟨e, he, _⟩ := h; cases he
  | cons x a ih =>
    simp only [List.cons_append, List.takeWhile_cons]
    by_cases hx : p x = true
    · simp only [hx, if_true]
      obtain ⟨e, he, hp⟩ := h
      rcases List.mem_cons.1 he with rfl | he'
      · rw [hx] at hp; cases hp
      · rw [ih ⟨e, he', hp⟩]
    · simp [hx]

theorem csFold_neutral (m : Nat) (a : List LogEntry) (acc : Nat × Bool) (h : ∀ e ∈ a, neutral m e) :
    a.foldl (csStep m) acc = acc := by
  induction a generalizing acc with
  | nil => rfl
  | cons e a ih =>
    rw [List.foldl_cons]
    have he := (h e (by simp)).1
    have : csStep m acc e = acc := by
      cases e with
      | sampled j ev nx =>
        by_cases hj : j = m
        · subst hj; exact absurd rfl (he ev nx)
        · exact csStep_other m j hj acc ev nx
      | _ => rfl
    rw [this]
    exact ih acc (fun e' he' => h e' (by simp [he']))

theorem changedState_left (m cur : Nat) (a c : List LogEntry) (h : ∀ e ∈ a, neutral m e) :
    C07.changedState m cur (a ++ c) = C07.changedState m cur c := by
  rw [changedState_eq, changedState_eq, List.foldl_append, csFold_neutral m a _ h]

theorem changedState_right (m cur : Nat) (c b : List LogEntry) (h : ∀ e ∈ b, neutral m e) :
    C07.changedState m cur (c ++ b) = C07.changedState m cur c := by
  rw [changedState_eq, changedState_eq, List.foldl_append, csFold_neutral m b _ h]

theorem exists_dec_of_one (m : Nat) (c : List LogEntry) (h : C07.decrements m c = 1) :
    ∃ e ∈ c, notDec m e = false := by
  rw [decrements_eq] at h
  have : 0 < c.countP (fun e => !notDec m e) := by omega
  obtain ⟨e, he, hp⟩ := List.countP_pos_iff.1 this
  exact ⟨e, he, by simpa using hp⟩

theorem RuleC.left {m cur : Nat} {a c : List LogEntry} (ha : ∀ e ∈ a, neutral m e) (hc : RuleC m cur c) :
    RuleC m cur (a ++ c) := by
  have hd : C07.decrements m a = 0 := decrements_zero m a (fun e he => (ha e he).2.1)
  rcases hc with ⟨h1, h2⟩ | ⟨h1, h2⟩
  · exact Or.inl ⟨by rw [decrements_append, hd, h1], by rw [changedState_left m cur a c ha]; exact h2⟩
  · refine Or.inr ⟨by rw [decrements_append, hd, h1], ?_⟩
    rw [List.takeWhile_append_of_pos (fun e he => (ha e he).2.1), changedState_left m cur a _ ha]
    exact h2

theorem RuleC.right {m cur : Nat} {c b : List LogEntry} (hb : ∀ e ∈ b, neutral m e) (hc : RuleC m cur c) :
    RuleC m cur (c ++ b) := by
  have hd : C07.decrements m b = 0 := decrements_zero m b (fun e he => (hb e he).2.1)
  rcases hc with ⟨h1, h2⟩ | ⟨h1, h2⟩
  · exact Or.inl ⟨by rw [decrements_append, hd, h1], by rw [changedState_right m cur c b hb]; exact h2⟩
  · refine Or.inr ⟨by rw [decrements_append, hd, h1], ?_⟩
    rw [takeWhile_stop c b (exists_dec_of_one m c h1)]
    exact h2

theorem beforeSignals_append (c₁ c₂ : List LogEntry) (h1 : ∀ e ∈ c₁, isSigTrans e = false)
    (h2 : c₂ = [] ∨ ∃ e rest, c₂ = e :: rest ∧ isSigTrans e = true) : C07.beforeSignals (c₁ ++ c₂) = c₁ := by
  have hb : ∀ l, C07.beforeSignals l = l.takeWhile (fun e => !isSigTrans e) := by
    intro l
    unfold C07.beforeSignals
    congr 1
    funext e
    cases e <;> simp [isSigTrans, bne]
  rw [hb, List.takeWhile_append_of_pos (fun e he => by rw [h1 e he]; rfl)]
  rcases h2 with rfl | ⟨e, rest, rfl, he⟩
  · simp
  · simp [he]

variable {σ : Type} (ρ : Oracle σ)

theorem ok_props {k : Nat} (e : LogEntry) (h : ok k e) (m : Nat) : notDec m e = true ∧ isSigTrans e = false := by
  cases e with
  | trans j ev st =>
    obtain ⟨_, rfl⟩ := h
    exact ⟨rfl, rfl⟩
  | limit j v d =>
    obtain ⟨_, rfl⟩ := h
    exact ⟨rfl, rfl⟩
  | _ => exact ⟨rfl, rfl⟩

theorem ok_neutral {k m : Nat} (hk : k ≠ m) (e : LogEntry) (h : ok k e) : neutral m e := by
  refine ⟨fun ev nx he => ?_, (ok_props e h m).1, (ok_props e h m).2⟩
  subst he
  exact hk h.symm

theorem isSigTrans_ev (j : Nat) (ev : Event) (st : Nat) (hev : ev ≠ .signal) :
    isSigTrans (.trans j ev.toNat st) = false := by
  have : ev.toNat ≠ Gen.EV_Signal := fun h => hev ((toNat_signal ev).1 h)
  simpa [isSigTrans] using this

/-- the delivery entry of a transition and what follows it: entries of `k`, no decrement, no Signal
    delivery unless the event is Signal -/
theorem transition_seg (k : Nat) (ev : Event) (a : Fw σ) (hok : (transition ρ FUEL k ev a).1.fault = none) :
    ∃ r cT, a.rt[k]? = some r ∧ a.fault = none ∧
      (transition ρ FUEL k ev a).1.log = (.trans k ev.toNat r.currentState :: cT).reverse ++ a.log ∧
      (∀ e ∈ cT, ok k e) ∧ ∃ r', (transition ρ FUEL k ev a).1.rt[k]? = some r' ∧
        (∀ b, cT.foldl (csStep k) (r.currentState, b) = (r'.currentState, b || (transition ρ FUEL k ev a).2)) ∧
        ((transition ρ FUEL k ev a).2 = false → r'.currentState = r.currentState) := by
  obtain ⟨r, hr, T⟩ := (main2 ρ FUEL).1 k ev a hok
  obtain ⟨haf, cT, hlT, hokT, hpT⟩ := T hok
  exact ⟨r, cT, hr, haf, by rw [hlT, List.reverse_cons, List.append_assoc]; rfl, hokT, hpT r hr⟩

/-- the log of a limit decrement: the decrement entry, then (if LimitReached is delivered) entries
    that are neither decrements nor Signal deliveries -/
theorem dec_shape (m : Nat) (x : Fw σ) (hok : (decrementLimit ρ m x).fault = none) :
    x.fault = none ∧ ∃ (v : Nat) (cR : List LogEntry),
      (decrementLimit ρ m x).log = cR.reverse ++ .limit m v true :: x.log ∧
      ∀ e ∈ cR, notDec m e = true ∧ isSigTrans e = false := by
  cases hr : x.rt[m]? with
  | none => rw [decrementLimit_oob ρ m x (Or.inl hr)] at hok; exact absurd hok (withFault_fault_ne _ _)
  | some r =>
  cases hm : x.machines[m]? with
  | none => rw [decrementLimit_oob ρ m x (Or.inr hm)] at hok; exact absurd hok (withFault_fault_ne _ _)
  | some mm =>
  have hW := Wrote.decremented hr
  rcases decrementLimit_cases ρ m x r mm hr hm with ⟨f, h⟩ | ⟨_, h⟩ | ⟨_, h⟩
  · rw [h] at hok; exact absurd hok (withFault_fault_ne _ _)
  · rw [h] at hok ⊢; exact ⟨hW.fault.symm.trans hok, _, [], hW.log, fun _ he => by cases he⟩
  · rw [h] at hok ⊢
    have hW' := hW.slots ((decremented m r x).actions.set m none)
    generalize ({ decremented m r x with actions := (decremented m r x).actions.set m none } : Fw σ) = s1 at hW' hok ⊢
    obtain ⟨r', cT, _, hf1, hlT, hokT, _⟩ := transition_seg ρ m .limitReached s1 hok
    refine ⟨hW'.fault.symm.trans hf1, r.stateLimit - 1, .trans m Event.limitReached.toNat r'.currentState :: cT, ?_,
      fun e he => ?_⟩
    · rw [hlT, hW'.log]; rfl
    · rcases List.mem_cons.1 he with rfl | he'
      · exact ⟨rfl, rfl⟩
      · exact ok_props e (hokT e he') m

theorem changedState_cons_trans (m cur j ev st : Nat) (c : List LogEntry) :
    C07.changedState m cur (.trans j ev st :: c) = C07.changedState m cur c := by
  rw [changedState_eq, changedState_eq]; rfl

/-- a segment without Signal deliveries that satisfies the single-completion rule for `m` (started
    in state `cur`) -/
def EvSeg (m cur : Nat) : Fw σ → Fw σ → Prop :=
  Seg fun _ _ c => RuleC m cur c ∧ ∀ e ∈ c, isSigTrans e = false

/-- a segment that does not matter for the single-completion rule for `m`, which keeps the
    runtime of `m` -/
def Oth (m : Nat) : Fw σ → Fw σ → Prop :=
  Seg fun s t c => (∀ e ∈ c, neutral m e) ∧ t.rt[m]? = s.rt[m]?

theorem Oth.trans {m : Nat} {s t u : Fw σ} (h₁ : Oth m s t) (h₂ : Oth m t u) : Oth m s u :=
  Seg.trans (fun _ _ p1 p2 => ⟨List.forall_mem_append.2 ⟨p1.1, p2.1⟩, p2.2.trans p1.2⟩) h₁ h₂

theorem EvSeg.right {m cur : Nat} {s t u : Fw σ} (h₁ : EvSeg m cur s t) (h₂ : Oth m t u) : EvSeg m cur s u :=
  Seg.trans (fun _ _ p1 p2 => ⟨p1.1.right p2.1, List.forall_mem_append.2 ⟨p1.2, fun e he => (p2.1 e he).2.2⟩⟩) h₁ h₂

theorem EvSeg.left {m cur : Nat} {s t u : Fw σ} (h₁ : Oth m s t) (h₂ : EvSeg m cur t u) : EvSeg m cur s u :=
  Seg.trans (fun _ _ p1 p2 => ⟨p2.1.left p1.1, List.forall_mem_append.2 ⟨fun e he => (p1.1 e he).2.2, p2.2⟩⟩) h₁ h₂

theorem Oth.refl (m : Nat) (s : Fw σ) : Oth m s s := Seg.refl ⟨fun _ he => (nomatch he), rfl⟩

theorem EvSeg.src {m cur : Nat} {a a1 b : Fw σ} (hf : a1.fault = a.fault) (hl : a1.log = a.log)
    (h : EvSeg m cur a1 b) : EvSeg m cur a b := by
  intro hb
  obtain ⟨h0, c, hc⟩ := h hb
  exact ⟨hf ▸ h0, c, hl ▸ hc⟩

/-- the step of the machine the completion is reported for: delivery, then the decrement unless
    the transition changed the state or ended the machine -/
theorem selfStep (m : Nat) (ev : Event) (hev : ev ≠ .signal) (a : Fw σ) (r : Runtime)
    (hr : a.fault = none → a.rt[m]? = some r)
    (hne : r.currentState ≠ STATE_END) (cond : Bool)
    (hcond : cond = (!(transition ρ FUEL m ev a).2 && notEnded (transition ρ FUEL m ev a).1 m)) :
    EvSeg m r.currentState a
      (if cond = true then decrementLimit ρ m (transition ρ FUEL m ev a).1 else (transition ρ FUEL m ev a).1) := by
  intro hok
  have hpf : (transition ρ FUEL m ev a).1.fault = none := by
    cases cond with
    | true => exact (dec_shape ρ m _ hok).1
    | false => exact hok
  obtain ⟨r0, cT, hr0, haf, hlT, hokT, r', hr', hfold, hk⟩ := transition_seg ρ m ev a hpf
  rw [hr haf] at hr0; cases hr0
  generalize transition ρ FUEL m ev a = p at hpf hcond hok hlT hr' hfold hk ⊢
  have h0 : ∀ e ∈ (.trans m ev.toNat r.currentState :: cT : List LogEntry), notDec m e = true ∧ isSigTrans e = false := by
    intro e he
    rcases List.mem_cons.1 he with rfl | he'
    · exact ⟨rfl, isSigTrans_ev m ev _ hev⟩
    · exact ok_props e (hokT e he') m
  have hcs : C07.changedState m r.currentState (.trans m ev.toNat r.currentState :: cT) = p.2 := by
    rw [changedState_cons_trans, changedState_eq, hfold]; rfl
  have hd0 := decrements_zero m _ (fun e he => (h0 e he).1)
  refine ⟨haf, ?_⟩
  cases cond with
  | true =>
    rw [if_pos rfl] at hok ⊢
    have hc : p.2 = false := by
      have := hcond.symm; rw [Bool.and_eq_true, Bool.not_eq_true'] at this; exact this.1
    obtain ⟨_, v, cR, hlR, hR⟩ := dec_shape ρ m p.1 hok
    refine ⟨(.trans m ev.toNat r.currentState :: cT) ++ (.limit m v true :: cR), ?_, Or.inr ⟨?_, ?_⟩, ?_⟩
    · rw [hlR, hlT]; simp
    · rw [decrements_append, hd0, decrements_eq, List.countP_cons, List.countP_eq_zero.2 (fun e he => by simp [(hR e he).1])]
      simp [notDec]
    · rw [List.takeWhile_append_of_pos (fun e he => (h0 e he).1), List.takeWhile_cons_of_neg (by simp [notDec]), List.append_nil, hcs]
      exact hc
    · exact List.forall_mem_append.2 ⟨fun e he => (h0 e he).2, List.forall_mem_cons.2 ⟨rfl, fun e he => (hR e he).2⟩⟩
  | false =>
    rw [if_neg Bool.false_ne_true] at hok ⊢
    refine ⟨_, hlT, Or.inl ⟨hd0, ?_⟩, fun e he => (h0 e he).2⟩
    rw [hcs]
    cases hp2 : p.2 with
    | true => rfl
    | false =>
      -- the machine would have ended without a change of state
      exfalso
      have hne' : notEnded p.1 m = false := by
        have := hcond.symm; rw [hp2] at this; simpa using this
      unfold notEnded at hne'
      rw [hr'] at hne'
      have : r'.currentState = STATE_END := by simpa using hne'
      rw [hk hp2] at this
      exact hne this

theorem otherStep (m k : Nat) (hk : k ≠ m) (ev : Event) (hev : ev ≠ .signal) (a : Fw σ) :
    Oth m a (transition ρ FUEL k ev a).1 := by
  intro hok
  obtain ⟨r, cT, _, haf, hlT, hokT, _⟩ := transition_seg ρ k ev a hok
  refine ⟨haf, _, hlT, fun e he => ?_, (transition_reach ρ FUEL k ev a).frame.rtOther m (Ne.symm hk)⟩
  rcases List.mem_cons.1 he with rfl | he'
  · exact ⟨fun _ _ h => (by cases h), rfl, isSigTrans_ev k ev _ hev⟩
  · exact ok_neutral hk e (hokT e he')

/-- a completion reported for a machine `m` that has not ended: PaddingSent and TimerBegin are
    delivered to `m` alone, BlockingBegin to every machine but counted for `m` only -/
theorem pe_completion (m : Nat) (e : TEvent) (he : e = .paddingSent m ∨ e = .blockingBegin m ∨ e = .timerBegin m)
    (a : Fw σ) {r : Runtime} (hr : a.rt[m]? = some r) (hne : r.currentState ≠ STATE_END) :
    EvSeg m r.currentState a (processEvent ρ e a) := by
  have hlt : m < a.rt.length := by
    rcases Nat.lt_or_ge m a.rt.length with h | h
    · exact h
    · rw [List.getElem?_eq_none h] at hr; cases hr
  unfold processEvent
  rcases he with rfl | rfl | rfl
  · simp only [Nat.not_le.2 hlt, if_false]
    have hr1 : ({ a with g := { a.g with paddingSent := a.g.paddingSent + 1 } } : Fw σ).rt[m]? = some r := hr
    have hW := Wrote.modRt hr1 (fun r => { r with acct := { r.acct with paddingSent := r.acct.paddingSent + 1 } })
    exact EvSeg.src hW.fault hW.log (selfStep ρ m .paddingSent (by decide) _ _ (fun _ => hW.rt) hne _ rfl)
  · simp only []
    generalize hA : (if (!a.g.blockingActive) = true then
        ({ a with g := { a.g with blockingActive := true, blockingStarted := a.g.now } } : Fw σ) else a) = a1
    have h1 : a1.fault = a.fault ∧ a1.log = a.log ∧ a1.rt = a.rt := by subst hA; split <;> exact ⟨rfl, rfl, rfl⟩
    clear hA
    let F : Fw σ → Nat → Fw σ := fun s k =>
      if (fun p : Fw σ × Bool => !p.2 && notEnded p.1 k && k == m) (transition ρ FUEL k .blockingBegin s) = true
      then decrementLimit ρ k (transition ρ FUEL k .blockingBegin s).1 else (transition ρ FUEL k .blockingBegin s).1
    have hother : ∀ s k, k ≠ m → Oth m s (F s k) := by
      intro s k hk
      have : F s k = (transition ρ FUEL k .blockingBegin s).1 := if_neg (by simp [hk])
      rw [this]
      exact otherStep ρ m k hk .blockingBegin (by decide) s
    refine EvSeg.src h1.1 h1.2.1 (Countdown.fold_visit_once (Pre := Oth m a1) (Post := EvSeg m r.currentState a1) F m
      (fun s k hk hs => hs.trans (hother s k hk)) (fun s k hk hs => hs.right (hother s k hk)) (fun s hs => ?_)
      (List.range a1.rt.length) List.nodup_range (by rw [List.mem_range, h1.2.2]; exact hlt) a1 (Oth.refl m a1))
    refine EvSeg.left hs (selfStep ρ m .blockingBegin (by decide) s r (fun hsf => ?_) hne _ (by simp))
    obtain ⟨_, _, _, _, hrt⟩ := hs hsf
    rw [hrt, h1.2.2]; exact hr
  · simp only [Nat.not_le.2 hlt, if_false]
    exact selfStep ρ m .timerBegin (by decide) a r (fun _ => hr) hne _ rfl

def SigHead (c : List LogEntry) : Prop := c = [] ∨ ∃ e rest, c = e :: rest ∧ isSigTrans e = true

theorem SigHead.append {c₁ c₂ : List LogEntry} (h₁ : SigHead c₁) (h₂ : SigHead c₂) : SigHead (c₁ ++ c₂) := by
  rcases h₁ with rfl | ⟨e, rest, rfl, he⟩
  · exact h₂
  · exact Or.inr ⟨e, rest ++ c₂, rfl, he⟩

/-- the segment added is empty or starts with a Signal delivery -/
def S : Fw σ → Fw σ → Prop := Seg fun _ _ c => SigHead c

theorem S.refl (s : Fw σ) : S s s := Seg.refl (Or.inl rfl)

theorem S.trans {s t u : Fw σ} (h₁ : S s t) (h₂ : S t u) : S s u := Seg.trans (fun _ _ g1 g2 => g1.append g2) h₁ h₂

theorem s_transition (j : Nat) (a : Fw σ) : S a (transition ρ FUEL j .signal a).1 := by
  intro hok
  obtain ⟨r, cT, _, haf, hlT, _⟩ := transition_seg ρ j .signal a hok
  exact ⟨haf, _, hlT, Or.inr ⟨_, _, rfl, rfl⟩⟩

theorem s_signalRound (s : Fw σ) : S s (signalRound ρ s) :=
  signalRound_rel ρ S.refl S.trans (fun _ _ h => ⟨h, [], rfl, Or.inl rfl⟩) (fun a j => s_transition ρ j a) s

/-- Single-completion rule. In a single-event call reporting a completion for machine `m`
    (which has a runtime and has not ended), the pre-signal part of the call's log either holds no
    decrement of `m` and a change of `m`'s state, or exactly one decrement of `m` and no change of
    `m`'s state before it. -/
theorem ruleC_call (m : Nat) (e : TEvent) (he : e = .paddingSent m ∨ e = .blockingBegin m ∨ e = .timerBegin m)
    (t : Int) (s : Fw σ) (r : Runtime) (hr : s.rt[m]? = some r) (hne : r.currentState ≠ STATE_END)
    (hok : (triggerEvents ρ [e] t s).fault = none)
    (l : List LogEntry) (hl : (triggerEvents ρ [e] t s).log = l ++ s.log) :
    RuleC m r.currentState (C07.beforeSignals l.reverse) := by
  have hE := pe_completion ρ m e he _ (Countdown.callStart_rt s t m r hr) hne
  have hT : triggerEvents ρ [e] t s = signalRound ρ (processEvent ρ e (s.callStart t)) := rfl
  rw [hT] at hok hl
  obtain ⟨hpf, c2, hl2, hh2⟩ := s_signalRound ρ _ hok
  obtain ⟨_, c1, hl1, hc1, hs1⟩ := hE hpf
  have hlog : (s.callStart t).log = s.log := rfl
  have : l = (c1 ++ c2).reverse := by
    apply List.append_cancel_right (bs := s.log)
    rw [← hl, hl2, hl1, hlog, List.reverse_append, List.append_assoc]
  subst this
  rw [List.reverse_reverse, beforeSignals_append c1 c2 hs1 hh2]
  exact hc1

/-- Own completions only, per call, in the monitor's vocabulary -/
theorem decrements_le_call (j : Nat) (es : List TEvent) (t : Int) (s : Fw σ)
    (l : List LogEntry) (hl : (triggerEvents ρ es t s).log = l ++ s.log) :
    C07.decrements j l.reverse ≤ C07.completions j es := by
  have h := Countdown.dec_triggerEvents ρ j es t s
  rw [Countdown.decOf_ext hl] at h
  have h1 : C07.decrements j l.reverse = l.countP (Countdown.isDecrementOf j) := by
    unfold C07.decrements
    rw [List.countP_reverse]
    congr 1
    funext e
    cases e with
    | limit mm v d => cases d <;> simp [Countdown.isDecrementOf]
    | _ => rfl
  have h2 : C07.completions j es = es.countP (Countdown.TEvent.completes j) := by
    unfold C07.completions
    congr 1
  omega

/-- did the log touch the limit of machine `j` (assignment or decrement) -/
def touched (log : List LogEntry) (j : Nat) : Bool :=
  log.any fun e => match e with
    | .limit m _ _ => m == j
    | _ => false

/-- the monitor's test for an action scheduled although the limit was 0 throughout the call -/
def badAct (lim : Nat → Nat) (log : List LogEntry) (a : TAction) : Bool :=
  match a with
  | .cancel .. => false
  | _ => lim a.machine == 0 && !touched log a.machine

/-- No limited action while the limit stayed 0, per call, in the monitor's vocabulary -/
theorem no_limited_action (es : List TEvent) (t : Int) (s : Fw σ) (hI : Inv04 s)
    (l : List LogEntry) (hl : (triggerEvents ρ es t s).log = l ++ s.log)
    (a : TAction) (ha : a ∈ (triggerEvents ρ es t s).actionsOut) :
    badAct (limOf s.snap) l.reverse a = false := by
  cases hb : badAct (limOf s.snap) l.reverse a with
  | false => rfl
  | true =>
    exfalso
    have hi := (hI.run (triggerEvents_run ρ es t s)).slot_of_mem ha
    have hnc : a.isCancel = false ∧ limOf s.snap a.machine = 0 ∧ touched l.reverse a.machine = false := by
      cases a <;> simp_all [badAct, TAction.isCancel]
    have hz : ∀ r, s.rt[a.machine]? = some r → r.stateLimit = 0 := by
      intro r hr; rw [← (limOf_snap s a.machine r hr).1]; exact hnc.2.1
    obtain ⟨l', hl', p⟩ := exhausted_call ρ (mi := a.machine) es t s hz
    have : l' = l := List.append_cancel_right (hl'.symm.trans hl)
    subst this
    rcases p with ⟨x, hx⟩ | hp
    · have : touched l'.reverse a.machine = true := by
        unfold touched
        rw [List.any_eq_true]
        exact ⟨_, List.mem_reverse.2 hx, by simp⟩
      rw [hnc.2.2] at this; cases this
    · have := hp.slot a hi
      rw [hnc.1] at this; cases this

/-- the outcome of an operation as the driver reports it -/
def resOf : Option Fault → Res
  | none => .ok
  | some .durOverflow => .panic "dur"
  | some .oob => .panic "oob"
  | some .fuel => .panic "fuel"

/-- the framework before a call as the driver sets it up: the ghost log is emptied, so that after
    the call it holds exactly the entries of that call -/
def resetLog (s : Fw σ) : Fw σ := { s with log := [] }

/-- the record of one call of the model: events, outcome, returned actions, snapshot and the log of
    the call (oldest first) -/
def callRec (s : Fw σ) (c : Call) : CallRec :=
  { t := c.2, events := c.1, res := resOf (triggerEvents ρ c.1 c.2 (resetLog s)).fault,
    actions := (triggerEvents ρ c.1 c.2 (resetLog s)).actionsOut,
    snap := (triggerEvents ρ c.1 c.2 (resetLog s)).snap,
    log := (triggerEvents ρ c.1 c.2 (resetLog s)).log.reverse }

def callRecs (s : Fw σ) : List Call → List CallRec
  | [] => []
  | c :: h => callRec ρ s c :: callRecs (triggerEvents ρ c.1 c.2 (resetLog s)) h

/-- the trace of the model for a history of calls, in the shape the monitors consume -/
def modelTrace (ms : List Machine) (fp fb : F64) (t0 : Int) (rng : σ) (h : List Call) : FwTrace :=
  { machines := ms, fp := fp, fb := fb, t0 := t0, newRes := resOf (Fw.init ρ ms fp fb t0 rng).fault,
    snap0 := (Fw.init ρ ms fp fb t0 rng).snap, log0 := (Fw.init ρ ms fp fb t0 rng).log.reverse,
    calls := callRecs ρ (Fw.init ρ ms fp fb t0 rng) h }

theorem resOf_ok (f : Option Fault) : resOf f = .ok ↔ f = none := by
  cases f with
  | none => simp [resOf]
  | some x => cases x <;> simp [resOf]

theorem machines_run {a b : Fw σ} (hr : Run a b) : b.machines = a.machines := hr.machines

theorem inv04_resetLog {s : Fw σ} (hI : Inv04 s) : Inv04 (resetLog s) := ⟨hI.actLen, hI.rtLen, hI.slots⟩

/-- the machine list and the slot invariant: what every call of a history keeps (nothing to do with
    a machine being live, i.e. not ended) -/
structure Live (ms : List Machine) (s : Fw σ) : Prop where
  machines : s.machines = ms
  inv : Inv04 s

theorem Live.init (ms : List Machine) (fp fb : F64) (t0 : Int) (rng : σ) : Live ms (Fw.init ρ ms fp fb t0 rng) :=
  ⟨machines_run (init_run ρ ms fp fb t0 rng), Inv04.init ρ ms fp fb t0 rng⟩

theorem Live.call {ms : List Machine} {s : Fw σ} (h : Live ms s) (c : Call) :
    Live ms (triggerEvents ρ c.1 c.2 (resetLog s)) :=
  have hrun := triggerEvents_run ρ c.1 c.2 (resetLog s)
  ⟨(machines_run hrun).trans h.machines, (inv04_resetLog h.inv).run hrun⟩

/-- A monitor's walk accepts the model's call records if it stops without a report at a call
    that did not return `ok`, and otherwise moves on: `I` ties the monitor's state to the framework
    before the call (and may mention the calls still to come). -/
theorem callRecs_accept {α : Type} {go : Nat → α → List CallRec → Option String} (I : List Call → α → Fw σ → Prop)
    (hnil : ∀ i a, go i a [] = none)
    (hbad : ∀ i a c cs, c.res ≠ .ok → go i a (c :: cs) = none)
    (hok : ∀ i a s c h cs, I (c :: h) a s → (triggerEvents ρ c.1 c.2 (resetLog s)).fault = none →
      ∃ a', I h a' (triggerEvents ρ c.1 c.2 (resetLog s)) ∧ go i a (callRec ρ s c :: cs) = go (i + 1) a' cs)
    (h : List Call) : ∀ i a s, I h a s → go i a (callRecs ρ s h) = none := by
  induction h with
  | nil => intro i a _ _; exact hnil i a
  | cons c h ih =>
    intro i a s hI
    by_cases hf : (triggerEvents ρ c.1 c.2 (resetLog s)).fault = none
    · obtain ⟨a', hI', hgo⟩ := hok i a s c h (callRecs ρ (triggerEvents ρ c.1 c.2 (resetLog s)) h) hI hf
      exact hgo.trans (ih _ a' _ hI')
    · exact hbad i a _ _ (fun hres => hf ((resOf_ok _).1 hres))

/-- a property of every call record of the model, from an invariant of the framework before the
    call (which may mention the calls still to come) -/
theorem callRecs_forall {P : CallRec → Prop} (I : List Call → Fw σ → Prop)
    (hstep : ∀ s c h, I (c :: h) s → P (callRec ρ s c) ∧ I h (triggerEvents ρ c.1 c.2 (resetLog s)))
    (h : List Call) : ∀ s, I h s → ∀ r ∈ callRecs ρ s h, P r := by
  induction h with
  | nil => intro _ _ r hr; cases hr
  | cons c h ih =>
    intro s hI r hr
    rcases List.mem_cons.1 hr with rfl | hr
    · exact (hstep s c h hI).1
    · exact ih _ (hstep s c h hI).2 r hr

def ownOf (es : List TEvent) : Option Nat :=
  match es with
  | [.paddingSent m] => some m
  | [.blockingBegin m] => some m
  | [.timerBegin m] => some m
  | _ => none

/-- the monitor's single-completion check, written out again: `go_cons` ties it to `C07.monitor`
    by `rfl` only, so it has to follow the text of Spec/C07.lean -/
def missingOf (n : Nat) (st : Nat → Nat) (log : List LogEntry) (own : Option Nat) : Option String :=
  match own with
  | some m =>
    if m < n && st m != STATE_END then
      let pre := C07.beforeSignals log
      let preDec := pre.takeWhile (notDec m)
      let d := C07.decrements m pre
      if d == 0 then
        if !C07.changedState m (st m) pre then some s!"machine {m}: completion without state change consumed no unit of the limit"
        else none
      else if d != 1 then some s!"machine {m}: one completion consumed {d} units of the limit"
      else if C07.changedState m (st m) preDec then some s!"machine {m}: limit decremented although the completion changed its state"
      else none
    else none
  | none => none

/-- the body of `C07.monitor.go` for one call, with the recursive call abstracted as `k` (written
    out again like `missingOf`) -/
def stepOf (ms : List Machine) (n i : Nat) (prev : Snap) (c : CallRec) (k : Option String) : Option String :=
  if c.res != .ok then none else
  match C07.checkLog ms (limOf prev) (stOf prev) (fun _ => none) c.log with
  | some msg => some s!"call {i}: {msg}"
  | none =>
    match (List.range n).find? (fun j => C07.decrements j c.log > C07.completions j c.events) with
    | some j => some s!"call {i}: machine {j}: {C07.decrements j c.log} decrements for {C07.completions j c.events} own completions"
    | none =>
      match missingOf n (stOf prev) c.log (ownOf c.events) with
      | some msg => some s!"call {i}: {msg}"
      | none =>
        match c.actions.find? (badAct (limOf prev) c.log) with
        | some a => some s!"call {i}: action scheduled for machine {a.machine} although its state limit was 0 throughout the call"
        | none => k

theorem go_cons (t : FwTrace) (n i : Nat) (prev : Snap) (c : CallRec) (cs : List CallRec) :
    C07.monitor.go t n i prev (c :: cs) = stepOf t.machines n i prev c (C07.monitor.go t n (i + 1) c.snap cs) := by
  rw [C07.monitor.go]
  rfl

theorem go_nil (t : FwTrace) (n i : Nat) (prev : Snap) : C07.monitor.go t n i prev [] = none := by
  rw [C07.monitor.go]

theorem missingOf_none (n : Nat) (st : Nat → Nat) (log : List LogEntry) (own : Option Nat)
    (h : ∀ m, own = some m → m < n → st m ≠ STATE_END → RuleC m (st m) (C07.beforeSignals log)) :
    missingOf n st log own = none := by
  unfold missingOf
  cases own with
  | none => rfl
  | some m =>
    simp only []
    split
    · next hc =>
      simp only [Bool.and_eq_true, decide_eq_true_eq, bne_iff_ne, ne_eq] at hc
      rcases h m rfl hc.1 hc.2 with ⟨h1, h2⟩ | ⟨h1, h2⟩
      · simp [h1, h2]
      · simp [h1, h2]
    · rfl

theorem stepOf_ok (ms : List Machine) (n i : Nat) (prev : Snap) (c : CallRec) (k : Option String)
    (h1 : C07.checkLog ms (limOf prev) (stOf prev) (fun _ => none) c.log = none)
    (h2 : ∀ j, C07.decrements j c.log ≤ C07.completions j c.events)
    (h3 : ∀ m, ownOf c.events = some m → m < n → stOf prev m ≠ STATE_END →
      RuleC m (stOf prev m) (C07.beforeSignals c.log))
    (h4 : ∀ a ∈ c.actions, badAct (limOf prev) c.log a = false) :
    stepOf ms n i prev c k = if c.res != .ok then none else k := by
  unfold stepOf
  split
  · rfl
  · rw [h1]
    simp only []
    have e2 : (List.range n).find? (fun j => decide (C07.decrements j c.log > C07.completions j c.events)) = none := by
      rw [List.find?_eq_none]
      intro j _
      have := h2 j
      simp only [decide_eq_true_eq]; omega
    rw [e2]
    simp only []
    rw [missingOf_none n (stOf prev) c.log (ownOf c.events) h3]
    simp only []
    have e4 : c.actions.find? (badAct (limOf prev) c.log) = none := by
      rw [List.find?_eq_none]
      intro a ha
      rw [h4 a ha]; simp
    rw [e4]

theorem stepOf_bad (ms : List Machine) (n i : Nat) (prev : Snap) (c : CallRec) (k : Option String)
    (h : c.res ≠ .ok) : stepOf ms n i prev c k = none := by
  unfold stepOf
  have : (c.res != Res.ok) = true := by simpa using h
  simp [this]

theorem ownOf_some (es : List TEvent) (m : Nat) (h : ownOf es = some m) :
    ∃ e, es = [e] ∧ (e = .paddingSent m ∨ e = .blockingBegin m ∨ e = .timerBegin m) := by
  unfold ownOf at h
  split at h
  · cases h; exact ⟨_, rfl, Or.inl rfl⟩
  · cases h; exact ⟨_, rfl, Or.inr (Or.inl rfl)⟩
  · cases h; exact ⟨_, rfl, Or.inr (Or.inr rfl)⟩
  · cases h

/-- One call of the model that ends without a fault passes one step of `C07.monitor`: its
    record satisfies all four rules -/
theorem step_model {ms : List Machine} (i : Nat) {s : Fw σ} (hL : Live ms s) (c : Call)
    (hok : (triggerEvents ρ c.1 c.2 (resetLog s)).fault = none) (k : Option String) :
    stepOf ms ms.length i s.snap (callRec ρ s c) k = k := by
  have hlog : (triggerEvents ρ c.1 c.2 (resetLog s)).log = (triggerEvents ρ c.1 c.2 (resetLog s)).log ++ (resetLog s).log :=
    (List.append_nil _).symm
  have hres : (callRec ρ s c).res = .ok := (resOf_ok _).2 hok
  rw [stepOf_ok, hres]
  · rfl
  · rw [← hL.machines]
    exact call_accepted ρ c.1 c.2 (resetLog s) hok _ hlog (fun _ => none)
  · exact fun j => decrements_le_call ρ j c.1 c.2 (resetLog s) _ hlog
  · intro m hown hlt hne
    obtain ⟨e, hes, he⟩ := ownOf_some _ m hown
    have hes' : c.1 = [e] := hes
    have hlt' : m < s.rt.length := by rw [hL.inv.rtLen, hL.machines]; exact hlt
    have hr : (resetLog s).rt[m]? = some s.rt[m] := List.getElem?_eq_getElem hlt'
    rw [(limOf_snap s m _ hr).2] at hne ⊢
    rw [hes'] at hok hlog
    show RuleC m _ (C07.beforeSignals (triggerEvents ρ c.1 c.2 (resetLog s)).log.reverse)
    rw [hes']
    exact ruleC_call ρ m e he c.2 (resetLog s) _ hr hne hok _ hlog
  · exact fun a ha => no_limited_action ρ c.1 c.2 (resetLog s) (inv04_resetLog hL.inv) _ hlog a ha

/-- `C07.monitor` accepts the model's own trace of every history. -/
theorem monitor_model (ms : List Machine) (fp fb : F64) (t0 : Int) (rng : σ) (h : List Call) :
    C07.monitor (modelTrace ρ ms fp fb t0 rng h) = none := by
  unfold C07.monitor
  refine callRecs_accept ρ (go := C07.monitor.go _ ms.length) (fun _ prev s => Live ms s ∧ prev = s.snap)
    (go_nil _ _) (fun i prev c cs hres => ?_) ?_ h 1 _ _ ⟨Live.init ρ ms fp fb t0 rng, rfl⟩
  · rw [go_cons]; exact stepOf_bad _ _ _ _ _ _ hres
  · rintro i _ s c _ cs ⟨hL, rfl⟩ hok
    exact ⟨_, ⟨hL.call ρ c, rfl⟩, by rw [go_cons]; exact step_model ρ i hL c hok _⟩

end LL
end Mb
