/-
  The fail-closed argument of C16: a TunnelSent that `pick_next` pops from the queue of a side
  whose blocking is active carries the bypass flag, and that side's blocking is bypassable.
-/
import MbVerif.Proofs.SimConserve

namespace Mb.Sim
open Mb

theorem EventQueue.WF.peek_client {q : EventQueue} {c : Bool} (hw : q.WF c) {qi : Queue} {ev : SimEvent}
    (h : (q.heap qi).peek = some ev) : ev.client = c := by
  have hmem : ev ∈ (q.heap qi).data := by
    unfold Heap.peek at h
    cases hd : (q.heap qi).data with
    | nil => simp [hd] at h
    | cons a r => simp [hd] at h; simp [h]
  cases qi with
  | blocking =>
    have := List.countP_eq_zero.1 hw.blocking ev hmem
    simp at this; exact this.2
  | bypassable =>
    have := List.countP_eq_zero.1 hw.bypassable ev hmem
    simp at this; exact this.2
  | internal =>
    have := List.countP_eq_zero.1 hw.internal ev hmem
    simp at this; exact this.2
  | base =>
    have := List.countP_eq_zero.1 hw.base ev hmem
    simp at this; exact this.2

theorem SimQueue.peek_own {s : SimQueue} {cs sv : Nat} {now : Int} {ev : SimEvent} {qi : Queue} {d : Nat}
    (hw : s.WF) (h : s.peek cs sv now = .ok (some ev, qi, d)) :
    ((s.side ev.client).heap qi).peek = some ev ∧
      d = dsince (ev.time + qShift qi (if ev.client then cs else sv)) now := by
  obtain ⟨c, g1, g2, _⟩ := SimQueue.peek_spec h
  have hc : ev.client = c := by
    cases c
    · exact hw.server.peek_client g1
    · exact hw.client.peek_client g1
  rw [hc]
  exact ⟨g1, g2⟩

theorem SimQueue.peek_heap {s : SimQueue} {cs sv : Nat} {now : Int} {ev : SimEvent} {qi : Queue} {d : Nat}
    (hw : s.WF) (h : s.peek cs sv now = .ok (some ev, qi, d)) : ((s.side ev.client).heap qi).peek = some ev :=
  (SimQueue.peek_own hw h).1

theorem SimQueue.peek_dur {s : SimQueue} {cs sv : Nat} {now : Int} {ev : SimEvent} {qi : Queue} {d : Nat}
    (hw : s.WF) (h : s.peek cs sv now = .ok (some ev, qi, d)) :
    d = dsince (ev.time + qShift qi (if ev.client then cs else sv)) now :=
  (SimQueue.peek_own hw h).2

theorem peekNonBlocking_tag (sq : SimQueue) (byp c : Bool) (ds : Nat) :
    (sq.peekNonBlocking byp c ds).2 = .base ∨ (sq.peekNonBlocking byp c ds).2 = .internal ∨
      ((sq.peekNonBlocking byp c ds).2 = .bypassable ∧ byp = true) := by
  unfold SimQueue.peekNonBlocking EventQueue.peekNonBlockingSide
  have hinner : ((sq.side c).peekNonBlocking ds).2 = .base ∨ ((sq.side c).peekNonBlocking ds).2 = .internal := by
    unfold EventQueue.peekNonBlocking
    simp only []
    by_cases hb : before (sq.side c).base.peek (sq.side c).internal.peek ds = true
    · simp [hb]
    · simp [hb]
  cases byp with
  | true =>
    simp only [if_true]
    by_cases hg : optGt (sq.side c).bypassable.peek ((sq.side c).peekNonBlocking ds).1 = true
    · simp [hg]
    · simp only [hg, Bool.false_eq_true, if_false]
      rcases hinner with h | h
      · exact Or.inl h
      · exact Or.inr (Or.inl h)
  | false =>
    simp only [Bool.false_eq_true, if_false]
    rcases hinner with h | h
    · exact Or.inl h
    · exact Or.inr (Or.inl h)

theorem peekBlockedExp_le_side (cu su : Option Int) (now : Int) (c : Bool) (u : Int)
    (h : (if c then cu else su) = some u) : (peekBlockedExp cu su now).1 ≤ dsince u now := by
  unfold peekBlockedExp
  cases cu with
  | none =>
    cases su with
    | none => cases c <;> simp at h
    | some s =>
      cases c with
      | true => simp at h
      | false => simp at h; subst h; exact Nat.le_refl _
  | some cc =>
    cases su with
    | none =>
      cases c with
      | true => simp at h; subst h; exact Nat.le_refl _
      | false => simp at h
    | some s =>
      simp only []
      split
      · rename_i hlt
        cases c with
        | true => simp at h; subst h; exact Nat.le_refl _
        | false => simp at h; subst h; exact dsince_mono now (by omega)
      · rename_i hlt
        cases c with
        | true => simp at h; subst h; exact dsince_mono now (by omega)
        | false => simp at h; subst h; exact Nat.le_refl _

section
variable {σ : Type}

/-- what the queue branch of `pick_next` knows: the triple came from `peek_queue` and the
    blocking-expiry branch was not eligible, so the queue offset is strictly before the expiry -/
theorem pickDecide_queue {st : St σ} {q : Nat} {qid : Queue} {c : Bool} (h : pickDecide st = .ok (.queue q qid c)) :
    (∃ e, peekQueue st e = .ok (q, qid, c)) ∧
    q < (peekBlockedExp st.client.blockingUntil st.server.blockingUntil st.now).1 := by
  obtain ⟨r, hr, hp⟩ := pickDecide_ok_iff.1 h
  obtain ⟨rfl, _, hb, _⟩ := Pick.choose_queue hp
  exact ⟨⟨_, hr⟩, hb⟩

/-- `peek_queue_earliest_side` of a side returns a non-blocked queue (base / internal, or the
    bypassable queue when the blocking is bypassable), or an offset that is not before the
    side's blocking expiry -/
theorem St.earliestSide_spec (st : St σ) (c : Bool) :
    (st.earliestSide c).2.2 = c ∧
    ((st.earliestSide c).2.1 = .base ∨ (st.earliestSide c).2.1 = .internal ∨
     ((st.earliestSide c).2.1 = .bypassable ∧ (st.side c).blockingBypassable = true) ∨
     dsince ((st.side c).blockingUntil.getD st.now) st.now ≤ (st.earliestSide c).1) := by
  unfold St.earliestSide
  rcases peekQueueEarliestSide_cases st.sq (st.side c).blockingUntil (st.side c).blockingBypassable st.now
    (st.net.agg c) c with ⟨_, _, h⟩ | ⟨b, _, h⟩ | ⟨n, t, _, _, _, h⟩ <;> rw [h]
  · exact ⟨rfl, Or.inr (Or.inr (Or.inr (dsince_le' _ _)))⟩
  · exact ⟨rfl, Or.inr (Or.inr (Or.inr (dsince_mono st.now (Int.le_max_right _ _))))⟩
  · refine ⟨rfl, ?_⟩
    rcases peekNonBlocking_tag st.sq (st.side c).blockingBypassable c (st.net.agg c) with h | h | h
    · exact Or.inl h
    · exact Or.inr (Or.inl h)
    · exact Or.inr (Or.inr (Or.inl h))

/-- No leak.  In a state whose queues are well-formed, if the queue branch of `pick_next`
    pops a TunnelSent of a side whose blocking is active, then the packet carries the bypass flag
    and the blocking of that side is bypassable. -/
theorem pickQueue_no_leak {st st' : St σ} {q : Nat} {qid : Queue} {c : Bool} {e : SimEvent} {u : Int}
    (hw : st.sq.WF) (hd : pickDecide st = .ok (.queue q qid c)) (hp : pickQueue st q qid c = .ok (e, st'))
    (hts : isTS e = true) (hblk : (st.side e.client).blockingUntil = some u) :
    e.bypass = true ∧ (st.side e.client).blockingBypassable = true := by
  obtain ⟨⟨earliest, hpq⟩, hlt⟩ := pickDecide_queue hd
  obtain ⟨tmp, sq1, hr, rfl, rfl⟩ := pickQueue_ok_iff.1 hp
  have hspec := simQueue_pop_spec st.sq sq1 qid c _ tmp hw hr
  obtain ⟨hd', _, hpop, htmp, _⟩ := SimQueue.pop_heap hr
  have hhd := (heap_pop_countP (fun _ => true) SimEvent.le hpop).2
  have hsame : sameButTime tmp hd' := htmp ▸ ⟨rfl, rfl, rfl, rfl, rfl⟩
  -- the event differs from the popped `tmp` in its time only; `tmp` is on side `c`
  change isTS tmp = true at hts
  change (st.side tmp.client).blockingUntil = some u at hblk
  show tmp.bypass = true ∧ (st.side tmp.client).blockingBypassable = true
  rw [hspec.2.2.1] at hblk ⊢
  -- the side's expiry bounds the decision's `b`, so the queue offset is strictly before it
  have hb := peekBlockedExp_le_side st.client.blockingUntil st.server.blockingUntil st.now c u
    (by cases c <;> exact hblk)
  have hu_le : dsince u st.now ≤ durMax := dsince_le' _ _
  rcases peekQueue_ok_iff.1 hpq with ⟨_, hr⟩ | ⟨_, _, _, _, _, hr⟩ | ⟨pk, qu, dur, hpk, _, hpass, hr⟩ |
      ⟨_, _, _, _, _, _, hr⟩
  · cases hr; omega
  · cases hr; omega
  · -- the head passed: it is the popped event, a TunnelSent of a blocking side, so it bypasses
    cases hr
    have hpeek := SimQueue.peek_heap hw hpk
    rw [hhd] at hpeek
    obtain rfl : pk = hd' := (Option.some.inj hpeek).symm
    have hev : pk.event = .tunnelSent := by rw [← hsame.1]; simpa [isTS] using hts
    rw [hsame.2.2.2.1]
    exact And.symm (by simpa [St.passes, hev, hblk] using hpass)
  · -- held back: the earlier side's report names a queue that holds no blocked TunnelSent, or
    -- an offset not before the expiry
    obtain ⟨X, hX, _⟩ := st.earliest_cases
    rw [hX] at hr
    have hsp := st.earliestSide_spec X
    rw [← hr] at hsp
    obtain ⟨rfl, hq | hq | hq | hq⟩ := hsp
    · have := hspec.2.2.2.2.1 hq
      simp only [isNS, isTS, beq_iff_eq] at this hts
      rw [this] at hts; cases hts
    · rw [(hspec.2.2.2.1 hq).1] at hts; cases hts
    · exact ⟨(hspec.2.2.2.2.2.2 hq.1).2, hq.2⟩
    · rw [hblk] at hq
      simp only [Option.getD_some] at hq
      omega

end
end Mb.Sim
