/-
  Helper lemmas for `C20_session` (Props/C20.lean), which discharges the hypothesis `hC04` of the
  C20 theorems from the C04 theorems: the state after one more call is an observable state of the
  longer history, the machines of an instance never change, and C04's per-action contract puts
  the numbers within the Rust types.
-/
import MbVerif.Proofs.FfiSpec
import MbVerif.Props.C04

namespace Mb.C20
open Mb Mb.Ffi

variable {σ : Type} (ρ : Oracle σ)

theorem runStates_snoc (s : Fw σ) (h : List Call) (c : Call) :
    triggerEvents ρ c.1 c.2 (runCalls ρ s h) ∈ runStates ρ s (h ++ [c]) := by
  induction h generalizing s with
  | nil => simp [runStates, runCalls]
  | cons d h ih =>
    simp only [List.cons_append, runStates, runCalls, List.foldl_cons, List.mem_cons]
    right
    have := ih (triggerEvents ρ d.1 d.2 s)
    simpa [runCalls] using this

theorem runCalls_machines (ms : List Machine) (fp fb : F64) (t0 : Int) (rng : σ) (h : List Call) :
    (runCalls ρ (Fw.init ρ ms fp fb t0 rng) h).machines = ms := by
  rw [LL.machines_run (runCalls_run ρ _ h), LL.machines_run (init_run ρ ms fp fb t0 rng)]; rfl

/-- C04's per-action contract implies the numbers fit the Rust types -/
theorem inRange_of_actionOK (ms : List Machine) (a : TAction) (hms : ms.length < 2 ^ 64)
    (h : C04.actionOK ms a = true) : inRange a := by
  unfold C04.actionOK at h
  cases hg : ms[a.machine]? with
  | none => simp [hg] at h
  | some m =>
    have hm : a.machine < 2 ^ 64 := Nat.lt_trans (List.getElem?_eq_some_iff.mp hg).1 hms
    simp only [hg, Bool.and_eq_true] at h
    have ht := h.2
    have b1 : Gen.MAX_SAMPLED_TIMEOUT < 2 ^ 64 := by decide
    have b2 : Gen.MAX_SAMPLED_BLOCK_DURATION < 2 ^ 64 := by decide
    have b3 : Gen.MAX_SAMPLED_TIMER_DURATION < 2 ^ 64 := by decide
    cases a <;> simp only [C04.timesOK, Bool.and_eq_true, decide_eq_true_eq, TAction.machine] at ht hm <;>
      simp only [inRange] <;> omega

end Mb.C20
