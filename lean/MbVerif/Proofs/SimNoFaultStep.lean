/-
  The simulator with machines does not fault (`C19_total`): the clock update, `sim_network_stack`,
  `trigger_update` and with them one iteration of the main loop under the time-bound invariant
  (names: see the head of `SimNoFaultPick`).
-/
import MbVerif.Proofs.SimNoFaultPick
import MbVerif.Proofs.C04
import MbVerif.Proofs.DurBound

namespace Mb.Sim
open Mb

section
variable {σ : Type}

/-- the clock moves forward to `now'`: every bound relative to the clock stays true; the age
    bound of the queued TunnelSents grows by `W`, because while one is queued the clock moves by
    at most `W` -/
theorem PI.advance {π : TPar} {A A' : Nat} {Hn Hn' : Int} {kw J : Nat} {st : St σ} (h : PI π A Hn kw J st)
    {now' : Int} (hge : st.now ≤ now') (hle : now' ≤ Hn')
    (hblk : st.sq.hasBlocked → now' ≤ st.now + (TB.W : Int)) (hA : A + TB.W ≤ A') :
    PI π A' Hn' kw J { st with now := now' } := by
  refine ⟨?_, hle, h.wf, h.ord, ?_, ?_, h.net⟩
  · have := h.t0le
    show π.t0 ≤ now'
    omega
  · intro c qi e he
    have hq := h.q c qi e he
    cases qi with
    | base => exact hq
    | internal =>
      have h1 : e.time ≤ st.now + (π.S : Int) := hq
      show e.time ≤ now' + (π.S : Int)
      omega
    | blocking | bypassable =>
      have hb := hblk ⟨c, _, e, by decide, he⟩
      have h1 : e.time ≤ st.now ∧ st.now ≤ e.time + (A : Int) := hq
      show e.time ≤ now' ∧ now' ≤ e.time + (A' : Int)
      exact ⟨by omega, by omega⟩
  · intro c
    have hs := h.sides c
    refine ⟨fun a ha => ⟨?_, (hs.acts a ha).2⟩, fun t ht => ?_, fun u hu => ?_⟩
    · have := (hs.acts a ha).1
      show a.time ≤ now' + (TB.TO : Int)
      omega
    · have := hs.tims t ht
      show t ≤ now' + (TB.TD : Int)
      omega
    · have := hs.untl u hu
      show u ≤ now' + (TB.W : Int)
      omega

end

theorem prune_length_le (w : Nat) (now : Int) : ∀ l : List Int, (WindowCount.prune w now l).length ≤ l.length := by
  intro l
  induction l with
  | nil => simp [WindowCount.prune]
  | cons o r ih =>
    simp only [WindowCount.prune]
    split
    · simp only [List.length_cons]; omega
    · exact Nat.le_refl _

theorem windowAdd_le (w : WindowCount) (now : Int) :
    (w.add now).1 ≤ w.stamps.length + 1 ∧ (w.add now).2.stamps.length ≤ w.stamps.length + 1 := by
  unfold WindowCount.add
  simp only []
  have := prune_length_le w.window now (w.stamps ++ [now])
  simp only [List.length_append, List.length_singleton] at this
  exact ⟨this, this⟩

theorem ppsDelay_ti {π : TPar} {kw J : Nat} {b : Bottleneck} (h : NetI π kw J b) (hok : π.OK)
    {count n : Nat} (hc : count ≤ n) (hP : π.pw * n ≤ π.P) :
    ∃ dl, b.ppsDelay count = .ok dl ∧ dl ≤ π.P := by
  unfold Bottleneck.ppsDelay
  split
  · have h1 : (count - b.ppsLimit) % 2 ^ 32 ≤ n := Nat.le_trans (Nat.mod_le _ _) (by omega)
    have h2 : b.ppsAddedDelay * ((count - b.ppsLimit) % 2 ^ 32) ≤ π.P :=
      Nat.le_trans (Nat.mul_le_mul h.ppsA h1) hP
    have := hok.pd
    rw [durChk_of_le (by omega)]
    exact ⟨_, rfl, h2⟩
  · exact ⟨0, rfl, Nat.zero_le _⟩

theorem sampleResult_ti {π : TPar} {kw J : Nat} {b : Bottleneck} (h : NetI π kw J b) (hok : π.OK)
    {dl : Nat} (hdl : dl ≤ π.P) :
    ∃ r b', b.sampleResult dl = .ok (r, b') ∧ NetI π kw J b' ∧ r.1 ≤ π.P + π.d ∧ (∀ x, r.2 = some x → x ≤ π.P) := by
  unfold Bottleneck.sampleResult
  have := hok.pd
  split
  · rw [h.delay, durChk_of_le (by omega)]
    simp only [bind, Except.bind, pure, Except.pure]
    exact ⟨_, _, rfl, h.ghost _, by show dl + π.d ≤ π.P + π.d; omega, fun x hx => by cases hx; exact hdl⟩
  · simp only [pure, Except.pure]
    exact ⟨_, _, rfl, h, by show b.network.delay ≤ π.P + π.d; rw [h.delay]; omega, fun x hx => by cases hx⟩

theorem sample_ti {π : TPar} {kw J : Nat} {b : Bottleneck} (h : NetI π kw J b) (hok : π.OK)
    (hP : π.pw * (kw + 1) ≤ π.P) (now : Int) (c : Bool) :
    ∃ r b', b.sample now c = .ok (r, b') ∧ NetI π (kw + 1) J b' ∧ r.1 ≤ π.P + π.d ∧ (∀ x, r.2 = some x → x ≤ π.P) := by
  unfold Bottleneck.sample
  simp only []
  cases c with
  | true =>
    simp only [if_true]
    have hw := windowAdd_le b.clientWindow now
    have hb1 : NetI π (kw + 1) J { b with clientWindow := (b.clientWindow.add now).2 } :=
      ⟨h.delay, h.ppsA, by have := h.winC; show (b.clientWindow.add now).2.stamps.length ≤ kw + 1; omega,
       by have := h.winS; show b.serverWindow.stamps.length ≤ kw + 1; omega, h.aggC, h.aggS, h.dl⟩
    obtain ⟨dl, hdl, hdlP⟩ := ppsDelay_ti hb1 hok (count := (b.clientWindow.add now).1) (n := kw + 1)
      (by have := h.winC; omega) hP
    rw [hdl]
    simp only [bind, Except.bind]
    exact sampleResult_ti hb1 hok hdlP
  | false =>
    simp only [Bool.false_eq_true, if_false]
    have hw := windowAdd_le b.serverWindow now
    have hb1 : NetI π (kw + 1) J { b with serverWindow := (b.serverWindow.add now).2 } :=
      ⟨h.delay, h.ppsA, by have := h.winC; show b.clientWindow.stamps.length ≤ kw + 1; omega,
       by have := h.winS; show (b.serverWindow.add now).2.stamps.length ≤ kw + 1; omega, h.aggC, h.aggS, h.dl⟩
    obtain ⟨dl, hdl, hdlP⟩ := ppsDelay_ti hb1 hok (count := (b.serverWindow.add now).1) (n := kw + 1)
      (by have := h.winS; omega) hP
    rw [hdl]
    simp only [bind, Except.bind]
    exact sampleResult_ti hb1 hok hdlP


theorem qpred_ts (π : TPar) (A : Nat) (now : Int) (c pad byp rep : Bool) :
    qpred π A now c (route ⟨.tunnelSent, now, c, pad, byp, rep⟩) ⟨.tunnelSent, now, c, pad, byp, rep⟩ := by
  unfold route
  cases byp <;> simp [qpred]

theorem aggDelayOnPaddingBypassReplace_eq {sq : SimQueue} {c : Bool} {now : Int} {head : SimEvent} {ab bd : Nat}
    (h : aggDelayOnPaddingBypassReplace sq c now head ab = some bd) : bd = dsince now head.time := by
  unfold aggDelayOnPaddingBypassReplace at h
  simp only [] at h
  split at h
  · cases h
  · split at h
    · split at h
      · cases h
      · cases h; rfl
    · cases h; rfl

/-- the aggregate delay a bypass-replace queues is the age of the replaced packet -/
theorem replaceAgg_ti {π : TPar} {kw J : Nat} {sq : SimQueue} {net : Bottleneck} {now : Int} {next entry : SimEvent}
    (hn : NetI π kw J net) (hok : π.OK) (hage : dsince now entry.time ≤ π.D) :
    ∃ net', replaceAgg sq next entry net now = .ok net' ∧ NetI π kw (J + π.D) net' := by
  unfold replaceAgg
  cases had : aggDelayOnPaddingBypassReplace sq next.client now entry (net.agg next.client) with
  | none => exact ⟨_, rfl, hn.mono (Nat.le_add_right _ _)⟩
  | some bd => exact pushAggregateDelay_ti hn hok (aggDelayOnPaddingBypassReplace_eq had ▸ hage) _ _

/-- the bypass-replace of a blocked packet: the pop succeeds, the packet is queued again with its
    old time, and the aggregate delay it causes is at most the packet's age -/
theorem replaceBypass_ti {π : TPar} {A kw J : Nat} {sq : SimQueue} {net : Bottleneck} {now : Int}
    {next queued : SimEvent} {flag : Bool} {qid : Queue}
    (hord : sq.Ord) (hq : sq.AllQ (qpred π A now)) (hn : NetI π kw J net) (hok : π.OK) (hAD : A ≤ π.D)
    (hpk : sq.peekBlocking flag next.client = (some queued, qid)) (hts : queued.event = .tunnelSent) :
    Sound (replaceBypass next sq qid flag net now) fun r =>
      r.1.Ord ∧ r.1.AllQ (qpred π A now) ∧ NetI π kw (J + π.D) r.2 := by
  obtain ⟨qi, hqi, hmem, hpeek, hqid⟩ := peekBlocking_mem (sq := sq) (byp := flag) (c := next.client) (ev := queued)
    (by rw [hpk])
  rw [hpk] at hqid
  simp only [] at hqid
  subst hqid
  -- the pop is a pop of the peeked heap
  have hpopeq : ∃ ds, sq.popBlocking qi flag next.client (net.agg next.client) = sq.pop qi next.client ds := by
    unfold SimQueue.popBlocking
    cases flag with
    | false => exact ⟨_, rfl⟩
    | true =>
      have : qi = .blocking := by
        have := congrArg Prod.snd hpk
        unfold SimQueue.peekBlocking EventQueue.peekBlockingSide at this
        simpa using this.symm
      subst this
      exact ⟨0, rfl⟩
  obtain ⟨ds, hpopeq⟩ := hpopeq
  obtain ⟨e1, sq1, hpop⟩ := SimQueue.pop_someG ds hpeek
  obtain ⟨hsub, hord1, hd, hhd, hhdpk, he1⟩ := SimQueue.pop_specG hpop
  have hhdq : hd = queued := by rw [hpeek] at hhdpk; cases hhdpk; rfl
  subst hhdq
  have hne : qi ≠ .base := by rcases hqi with h | h <;> subst h <;> simp
  have hsh : qShift qi ds = 0 := by simp [qShift, hne]
  have he1t : e1.time = hd.time := by rw [he1]; simp [hsh]
  have he1e : e1.event = .tunnelSent := by rw [he1]; exact hts
  have he1c : e1.client = hd.client := by rw [he1]
  have hqp := hq next.client qi hd hhd
  have hage : hd.time ≤ now ∧ now ≤ hd.time + (A : Int) := by
    rcases hqi with h | h <;> subst h <;> exact hqp
  unfold replaceBypass
  rw [hpopeq, hpop]
  simp only [bind, Except.bind, pure, Except.pure]
  obtain ⟨net', hnet', hn'⟩ := replaceAgg_ti (sq := sq1) (next := next) (now := now)
    (entry := { e1 with bypass := true, replace := false }) (hn.ghost _) hok (by
      show dsince now e1.time ≤ π.D
      rw [he1t]
      exact Nat.le_trans (dsince_le_of_le (by omega)) hAD)
  rw [hnet']
  refine ⟨SimQueue.pushSim_ord _ (hord1 hord), (hq.pop hpop).pushSim ?_, hn'⟩
  have hroute : route ({ e1 with bypass := true, replace := false } : SimEvent) = .bypassable := by
    unfold route
    simp [he1e]
  rw [hroute]
  show e1.time ≤ now ∧ now ≤ e1.time + (A : Int)
  rw [he1t]
  exact hage

theorem netPaddingSent_ti {π : TPar} {A kw J : Nat} {sq : SimQueue} {net : Bottleneck} {now : Int}
    {next : SimEvent} {flag : Bool}
    (hord : sq.Ord) (hq : sq.AllQ (qpred π A now)) (hn : NetI π kw J net) (hok : π.OK) (hAD : A ≤ π.D)
    (ht : next.time = now) :
    Sound (netPaddingSent next sq flag net now) fun r =>
      r.1.Ord ∧ r.1.AllQ (qpred π A now) ∧ NetI π kw (J + π.D) r.2 := by
  have hqu : (sq.pushSim ⟨.tunnelSent, next.time, next.client, true, next.bypass, next.replace⟩).Ord ∧
      (sq.pushSim ⟨.tunnelSent, next.time, next.client, true, next.bypass, next.replace⟩).AllQ (qpred π A now) ∧
      NetI π kw (J + π.D) net :=
    ⟨SimQueue.pushSim_ord _ hord, hq.pushSim (ht ▸ qpred_ts π A next.time next.client true next.bypass next.replace),
      hn.mono (Nat.le_add_right _ _)⟩
  unfold netPaddingSent
  simp only []
  split
  · split
    · rename_i queued qid hpk
      split
      · rename_i hcond
        split
        · exact ⟨hord, hq, (hn.ghost _).mono (Nat.le_add_right _ _)⟩
        · simp only [Bool.and_eq_true, beq_iff_eq] at hcond
          exact replaceBypass_ti hord hq hn hok hAD hpk hcond.1.2
      · exact hqu
    · exact hqu
  · exact hqu

theorem S_ge_Pd (π : TPar) : π.P + π.d ≤ π.S := by unfold TPar.S; omega

theorem netTunnelSent_ti {π : TPar} {A kw J : Nat} {sq : SimQueue} {net : Bottleneck} {now : Int}
    {next : SimEvent}
    (hord : sq.Ord) (hq : sq.AllQ (qpred π A now)) (hn : NetI π kw J net) (hok : π.OK) (hPD : π.P ≤ π.D)
    (hP : π.pw * (kw + 1) ≤ π.P) (ht : next.time = now) :
    Sound (netTunnelSent next sq net now) fun r =>
      r.1.Ord ∧ r.1.AllQ (qpred π A now) ∧ NetI π (kw + 1) (J + π.D) r.2 := by
  obtain ⟨r, b1, hs, hn1, hr1, hr2⟩ := sample_ti hn hok hP now next.client
  have hagg : ∃ net', ppsAgg sq next b1 r.2 now = .ok net' ∧ NetI π (kw + 1) (J + π.D) net' := by
    unfold ppsAgg
    cases hr : r.2 with
    | none => exact ⟨_, rfl, hn1.mono (Nat.le_add_right _ _)⟩
    | some dl =>
      simp only []
      split
      · exact pushAggregateDelay_ti hn1 hok (Nat.le_trans (hr2 dl hr) hPD) _ _
      · exact ⟨_, rfl, hn1.mono (Nat.le_add_right _ _)⟩
  obtain ⟨net', hnet', hn'⟩ := hagg
  unfold netTunnelSent
  rw [hs]
  simp only [bind, Except.bind, hnet']
  refine ⟨SimQueue.pushSim_ord _ hord, hq.pushSim ?_, hn'⟩
  have hS := S_ge_Pd π
  unfold recvFor
  split
  · show max (next.time + (r.1 : Int)) now ≤ now + (π.S : Int)
    omega
  · show next.time + (r.1 : Int) ≤ now + (π.S : Int)
    omega

/-- `sim_network_stack` under the invariant: no environmental fault; the queue stays ordered
    and within its bounds; at most one more unit of the aggregate-delay budget and one more
    window stamp are used -/
theorem simNetworkStack_ti {π : TPar} {A kw J : Nat} {sq : SimQueue} {net : Bottleneck} {now : Int}
    {next : SimEvent} {flag : Bool}
    (hord : sq.Ord) (hq : sq.AllQ (qpred π A now)) (hn : NetI π kw J net) (hok : π.OK) (hAD : A ≤ π.D)
    (hPD : π.P ≤ π.D) (hP : π.pw * (kw + 1) ≤ π.P) (ht : next.time = now) :
    Sound (simNetworkStack next sq flag net now) fun r =>
      r.2.1.Ord ∧ r.2.1.AllQ (qpred π A now) ∧ NetI π (kw + 1) (J + π.D) r.2.2 := by
  have hn2 := hn.weaken (Nat.le_succ kw) (Nat.le_add_right J π.D)
  have hint : ∀ (ev : TEvent) (pad : Bool), route ⟨ev, next.time, next.client, pad, false, false⟩ = .internal →
      (sq.pushSim ⟨ev, next.time, next.client, pad, false, false⟩).Ord ∧
      (sq.pushSim ⟨ev, next.time, next.client, pad, false, false⟩).AllQ (qpred π A now) ∧
      NetI π (kw + 1) (J + π.D) net := by
    intro ev pad hr
    refine ⟨SimQueue.pushSim_ord _ hord, hq.pushSim ?_, hn2⟩
    rw [hr]
    show next.time ≤ now + (π.S : Int)
    omega
  unfold simNetworkStack
  split
  · exact ⟨SimQueue.pushSim_ord _ hord, hq.pushSim (ht ▸ qpred_ts π A next.time next.client false false false), hn2⟩
  · exact Sound.map ((netPaddingSent_ti (flag := flag) hord hq hn hok hAD ht).mono fun _ h =>
      ⟨h.1, h.2.1, h.2.2.weaken (Nat.le_succ kw) (Nat.le_refl _)⟩)
  · exact Sound.map (netTunnelSent_ti hord hq hn hok hPD hP ht)
  · split
    · exact hint .paddingRecv true rfl
    · exact hint .normalRecv false rfl
  · exact ⟨hord, hq, hn2⟩


section
variable {σ : Type} (ρ : Oracle σ)

/-- one call of a framework whose clock values stay in a window of width `B`: valid state, no
    fault of any kind, the output contract, the same machines -/
theorem fw_call {t0 : Int} {B c : Nat} {fw : Fw σ} (hV : Valid fw) (hS : SigOK fw) (hG : Good t0 B c fw)
    (hI : Inv04 fw) (hF : fw.fault = none) (hg : (c + 1) * B + B ≤ durMax) (es : List TEvent) (t : Int)
    (ht : t0 ≤ t ∧ t ≤ t0 + (B : Int)) (rng : σ) (fw' : Fw σ)
    (hfw : fw' = triggerEvents ρ es t { fw with rng := rng, log := [] }) :
    Valid fw' ∧ SigOK fw' ∧ Good t0 B (c + 1) fw' ∧ Inv04 fw' ∧ fw'.fault = none ∧ fw'.machines = fw.machines := by
  subst hfw
  have hV0 : Valid ({ fw with rng := rng, log := [] } : Fw σ) := ⟨hV.lenRt, hV.lenAct, hV.ok, hV.cur⟩
  have hS0 : SigOK ({ fw with rng := rng, log := [] } : Fw σ) := hS
  have hG0 : Good t0 B c ({ fw with rng := rng, log := [] } : Fw σ) :=
    ⟨⟨hG.1.nowLo, hG.1.nowHi, hG.1.stLo, hG.1.phi, hG.1.le⟩, hG.2⟩
  have hI0 : Inv04 ({ fw with rng := rng, log := [] } : Fw σ) := ⟨hI.actLen, hI.rtLen, hI.slots⟩
  obtain ⟨hV1, hS1, hN, _⟩ := okS_triggerEvents ρ es t _ hV0 hS0
  have hG1 := good_triggerEvents ρ hg es t ht _ hG0
  have hrun := triggerEvents_run ρ es t ({ fw with rng := rng, log := [] } : Fw σ)
  refine ⟨hV1, hS1, hG1, hI0.run hrun, ?_, hrun.machines.trans rfl⟩
  rcases hN with hN | ⟨_, hN⟩
  · rw [hN]; exact hF
  · exact absurd hN hG1.2

/-- the framework invariant of one side of the simulation, after at most `c` calls -/
structure FI (t0 : Int) (B c : Nat) (sd : Side σ) : Prop where
  valid : Valid sd.fw
  sig : SigOK sd.fw
  good : Good t0 B c sd.fw
  inv : Inv04 sd.fw
  nofault : sd.fw.fault = none
  lenA : sd.schedAction.length = sd.fw.machines.length
  lenT : sd.schedTimer.length = sd.fw.machines.length

/-- both sides, after at most `k` calls each -/
def FwI (t0 : Int) (B k : Nat) (st : St σ) : Prop := ∀ c, ∃ cc, cc ≤ k ∧ FI t0 B cc (st.side c)

theorem FwI.of_same {t0 : Int} {B k : Nat} {st st' : St σ} (h : FwI t0 B k st) (hs : SameFw st st') :
    FwI t0 B k st' := by
  intro c
  obtain ⟨cc, hcc, hf⟩ := h c
  obtain ⟨h1, h2, h3⟩ := hs c
  refine ⟨cc, hcc, ?_⟩
  exact ⟨by rw [h1]; exact hf.valid, by rw [h1]; exact hf.sig, by rw [h1]; exact hf.good, by rw [h1]; exact hf.inv,
    by rw [h1]; exact hf.nofault, by rw [h1, h2]; exact hf.lenA, by rw [h1, h3]; exact hf.lenT⟩

theorem timeout_ns_le {t m : Nat} (h : t ≤ m) : ((t * 1000 : Nat) : Int) ≤ ((m * 1000 : Nat) : Int) := by
  have := Nat.mul_le_mul_right 1000 h
  omega

theorem SlotI.setAction {now : Int} {sd : Side σ} (hs : SlotI now sd) (m : Nat) {a : TAction} {tmo : Nat}
    (hto : tmo ≤ Gen.MAX_SAMPLED_TIMEOUT) (hb : actBound a) :
    SlotI now { sd with schedAction := sd.schedAction.set m (some ⟨a, now + (tmo * 1000 : Nat)⟩) } := by
  refine ⟨fun a' ha' => ?_, hs.tims, hs.untl⟩
  rcases mem_set_some ha' with ha' | ha'
  · exact hs.acts a' ha'
  · subst ha'
    refine ⟨?_, hb⟩
    have := timeout_ns_le hto
    show now + ((tmo * 1000 : Nat) : Int) ≤ now + (TB.TO : Int)
    unfold TB.TO
    omega

/-- what storing the returned actions keeps: the slot bounds and slot counts of the side, and the
    queue well-formed, ordered and within its time bounds -/
structure ApplyI (π : TPar) (A : Nat) (now : Int) (n : Nat) (sd : Side σ) (sq : SimQueue) : Prop where
  slots : SlotI now sd
  wf : sq.WF
  ord : sq.Ord
  q : sq.AllQ (qpred π A now)
  lenA : sd.schedAction.length = n
  lenT : sd.schedTimer.length = n

theorem mem_ite_set_none {α : Type} {c : Prop} [Decidable c] {l : List (Option α)} {i : Nat} {x : α}
    (h : some x ∈ (if c then l else l.set i none)) : some x ∈ l := by
  split at h
  · exact h
  · exact mem_set_none h

theorem applyAction_ti {π : TPar} {A : Nat} {now : Int} {sd : Side σ} {sq : SimQueue} {cl : Bool} {a : TAction} {n : Nat}
    (h : ApplyI π A now n sd sq) (hm : a.machine < n) (hto : C04.timesOK a = true) :
    ∃ sd' sq', applyAction sd sq now cl a = .ok (sd', sq') ∧ ApplyI π A now n sd' sq' ∧ sd'.fw = sd.fw := by
  have hmA : a.machine < sd.schedAction.length := h.lenA ▸ hm
  have hmT : a.machine < sd.schedTimer.length := h.lenT ▸ hm
  cases a with
  | cancel m timer =>
    exact ⟨_, _, applyAction_cancel_iff.2 ⟨Or.inr hmA, Or.inr hmT, rfl, rfl⟩,
      ⟨⟨fun a' ha' => h.slots.acts a' (mem_ite_set_none ha'), fun t' ht' => h.slots.tims t' (mem_ite_set_none ht'),
        h.slots.untl⟩, h.wf, h.ord, h.q, (apply_ite _ _ _ _).trans (by simp [h.lenA]),
        (apply_ite _ _ _ _).trans (by simp [h.lenT])⟩, rfl⟩
  | sendPadding timeout b r m =>
    simp only [C04.timesOK, decide_eq_true_eq] at hto
    exact ⟨_, _, applyAction_sendPadding_iff.2 ⟨hmA, rfl, rfl⟩,
      ⟨h.slots.setAction m hto trivial, h.wf, h.ord, h.q, by simp [h.lenA], h.lenT⟩, rfl⟩
  | blockOutgoing timeout du b r m =>
    simp only [C04.timesOK, Bool.and_eq_true, decide_eq_true_eq] at hto
    exact ⟨_, _, applyAction_blockOutgoing_iff.2 ⟨hmA, rfl, rfl⟩,
      ⟨h.slots.setAction m hto.1 hto.2, h.wf, h.ord, h.q, by simp [h.lenA], h.lenT⟩, rfl⟩
  | updateTimer du replace m =>
    simp only [C04.timesOK, decide_eq_true_eq] at hto
    obtain ⟨cur, hcur⟩ : ∃ cur, sd.schedTimer[m]? = some cur := ⟨_, List.getElem?_eq_getElem hmT⟩
    simp only [applyAction, hcur]
    by_cases hb : (timerUpdate cur now (du * 1000) replace).2 = true
    · have hv := timerUpdate_set hb
      rw [if_pos hb]
      refine ⟨_, _, rfl, ⟨⟨h.slots.acts, fun t' ht' => ?_, h.slots.untl⟩, (pushSim_spec sq _ h.wf).1,
        SimQueue.pushSim_ord _ h.ord, h.q.pushSim ?_, h.lenA, by simp [h.lenT]⟩, rfl⟩
      · rcases List.mem_or_eq_of_mem_set ht' with ht' | ht'
        · exact h.slots.tims t' ht'
        · rw [hv] at ht'
          cases ht'
          have := timeout_ns_le hto
          show now + ((du * 1000 : Nat) : Int) ≤ now + (TB.TD : Int)
          unfold TB.TD
          omega
      · show now ≤ now + (π.S : Int)
        omega
    · rw [if_neg hb]
      exact ⟨_, _, rfl, h, rfl⟩

theorem applyActions_ti {π : TPar} {A : Nat} {now : Int} {cl : Bool} {n : Nat} :
    ∀ (acts : List TAction) (sd : Side σ) (sq : SimQueue), ApplyI π A now n sd sq →
    (∀ a ∈ acts, a.machine < n ∧ C04.timesOK a = true) →
    ∃ sd' sq', applyActions sd sq now cl acts = .ok (sd', sq') ∧ ApplyI π A now n sd' sq' ∧ sd'.fw = sd.fw := by
  intro acts
  induction acts with
  | nil => exact fun sd sq h _ => ⟨sd, sq, rfl, h, rfl⟩
  | cons a r ih =>
    intro sd sq h hall
    obtain ⟨sd1, sq1, h1, hi1, hfw1⟩ := applyAction_ti (cl := cl) h (hall a (by simp)).1 (hall a (by simp)).2
    obtain ⟨sd2, sq2, h2, hi2, hfw2⟩ := ih sd1 sq1 hi1 (fun x hx => hall x (by simp [hx]))
    refine ⟨sd2, sq2, ?_, hi2, hfw2.trans hfw1⟩
    simp only [applyActions, h1, bind, Except.bind]
    exact h2

end


section
variable {σ : Type} (ρ : Oracle σ)

theorem side_setSide_other (st : St σ) (c c' : Bool) (x : Side σ) (h : c' ≠ c) : (st.setSide c x).side c' = st.side c' := by
  cases c <;> cases c' <;> first | exact absurd rfl h | rfl

theorem PI.withSq {π : TPar} {A : Nat} {Hn : Int} {kw J : Nat} {st : St σ} (h : PI π A Hn kw J st)
    {sq' : SimQueue} (o : σ) (hwf : sq'.WF) (hord : sq'.Ord) (hq : sq'.AllQ (qpred π A st.now)) :
    PI π A Hn kw J { st with sq := sq', orc := o } :=
  ⟨h.t0le, h.nowle, hwf, hord, hq, h.sides, h.net⟩

/-- `trigger_update` under the invariant: the framework call does not fault (its clock stays
    in the window), every returned action names an existing slot, and the new slot values respect
    the time bounds -/
theorem triggerUpdate_ti {π : TPar} {A : Nat} {Hn : Int} {kw J B k : Nat} {st : St σ} {next : SimEvent}
    (h : PI π A Hn kw J st) (hf : FwI π.t0 B k st) (hg : (k + 1) * B + B ≤ durMax)
    (hB : st.now ≤ π.t0 + (B : Int)) :
    Sound (triggerUpdate ρ st next) fun r => PI π A Hn kw J r.2 ∧ FwI π.t0 B (k + 1) r.2 ∧ r.2.now = st.now := by
  obtain ⟨cc, hcc, hfi⟩ := hf next.client
  have hg' : (cc + 1) * B + B ≤ durMax := by
    have : (cc + 1) * B ≤ (k + 1) * B := Nat.mul_le_mul_right _ (by omega)
    omega
  obtain ⟨hV1, hS1, hG1, hI1, hF1, hM1⟩ := fw_call ρ hfi.valid hfi.sig hfi.good hfi.inv hfi.nofault hg'
    [next.event] st.now ⟨h.t0le, hB⟩ st.orc (trigFw ρ st next) rfl
  have hout := hI1.outOK
  have hacts : ∀ a ∈ (trigFw ρ st next).actionsOut,
      a.machine < (st.side next.client).fw.machines.length ∧ C04.timesOK a = true := by
    intro a ha
    unfold C04.outOK at hout
    simp only [Bool.and_eq_true, List.all_eq_true] at hout
    have hao := hout.2 a ha
    unfold C04.actionOK at hao
    rw [hM1] at hao
    cases hm : (st.side next.client).fw.machines[a.machine]? with
    | none => rw [hm] at hao; cases hao
    | some m =>
      rw [hm] at hao
      simp only [Bool.and_eq_true] at hao
      exact ⟨(List.getElem?_eq_some_iff.1 hm).1, hao.2⟩
  obtain ⟨sd1, sq1, happ, hi1, hfw1⟩ :=
    applyActions_ti (π := π) (A := A) (now := st.now) (cl := next.client)
      (n := (st.side next.client).fw.machines.length) _ ({ (st.side next.client) with fw := trigFw ρ st next } : Side σ)
      st.sq ⟨⟨(h.sides next.client).acts, (h.sides next.client).tims, (h.sides next.client).untl⟩, h.wf, h.ord, h.q,
        hfi.lenA, hfi.lenT⟩ hacts
  unfold triggerUpdate
  simp only [hF1, happ, bind, Except.bind, pure, Except.pure]
  refine ⟨(h.setSide next.client sd1 hi1.slots).withSq _ hi1.wf hi1.ord (by rw [setSide_now]; exact hi1.q), ?_, by simp⟩
  intro c'
  by_cases hc : c' = next.client
  · subst hc
    refine ⟨cc + 1, by omega, ?_⟩
    show FI π.t0 B (cc + 1) ((st.setSide next.client sd1).side next.client)
    rw [side_setSide_same]
    simp only [] at hfw1
    exact ⟨by rw [hfw1]; exact hV1, by rw [hfw1]; exact hS1, by rw [hfw1]; exact hG1, by rw [hfw1]; exact hI1,
      by rw [hfw1]; exact hF1, by rw [hfw1, hM1]; exact hi1.lenA, by rw [hfw1, hM1]; exact hi1.lenT⟩
  · obtain ⟨c2, hc2, hf2⟩ := hf c'
    refine ⟨c2, by omega, ?_⟩
    show FI π.t0 B c2 ((st.setSide next.client sd1).side c')
    rw [side_setSide_other _ _ _ _ hc]
    exact hf2

/-- One iteration of the main loop under the invariant: no environmental fault, and the
    invariant holds again with the age bound grown by `W`, the horizon by `S + W`, the window
    bound by one stamp, the aggregate-delay budget by `2 D`, the call count by one. -/
theorem step_ti {π : TPar} {A A' : Nat} {Hn : Int} {kw J B k : Nat} {st : St σ}
    (h : PI π A Hn kw J st) (hf : FwI π.t0 B k st) (hok : π.OK)
    (hJM : J + π.D + π.D ≤ π.JM) (hHb : π.Tm + π.JM ≤ Hn) (hA' : A + TB.W ≤ A')
    (hA'D : A' ≤ π.D) (hPD : π.P ≤ π.D) (hP : π.pw * (kw + 1) ≤ π.P)
    (hg : (k + 1) * B + B ≤ durMax) (hB : Hn + ((π.S + TB.W : Nat) : Int) ≤ π.t0 + (B : Int)) :
    Sound (step ρ st) fun o => ∀ r st', o = some (r, st') →
      PI π A' (Hn + ((π.S + TB.W : Nat) : Int)) (kw + 1) (J + π.D + π.D) st' ∧ FwI π.t0 B (k + 1) st' := by
  cases hp : pickNext (pickMeasure st + 1) st with
  | none =>
    simp only [step, hp, Option.getD_none, bind, Except.bind]
    exact rfl
  | some res =>
    have hpn := pickNext_ti hok (J := J) (by omega) hHb (Nat.le_trans hA' hA'D) _ st res hp h
    cases res with
    | error f0 =>
      simp only [step, hp, Option.getD_some, bind, Except.bind]
      exact hpn
    | ok pr =>
      obtain ⟨next, st1⟩ := pr
      obtain ⟨hp1, hs1, hn1, hev⟩ := hpn
      cases next with
      | none =>
        rw [(step_none_iff ρ).2 ⟨st1, hp⟩]
        intro r st' hr
        cases hr
      | some next =>
        obtain ⟨hle, hblk⟩ := hev next rfl
        have hge : st1.now ≤ next.time := hn1 ▸ pickNext_time_ge _ _ _ _ hp
        rw [step_of_pick ρ hp hge]
        have hp2 : PI π A' (Hn + ((π.S + TB.W : Nat) : Int)) kw (J + π.D) ({ st1 with now := next.time } : St σ) :=
          hp1.advance hge hle (by rw [hn1]; exact hblk) hA'
        refine (simNetworkStack_ti hp2.ord hp2.q hp2.net hok hA'D hPD hP rfl).bind fun ⟨na, sq, net⟩ hs hv => ?_
        have hp3 : PI π A' (Hn + ((π.S + TB.W : Nat) : Int)) (kw + 1) (J + π.D + π.D)
            ({ st1 with now := next.time, sq := sq, net := net } : St σ) :=
          ⟨hp2.t0le, hp2.nowle, (simNetworkStack_conserve hp2.wf hs).1, hv.1, hv.2.1, hp2.sides, hv.2.2⟩
        refine (triggerUpdate_ti ρ (next := next) hp3 (fun c => (hf.of_same hs1) c) hg
          (Int.le_trans hle hB)).bind fun v _ hv => ?_
        intro r st' hr
        cases hr
        exact ⟨hv.1, hv.2.1⟩

end

end Mb.Sim
