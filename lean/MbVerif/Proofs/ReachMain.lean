/-
  `transition`, `updateCounter`, `decrementLimit` are sequences of primitive steps (`Reach`), and a
  whole call is a run (`Run`) of such steps, accounting updates and the call start. Also the shape
  of the pieces of a call for an arbitrary relation: the walk over one reported event, the limit
  decrement, the signal round.
-/
import MbVerif.Proofs.Reach
import MbVerif.Proofs.TransInduct
import MbVerif.Proofs.RoundRel

namespace Mb
variable {σ : Type} (ρ : Oracle σ)

theorem enterState_cur (mi : Nat) (m : Machine) (cur next : Nat) (s : Fw σ) (r : Runtime)
    (hr : s.rt[mi]? = some r) (hc : r.currentState = cur) :
    ∃ r1, (enterState ρ mi m cur next s).rt[mi]? = some r1 ∧ r1.currentState = next := by
  unfold enterState
  split
  · simp only
    have hA : (s.modRt mi (fun r => { r with currentState := next })).rt[mi]?
        = some { r with currentState := next } := by
      rw [Fw.modRt_rt_self, hr]; rfl
    split
    · exact ⟨_, by simpa using hA, rfl⟩
    · split
      · next a _ =>
        obtain ⟨hrl, _⟩ := sampleLimit_spec ρ mi a (s.modRt mi (fun r => { r with currentState := next }))
        refine ⟨{ r with currentState := next, stateLimit :=
          (sampleLimit ρ a (s.modRt mi (fun r => { r with currentState := next }))).1 }, ?_, rfl⟩
        rw [Fw.push_rt, Fw.modRt_rt_self, hrl.rt, hA]; rfl
      · refine ⟨{ r with currentState := next, stateLimit := STATE_LIMIT_MAX }, ?_, rfl⟩
        rw [Fw.push_rt, Fw.modRt_rt_self, hA]; rfl
  · next h =>
    have : cur = next := by
      by_cases h' : cur = next
      · exact h'
      · exact absurd h' (by simpa using h)
    exact ⟨r, hr, by rw [hc, this]⟩

/-- `transition` and `updateCounter` are sequences of steps; a `transition` of an existing machine
    with fuel left is its own `trans` entry followed by steps -/
theorem reach_main (fuel : Nat) :
    (∀ mi ev (s : Fw σ), Reach mi s (transition ρ fuel mi ev s).1 ∧
      ∀ r, s.rt[mi]? = some r → s.machines[mi]? ≠ none → fuel ≠ 0 →
        Reach mi (s.push (.trans mi ev.toNat r.currentState)) (transition ρ fuel mi ev s).1) ∧
    (∀ mi (s : Fw σ), Reach mi s (updateCounter ρ fuel mi s).1) := by
  have h := transition_induct ρ (PT := fun _ _ _ _ => True) (PU := fun _ _ _ => True)
    (T := fun fuel mi ev s s' _ => Reach mi s s' ∧ ∀ r, s.rt[mi]? = some r →
      s.machines[mi]? ≠ none → fuel ≠ 0 → Reach mi (s.push (.trans mi ev.toNat r.currentState)) s')
    (U := fun _ mi s s' _ _ => Reach mi s s')
    (fun _ _ s _ => ⟨.single (.fault s _), fun _ _ _ h => absurd rfl h⟩)
    (fun _ _ _ s h _ => ⟨.single (.fault s _),
      fun _ hr hm _ => (h.elim (fun h => nomatch hr.symm.trans h) hm).elim⟩) ?_
    (fun _ s _ => .single (.fault s _)) (fun _ _ s _ _ => .single (.fault s _)) ?_ fuel
  · exact ⟨fun mi ev s => h.1 mi ev s trivial, fun mi s => h.2 mi s trivial⟩
  · intro n mi ev s r m hr hm _ s0
    have mk : ∀ s', Reach mi s0 s' → Reach mi s s' ∧ ∀ r', s.rt[mi]? = some r' →
        s.machines[mi]? ≠ none → n + 1 ≠ 0 →
        Reach mi (s.push (.trans mi ev.toNat r'.currentState)) s' :=
      fun s' g => ⟨(Reach.single (.push s _)).trans g,
        fun r' hr' _ _ => by cases hr.symm.trans hr'; exact g⟩
    have h0 : Reach mi s0 s0 := .refl _
    refine ⟨fun _ => mk _ h0, fun _ => ⟨fun _ => mk _ (h0.tail (.fault _ _)), fun st hst =>
      ⟨fun _ => mk _ (h0.tail (.fault _ _)), fun _ => mk _ h0, fun vec hvec => ?_⟩⟩⟩
    intro d s1
    have h1 : Reach mi s0 s1 := (h0.tail (.rng _ _)).tail (.push _ _)
    refine ⟨fun _ => mk _ h1, fun next hss => ?_⟩
    intro s2
    have h2 : Reach mi s0 s2 := h1.tail (.push _ _)
    obtain ⟨t, htv, htx⟩ := sampleState_mem _ _ _ hss
    have hT (hS : next ≠ STATE_SIGNAL) : TargetOK s2 mi next :=
      ⟨⟨m, r, st, ev.toNat, vec, t, hm, hr, hst, hvec, htv, htx⟩, hS⟩
    refine ⟨fun hE => mk _ (h2.tail (hE ▸ .setState _ _ (hT (hE ▸ by decide)))),
      fun _ _ => mk _ (h2.tail (.signal _ _)), fun _ hS => ?_⟩
    intro s3
    have h3 : Reach mi s0 s3 := h2.trans (enterState_reach ρ mi m r.currentState next s2 (hT hS))
    refine ⟨fun _ => mk _ (h3.tail (.fault _ _)), fun r1 hr1 =>
      ⟨fun _ => mk _ (h3.tail (.fault _ _)), fun below hb => ?_⟩⟩
    intro res ih s5
    replace ih := ih trivial
    have h4 : Reach mi s0 res.1 := h3.trans ih
    have h5 : Reach mi s0 s5 := by
      show Reach mi s0 (if _ then _ else _)
      split
      · next hc =>
        -- the slot is filled only if the limit predicates said so for the entered state
        obtain ⟨r1', hr1', hc1⟩ := enterState_cur ρ mi m r.currentState next s2 r hr rfl
        obtain rfl : r1' = r1 := Option.some.inj (hr1'.symm.trans hr1)
        have hacct := ih.frame.acct
        rw [hr1] at hacct
        cases hr4 : res.1.rt[mi]? with
        | none => rw [hr4] at hacct; cases hacct
        | some r4 =>
          rw [hr4] at hacct
          refine h4.trans (scheduleAction_reach ρ mi next _ m r4
            ((congrArg (·[mi]?) (ih.frame.machines.trans h3.frame.machines)).trans hm) hr4
            fun st' act hst' hact => ⟨r1', st', (Option.some.inj hacct).symm, hc1, hst', hact, ?_⟩)
          rw [ih.frame.g, hb, (Bool.and_eq_true_iff.mp hc).2]
      · exact h4
    exact ⟨fun _ => mk _ (h5.tail (.fault _ _)), fun _ _ => mk _ h5⟩
  · intro n mi s r m hr hm _
    refine ⟨fun _ => .single (.fault s _), fun st hst => ?_⟩
    intro ra rb s2
    have h2 : Reach mi s s2 := ((applyCounterA_reach ρ mi _ _ _ s).trans
      (applyCounterB_reach ρ mi _ _ _ _)).tail (.push _ _)
    refine ⟨fun _ => h2, fun _ => ?_⟩
    intro res ih
    replace ih := (ih trivial).1
    exact ⟨fun _ => (h2.trans ih).tail (.fault _ _), fun _ _ => h2.trans ih⟩

theorem transition_oob (n mi : Nat) (ev : Event) (s : Fw σ)
    (h : s.rt[mi]? = none ∨ s.machines[mi]? = none) :
    transition ρ (n + 1) mi ev s = (s.withFault .oob, false) := by
  rw [transition]
  rcases h with h | h
  · rw [h]
  · rw [h]; cases s.rt[mi]? <;> rfl

theorem transition_reach (fuel mi : Nat) (ev : Event) (s : Fw σ) :
    Reach mi s (transition ρ fuel mi ev s).1 := ((reach_main ρ fuel).1 mi ev s).1

theorem transition_reach_pushed (n mi : Nat) (ev : Event) (s : Fw σ) (r : Runtime) (m : Machine)
    (hr : s.rt[mi]? = some r) (hm : s.machines[mi]? = some m) :
    Reach mi (s.push (.trans mi ev.toNat r.currentState)) (transition ρ (n + 1) mi ev s).1 :=
  ((reach_main ρ (n + 1)).1 mi ev s).2 r hr (by rw [hm]; nofun) (Nat.succ_ne_zero n)

theorem updateCounter_reach (fuel mi : Nat) (s : Fw σ) :
    Reach mi s (updateCounter ρ fuel mi s).1 := (reach_main ρ fuel).2 mi s

/-- the limit decrement, for a transitive relation that contains its pieces: it stays in the
    relation, or it leads within the relation to a framework from which LimitReached is delivered -/
theorem decrementLimit_split {Q : Fw σ → Fw σ → Prop} (j : Nat)
    (trans : ∀ {s t u}, Q s t → Q t u → Q s u) (fault : ∀ s : Fw σ, Q s (s.withFault .oob))
    (limit : ∀ (s : Fw σ) l,
      Q s ((s.modRt j (fun r => { r with stateLimit := l })).push (.limit j l true)))
    (clear : ∀ s : Fw σ, j < s.actions.length → Q s { s with actions := s.actions.set j none })
    (s : Fw σ) : Q s (decrementLimit ρ j s) ∨
      ∃ s1, Q s s1 ∧ decrementLimit ρ j s = (transition ρ FUEL j .limitReached s1).1 := by
  rcases decrementLimit_cases ρ j s with h | ⟨r, _, h⟩
  · exact .inl (h ▸ fault s)
  · rcases h _ rfl with h | h | ⟨hlen, h⟩
    · exact .inl (h ▸ trans (limit s _) (fault _))
    · exact .inl (h ▸ limit s _)
    · exact .inr ⟨_, trans (limit s _) (clear _ hlen), h⟩

theorem decrementLimit_rel {Q : Fw σ → Fw σ → Prop} (j : Nat)
    (trans : ∀ {s t u}, Q s t → Q t u → Q s u) (fault : ∀ s : Fw σ, Q s (s.withFault .oob))
    (limit : ∀ (s : Fw σ) l,
      Q s ((s.modRt j (fun r => { r with stateLimit := l })).push (.limit j l true)))
    (clear : ∀ s : Fw σ, j < s.actions.length → Q s { s with actions := s.actions.set j none })
    (reached : ∀ s : Fw σ, Q s (transition ρ FUEL j .limitReached s).1)
    (s : Fw σ) : Q s (decrementLimit ρ j s) := by
  rcases decrementLimit_split ρ (Q := Q) j trans fault limit clear s with h | ⟨s1, h, e⟩
  · exact h
  · exact e ▸ trans h (reached s1)

theorem decrementLimit_reach (mi : Nat) (s : Fw σ) : Reach mi s (decrementLimit ρ mi s) :=
  decrementLimit_rel ρ (Q := Reach mi) mi Reach.trans (fun s => .single (.fault s _))
    (fun s _ => (Reach.single (.setLimit s _)).tail (.push _ _)) (fun s h => .single (.clear s h))
    (fun s => transition_reach ρ _ _ _ s) s

/-- primitive changes at the level of a call: steps for any machine, accounting updates, call start -/
inductive Prim : Fw σ → Fw σ → Prop
  | step (mi : Nat) {s t : Fw σ} (h : Step mi s t) : Prim s t
  | setG (s : Fw σ) (g' : Globals) : Prim s { s with g := g' }
  | setAcct (s : Fw σ) (mi : Nat) (a : RtAcct) :
      Prim s (s.modRt mi (fun r => { r with acct := a }))
  | callStart (s : Fw σ) (t : Int) : Prim s (s.callStart t)

inductive Run : Fw σ → Fw σ → Prop
  | refl (s : Fw σ) : Run s s
  | tail {s t u : Fw σ} : Run s t → Prim t u → Run s u

namespace Run

theorem trans {s t u : Fw σ} (h₁ : Run s t) (h₂ : Run t u) : Run s u := by
  induction h₂ with
  | refl => exact h₁
  | tail _ st ih => exact Run.tail ih st

theorem single {s t : Fw σ} (h : Prim s t) : Run s t := Run.tail (Run.refl s) h

theorem ofReach {mi : Nat} {s t : Fw σ} (h : Reach mi s t) : Run s t := by
  induction h with
  | refl => exact Run.refl _
  | tail _ st ih => exact Run.tail ih (Prim.step mi st)

theorem inv (I : Fw σ → Prop) (hprim : ∀ s t, I s → Prim s t → I t)
    {s t : Fw σ} (h : Run s t) (hs : I s) : I t := by
  induction h with
  | refl => exact hs
  | tail _ st ih => exact hprim _ _ ih st

theorem foldl {α : Type} (f : Fw σ → α → Fw σ) (hf : ∀ s a, Run s (f s a)) (l : List α) (s : Fw σ) :
    Run s (l.foldl f s) := foldl_rel Run.refl Run.trans f l (fun s a _ => hf s a) s

end Run

theorem run_rtLen {s t : Fw σ} (h : Run s t) : t.rt.length = s.rt.length :=
  Run.inv (fun u : Fw σ => u.rt.length = s.rt.length)
    (fun a b ha hp => by
      cases hp with
      | step mi st => rw [st.frame.rtLen]; exact ha
      | setG => exact ha
      | setAcct => simpa using ha
      | callStart => simpa [Fw.callStart] using ha) h rfl

theorem withFault_run (s : Fw σ) (f : Fault) : Run s (s.withFault f) :=
  Run.single (Prim.step 0 (Step.fault s f))

theorem modRt_acct_run (s : Fw σ) (mi : Nat) (f : Runtime → Runtime)
    (hf : ∀ r, f r = { r with acct := (f r).acct }) : Run s (s.modRt mi f) := by
  cases hr : s.rt[mi]? with
  | none =>
    have : s.modRt mi f = s.withFault .oob := by unfold Fw.modRt; simp [hr]
    rw [this]; exact withFault_run s _
  | some r =>
    have h1 : s.modRt mi f = s.modRt mi (fun r' => { r' with acct := (f r).acct }) := by
      rw [Fw.modRt_of_some s mi f r hr, Fw.modRt_of_some s mi _ r hr, hf r]
    rw [h1]; exact Run.single (Prim.setAcct s mi _)

/-- a reported event delivers none of the events the framework raises itself -/
theorem TEvent.kind_outside (e : TEvent) :
    e.kind ≠ .counterZero ∧ e.kind ≠ .limitReached ∧ e.kind ≠ .signal := by
  cases e <;> exact ⟨Event.noConfusion, Event.noConfusion, Event.noConfusion⟩

theorem evDec_notEnded (e : TEvent) (j : Nat) (p : Fw σ × Bool) (h : evDec e j p = true) :
    notEnded p.1 j = true := by
  cases e <;> simp only [evDec, Bool.and_eq_true, Bool.false_eq_true] at h
  · exact h.2
  · exact h.1.2
  · exact h.2

theorem TEvent.targets_lt (e : TEvent) (n j : Nat) (h : j ∈ e.targets n) : j < n := by
  cases e with
  | paddingSent m | timerBegin m | timerEnd m =>
    rw [TEvent.targets] at h
    split at h
    · cases h
    · rw [List.mem_singleton.mp h]; omega
  | _ => exact List.mem_range.mp h

theorem evStep_rtLen (e : TEvent) (b j : Nat) (s : Fw σ) :
    (evStep ρ e b s j).rt.length = s.rt.length := by
  have h := (transition_reach ρ FUEL j e.kind (evAcct e b j s)).frame.rtLen
  rw [(evAcct_frame e b j s).2.2.2.2.1] at h
  unfold evStep
  dsimp only
  split
  · rw [(decrementLimit_reach ρ j _).frame.rtLen, h]
  · exact h

/-- the walk over one reported event, for a reflexive and transitive relation that contains its
    pieces for the machines that exist ("In": for indices within `rt`): the accounting updates, the duration overflow, the
    transitions for the event kinds a report delivers, and the limit decrement of a machine that
    has not ended -/
theorem processEvent_walkIn {R : Fw σ → Fw σ → Prop} (refl : ∀ s, R s s)
    (trans : ∀ {s t u}, R s t → R t u → R s u)
    (transition : ∀ (j : Nat) (e : TEvent) (s : Fw σ), j < s.rt.length →
      R s (transition ρ FUEL j e.kind s).1)
    (decrement : ∀ (j : Nat) (s : Fw σ), j < s.rt.length → notEnded s j = true →
      R s (decrementLimit ρ j s))
    (overflow : ∀ s : Fw σ, R s (s.withFault .durOverflow))
    (setG : ∀ (s : Fw σ) (g' : Globals), R s { s with g := g' })
    (acct : ∀ (s : Fw σ) (j : Nat) (f : Runtime → Runtime), j < s.rt.length →
      (∀ r, f r = { r with acct := (f r).acct }) → R s (s.modRt j f))
    (e : TEvent) (s : Fw σ) : R s (processEvent ρ e s) := by
  have ite : ∀ (c : Prop) [Decidable c] (a b : Fw σ), R a b → R a (if c then b else a) :=
    fun c _ a b h => ite_ind (R a) (fun _ => h) (fun _ => refl a)
  have hglobal : R s (evGlobal e s) := by
    cases e with
    | normalSent | paddingSent _ => exact setG s _
    | blockingBegin _ => exact ite _ s _ (setG s _)
    | blockingEnd => exact ite _ s _ (trans (ite _ s _ (overflow s)) (setG _ _))
    | _ => exact refl s
  have hacct : ∀ b j (a : Fw σ), j < a.rt.length → R a (evAcct e b j a) := by
    intro b j a hj
    cases e with
    | normalSent | paddingSent _ => exact acct a j _ hj (fun _ => rfl)
    | blockingEnd =>
      refine ite _ a _ ?_
      rw [List.getElem?_eq_getElem hj]
      refine trans (ite _ a _ (overflow a)) (acct _ j _ ?_ (fun _ => rfl))
      split
      · simpa using hj
      · exact hj
    | _ => exact refl a
  have hstep : ∀ b (a : Fw σ) j, j < a.rt.length → R a (evStep ρ e b a j) := by
    intro b a j hj
    have hj1 : j < (evAcct e b j a).rt.length := by rw [(evAcct_frame e b j a).2.2.2.2.1]; exact hj
    refine trans (hacct b j a hj) (trans (transition j e _ hj1) ?_)
    show R _ (if evDec e j _ = true then _ else _)
    split
    · next h =>
      exact decrement j _ (by rw [(transition_reach ρ FUEL j e.kind _).frame.rtLen]; exact hj1)
        (evDec_notEnded e j _ h)
    · exact refl _
  rw [processEvent_eq]
  refine trans hglobal ?_
  have hl := TEvent.targets_lt e (evGlobal e s).rt.length
  generalize e.targets (evGlobal e s).rt.length = l at hl
  generalize hn : (evGlobal e s).rt.length = n at hl
  generalize evGlobal e s = a at hn
  induction l generalizing a with
  | nil => exact refl a
  | cons j l ih =>
    exact trans (hstep _ a j (by rw [hn]; exact hl j (List.mem_cons_self ..)))
      (ih (fun k hk => hl k (List.mem_cons_of_mem _ hk)) _ (by rw [evStep_rtLen, hn]))

/-- the same for a relation that contains the pieces for every index -/
theorem processEvent_walk {R : Fw σ → Fw σ → Prop} (refl : ∀ s, R s s)
    (trans : ∀ {s t u}, R s t → R t u → R s u)
    (transition : ∀ (j : Nat) (e : TEvent) (s : Fw σ), R s (transition ρ FUEL j e.kind s).1)
    (decrement : ∀ (j : Nat) (s : Fw σ), notEnded s j = true → R s (decrementLimit ρ j s))
    (fault : ∀ (s : Fw σ) (f : Fault), R s (s.withFault f))
    (setG : ∀ (s : Fw σ) (g' : Globals), R s { s with g := g' })
    (acct : ∀ (s : Fw σ) (j : Nat) (f : Runtime → Runtime),
      (∀ r, f r = { r with acct := (f r).acct }) → R s (s.modRt j f))
    (e : TEvent) (s : Fw σ) : R s (processEvent ρ e s) :=
  processEvent_walkIn ρ refl trans (fun j e s _ => transition j e s) (fun j s _ => decrement j s)
    (fun s => fault s _) setG (fun s j f _ => acct s j f) e s

theorem processEvent_run (e : TEvent) (s : Fw σ) : Run s (processEvent ρ e s) :=
  processEvent_walk ρ Run.refl Run.trans (fun j e s => .ofReach (transition_reach ρ FUEL j e.kind s))
    (fun j s _ => .ofReach (decrementLimit_reach ρ j s)) withFault_run
    (fun s g' => .single (.setG s g')) modRt_acct_run e s

theorem foldl_skip {α β : Type} (p : α → Bool) (f : β → α → β) (l : List α) (b : β) :
    l.foldl (fun b a => if p a = true then b else f b a) b = (l.filter (fun a => !p a)).foldl f b := by
  induction l generalizing b with
  | nil => rfl
  | cons a l ih => cases h : p a <;> simp [h, ih]

/-- the signal round in one equation: nothing without a pending signal; otherwise the pending signal
    is reset and Signal delivered to every machine but the excluded one; if a signal was raised
    meanwhile it is reset and, if a machine was excluded, Signal is delivered to it -/
theorem signalRound_eq (s : Fw σ) :
    signalRound ρ s =
      match s.signalPending with
      | none => s
      | some sig =>
        let ex : Option Nat := match sig with
          | .all => none
          | .allExcept x => some x
        let s2 := ((List.range s.rt.length).filter (fun j => !(ex == some j))).foldl
          (fun s j => (transition ρ FUEL j .signal s).1) { s with signalPending := none }
        match s2.signalPending with
        | none => s2
        | some _ =>
          match ex with
          | none => { s2 with signalPending := none }
          | some x => (transition ρ FUEL x .signal { s2 with signalPending := none }).1 := by
  unfold signalRound
  cases s.signalPending with
  | none => rfl
  | some sig =>
    simp only []
    rw [foldl_skip]
    rfl

/-- the same as a case distinction, with the excluded machine `ex` and the framework `s2` after the
    first deliveries named -/
theorem signalRound_cases (s : Fw σ) :
    signalRound ρ s = s ∨ ∃ ex : Option Nat, (∀ x, ex = some x → s.signalPending = some (.allExcept x)) ∧
      ∀ s2, s2 = ((List.range s.rt.length).filter (fun j => !(ex == some j))).foldl
          (fun s j => (transition ρ FUEL j .signal s).1) { s with signalPending := none } →
        signalRound ρ s = s2 ∨ (ex = none ∧ signalRound ρ s = { s2 with signalPending := none }) ∨
        ∃ x, ex = some x ∧
          signalRound ρ s = (transition ρ FUEL x .signal { s2 with signalPending := none }).1 := by
  rw [signalRound_eq]
  cases hsig : s.signalPending with
  | none => exact .inl rfl
  | some sig =>
    cases sig with
    | all =>
      refine .inr ⟨none, nofun, fun s2 hs2 => ?_⟩
      simp only []
      rw [← hs2]
      cases s2.signalPending with
      | none => exact .inl rfl
      | some _ => exact .inr (.inl ⟨trivial, rfl⟩)
    | allExcept x =>
      refine .inr ⟨some x, fun y hy => by cases hy; rfl, fun s2 hs2 => ?_⟩
      simp only []
      rw [← hs2]
      cases s2.signalPending with
      | none => exact .inl rfl
      | some _ => exact .inr (.inr ⟨x, rfl, rfl⟩)

theorem signalRound_run (s : Fw σ) : Run s (signalRound ρ s) :=
  signalRound_rel ρ Run.refl Run.trans (fun s p => .single (.step 0 (.signal s p)))
    (fun s j => .ofReach (transition_reach ρ FUEL j .signal s)) s

theorem triggerEvents_run (es : List TEvent) (t : Int) (s : Fw σ) : Run s (triggerEvents ρ es t s) := by
  unfold triggerEvents
  refine (Run.single (Prim.callStart s t)).trans ?_
  refine Run.trans (Run.foldl _ (fun s e => processEvent_run ρ e s) _ _) (signalRound_run ρ _)

theorem runCalls_run (s : Fw σ) (h : List Call) : Run s (runCalls ρ s h) := by
  unfold runCalls
  exact Run.foldl _ (fun s (c : Call) => triggerEvents_run ρ c.1 c.2 s) _ _

end Mb
