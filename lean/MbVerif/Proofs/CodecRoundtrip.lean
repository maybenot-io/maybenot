/-
  Round-trip lemmas for the bincode model, one per layer, all in the composable form
  `dec (enc x ++ r) = some (x, r)`.
-/
import MbVerif.Codec
import MbVerif.Codec.WF

set_option linter.unusedSimpArgs false

namespace Mb
namespace Codec

def RT {α} (enc : α → Bytes) (dec : Bytes → Option (α × Bytes)) (a : α) : Prop :=
  ∀ r, dec (enc a ++ r) = some (a, r)

theorem readLE_leBytes (k n : Nat) (h : n < 256 ^ k) (r : Bytes) :
    readLE k (leBytes k n ++ r) = some (n, r) := by
  induction k generalizing n with
  | zero => simp [Nat.pow_zero] at h; subst h; simp [readLE, leBytes]
  | succ k ih =>
    have h' : n / 256 < 256 ^ k := by
      rw [Nat.pow_succ] at h
      exact Nat.div_lt_of_lt_mul (by rwa [Nat.mul_comm] at h)
    have hb : (UInt8.ofNat (n % 256)).toNat = n % 256 := by
      simp [UInt8.toNat_ofNat']
    simp only [leBytes, List.cons_append, readLE, ih _ h', hb]
    congr 2
    omega

theorem leBytes_length (k n : Nat) : (leBytes k n).length = k := by
  induction k generalizing n with
  | zero => rfl
  | succ k ih => simp [leBytes, ih]

theorem encVarint_RT (n : Nat) (h : n < U64) : RT encVarint decVarint n := by
  intro r
  unfold U64 at h
  unfold encVarint
  split
  · rename_i h1
    have : (UInt8.ofNat n).toNat = n := by simp [UInt8.toNat_ofNat']; omega
    simp [decVarint, this, h1]
  · split
    · rename_i h1 h2
      have := readLE_leBytes 2 n (by omega) r
      simp [decVarint, this]
    · split
      · rename_i h1 h2 h3
        have := readLE_leBytes 4 n (by omega) r
        simp [decVarint, this]
      · have := readLE_leBytes 8 n (by omega) r
        simp [decVarint, this]

theorem encVarint_length_pos (n : Nat) : 1 ≤ (encVarint n).length := by
  unfold encVarint
  split <;> (try split) <;> (try split) <;> simp

theorem decU32_encVarint (n : Nat) (h : n < 2 ^ 32) (r : Bytes) :
    decU32 (encVarint n ++ r) = some (n, r) := by
  have := encVarint_RT n (by unfold U64; omega) r
  simp [decU32, this, h]

theorem encBool_RT (b : Bool) : RT encBool decBool b := by
  intro r; cases b <;> simp [encBool, decBool]

theorem encF64_RT (x : F64) : RT encF64 decF64 x := by
  intro r
  have h : x.toNat < 256 ^ 8 := by have := x.toNat_lt; omega
  simp [encF64, decF64, readLE_leBytes 8 _ h]

theorem encF32_RT (x : F32) : RT encF32 decF32 x := by
  intro r
  have h : x.toNat < 256 ^ 4 := by have := x.toNat_lt; omega
  simp [encF32, decF32, readLE_leBytes 4 _ h]

theorem dec2F64_enc (a b : F64) (r : Bytes) : dec2F64 (encF64 a ++ (encF64 b ++ r)) = some ((a, b), r) := by
  simp [dec2F64, encF64_RT a _, encF64_RT b _]

theorem encOption_RT {α} (enc : α → Bytes) (dec : Bytes → Option (α × Bytes)) (o : Option α)
    (h : ∀ a, o = some a → RT enc dec a) : RT (encOption enc) (decOption dec) o := by
  intro r
  cases o with
  | none => simp [encOption, decOption]
  | some a => simp [encOption, decOption, h a rfl r]

theorem encOption_length_pos {α} (enc : α → Bytes) (o : Option α) : 1 ≤ (encOption enc o).length := by
  cases o <;> simp [encOption]

theorem encList_cons {α} (enc : α → Bytes) (a : α) (l : List α) :
    encList enc (a :: l) = enc a ++ encList enc l := rfl

theorem decN_encList {α} (enc : α → Bytes) (dec : Bytes → Option (α × Bytes)) (l : List α)
    (h : ∀ a ∈ l, RT enc dec a) (r : Bytes) :
    decN dec l.length (encList enc l ++ r) = some (l, r) := by
  induction l with
  | nil => simp [decN, encList]
  | cons a l ih =>
    have ha := h a (by simp) (encList enc l ++ r)
    have hl := ih (fun b hb => h b (by simp [hb]))
    simp [decN, encList_cons, List.append_assoc, ha, hl]

theorem encList_length_ge {α} (enc : α → Bytes) (l : List α) (h : ∀ a ∈ l, 1 ≤ (enc a).length) :
    l.length ≤ (encList enc l).length := by
  induction l with
  | nil => simp
  | cons a l ih =>
    have := h a (by simp)
    have := ih (fun b hb => h b (by simp [hb]))
    simp [encList_cons]; omega

theorem hasAtLeast_iff (n : Nat) (bs : Bytes) : hasAtLeast n bs = true ↔ n ≤ bs.length := by
  induction n generalizing bs with
  | zero => simp [hasAtLeast]
  | succ n ih =>
    cases bs with
    | nil => simp [hasAtLeast]
    | cons b bs => simp [hasAtLeast, ih]

theorem encVec_RT {α} (enc : α → Bytes) (dec : Bytes → Option (α × Bytes)) (l : List α)
    (hlen : l.length < U64) (hne : ∀ a ∈ l, 1 ≤ (enc a).length) (h : ∀ a ∈ l, RT enc dec a) :
    RT (encVec enc) (decVec dec) l := by
  intro r
  have h1 := encVarint_RT l.length hlen (encList enc l ++ r)
  have h2 := encList_length_ge enc l hne
  have h3 : hasAtLeast l.length (encList enc l ++ r) = true := by
    rw [hasAtLeast_iff, List.length_append]; omega
  simp [encVec, decVec, List.append_assoc, h1, h3, decN_encList enc dec l h r]

theorem encVec_ne_nil {α} (enc : α → Bytes) (l : List α) : 1 ≤ (encVec enc l).length := by
  have := encVarint_length_pos l.length
  simp [encVec]; omega

theorem encDistType_RT (d : DistType) (h : wfDistType d = true) : RT encDistType decDistType d := by
  intro r
  cases d <;>
    simp [encDistType, decDistType, List.append_assoc, decU32_encVarint, dec2F64_enc, encF64_RT _ _,
      Gen.DT_Uniform, Gen.DT_Normal, Gen.DT_SkewNormal, Gen.DT_LogNormal, Gen.DT_Binomial,
      Gen.DT_Geometric, Gen.DT_Pareto, Gen.DT_Poisson, Gen.DT_Weibull, Gen.DT_Gamma, Gen.DT_Beta]
  case binomial t p =>
    simp [wfDistType] at h
    simp [encVarint_RT t h _, encF64_RT _ _]

theorem encDist_RT (d : Dist) (h : wfDist d = true) : RT encDist decDist d := by
  intro r
  simp [encDist, decDist, List.append_assoc, encDistType_RT d.dist h _, dec2F64_enc]

theorem encOptDist_RT (o : Option Dist) (h : wfOptDist o = true) : RT (encOption encDist) (decOption decDist) o :=
  encOption_RT _ _ o (fun a ha => encDist_RT a (by subst ha; exact h))

theorem encTimer_RT (t : Timer) : RT encTimer decTimer t := by
  intro r
  cases t <;> simp [encTimer, decTimer, decU32_encVarint, Gen.TIMER_Action, Gen.TIMER_Internal, Gen.TIMER_All]

theorem encAction_RT (a : Action) (h : wfAction a = true) : RT encAction decAction a := by
  intro r
  cases a with
  | cancel t =>
    simp [encAction, decAction, List.append_assoc, decU32_encVarint, encTimer_RT t _,
      Gen.ACT_Cancel, Gen.ACT_SendPadding, Gen.ACT_BlockOutgoing, Gen.ACT_UpdateTimer]
  | sendPadding b rp to lim =>
    simp [wfAction] at h
    simp [encAction, decAction, List.append_assoc, decU32_encVarint, encBool_RT _ _, encDist_RT to h.1 _,
      encOptDist_RT lim h.2 _,
      Gen.ACT_Cancel, Gen.ACT_SendPadding, Gen.ACT_BlockOutgoing, Gen.ACT_UpdateTimer]
  | blockOutgoing b rp to du lim =>
    simp [wfAction] at h
    simp [encAction, decAction, List.append_assoc, decU32_encVarint, encBool_RT _ _, encDist_RT to h.1.1 _,
      encDist_RT du h.1.2 _, encOptDist_RT lim h.2 _,
      Gen.ACT_Cancel, Gen.ACT_SendPadding, Gen.ACT_BlockOutgoing, Gen.ACT_UpdateTimer]
  | updateTimer rp du lim =>
    simp [wfAction] at h
    simp [encAction, decAction, List.append_assoc, decU32_encVarint, encBool_RT _ _, encDist_RT du h.1 _,
      encOptDist_RT lim h.2 _,
      Gen.ACT_Cancel, Gen.ACT_SendPadding, Gen.ACT_BlockOutgoing, Gen.ACT_UpdateTimer]

theorem encOperation_RT (o : Operation) : RT encOperation decOperation o := by
  intro r
  cases o <;> simp [encOperation, decOperation, decU32_encVarint, Gen.OP_Increment, Gen.OP_Decrement, Gen.OP_Set]

theorem encCounter_RT (c : Counter) (h : wfCounter c = true) : RT encCounter decCounter c := by
  intro r
  simp [encCounter, decCounter, List.append_assoc, encOperation_RT _ _, encOptDist_RT c.dist h _, encBool_RT _ _]

theorem encTrans_RT (t : Trans) (h : wfTrans t = true) : RT encTrans decTrans t := by
  intro r
  simp [wfTrans] at h
  simp [encTrans, decTrans, List.append_assoc, encVarint_RT t.target h _, encF32_RT _ _]

theorem encTrans_length_pos (t : Trans) : 1 ≤ (encTrans t).length := by
  have := encVarint_length_pos t.target
  simp [encTrans]; omega

theorem encTransVec_RT (ts : List Trans) (h : wfTransVec ts = true) : RT (encVec encTrans) (decVec decTrans) ts := by
  simp [wfTransVec] at h
  exact encVec_RT _ _ ts h.1 (fun a _ => encTrans_length_pos a) (fun a ha => encTrans_RT a (by simpa using h.2 a ha))

theorem encOptTransVec_RT (o : Option (List Trans)) (h : wfOptTransVec o = true) :
    RT (encOption (encVec encTrans)) (decOption (decVec decTrans)) o :=
  encOption_RT _ _ o (fun a ha => encTransVec_RT a (by subst ha; exact h))

theorem encState_RT (s : State) (h : wfState s = true) : RT encState decState s := by
  intro r
  simp [wfState] at h
  obtain ⟨⟨⟨⟨ha, hca⟩, hcb⟩, hlen⟩, hts⟩ := h
  have h1 := encOption_RT encAction decAction s.action
    (fun a e => encAction_RT a (by subst_vars; simpa [wfOptAction, e] using ha))
  have h2 := encOption_RT encCounter decCounter s.counterA
    (fun a e => encCounter_RT a (by simpa [wfOptCounter, e] using hca))
  have h3 := encOption_RT encCounter decCounter s.counterB
    (fun a e => encCounter_RT a (by simpa [wfOptCounter, e] using hcb))
  have h4 := decN_encList (encOption (encVec encTrans)) (decOption (decVec decTrans)) s.transitions
    (fun o ho => encOptTransVec_RT o (hts o ho)) r
  rw [hlen] at h4
  simp [encState, decState, List.append_assoc, h1 _, h2 _, h3 _, h4]

theorem encState_length_pos (s : State) : 1 ≤ (encState s).length := by
  have := encOption_length_pos encAction s.action
  simp [encState]; omega

theorem encMachine_RT (m : Machine) (h : WFm m = true) : RT encMachine decMachine m := by
  intro r
  simp [WFm] at h
  obtain ⟨⟨⟨h1, h2⟩, h3⟩, h4⟩ := h
  have hv := encVec_RT encState decState m.states h3 (fun a _ => encState_length_pos a)
    (fun a ha => encState_RT a (h4 a ha))
  simp [encMachine, decMachine, List.append_assoc, encVarint_RT _ h1 _, encVarint_RT _ h2 _,
    encF64_RT _ _, hv _]

theorem decodeMachine_encMachine (m : Machine) (h : WFm m = true) : decodeMachine (encMachine m) = some m := by
  have := encMachine_RT m h []
  simp at this
  simp [decodeMachine, this]

end Codec
end Mb
