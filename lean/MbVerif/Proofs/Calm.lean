/-
  Steps of `trigger_events` that the log rules of the C08 and C09 monitors do not react to: the log
  grows by raw samples, draws and limit entries only, no machine changes its state, counters or zero
  flags, and the machines stay. Sampling, `schedule_action`, the part of `enterState` after the
  state is set and the part of `decrementLimit` before its transition are of this kind. A reflexive,
  transitive relation that contains these steps and the transitions is a walker.
-/
import MbVerif.Proofs.Walk

namespace Mb
variable {σ : Type} (ρ : Oracle σ)

def SameOn {α : Type} (k : Runtime → α) (s t : Fw σ) : Prop :=
  ∀ j : Nat, (t.rt[j]?).map k = (s.rt[j]?).map k

theorem SameOn.of_eq {α : Type} (k : Runtime → α) {s t : Fw σ} (h : t.rt = s.rt) : SameOn k s t :=
  fun j => by rw [h]

theorem SameOn.trans {α : Type} {k : Runtime → α} {s t u : Fw σ} (h₁ : SameOn k s t) (h₂ : SameOn k t u) :
    SameOn k s u := fun j => (h₂ j).trans (h₁ j)

theorem SameOn.comp {α β : Type} {k : Runtime → α} {s t : Fw σ} (h : SameOn k s t) (f : α → β) :
    SameOn (fun r => f (k r)) s t := fun j => by
  have := congrArg (Option.map f) (h j)
  rwa [Option.map_map, Option.map_map] at this

theorem SameOn.modRt {α : Type} (k : Runtime → α) (s : Fw σ) (j : Nat) (g : Runtime → Runtime)
    (hg : ∀ r, k (g r) = k r) : SameOn k s (s.modRt j g) := by
  intro i
  by_cases hi : i = j
  · subst hi
    rw [Fw.modRt_rt_self, Option.map_map]
    exact congrArg (fun f => (s.rt[i]?).map f) (funext hg)
  · rw [Fw.modRt_rt_other s j i g hi]

theorem SameOn.some {α : Type} {k : Runtime → α} {s t : Fw σ} (h : SameOn k s t) {j : Nat} {r : Runtime}
    (ht : t.rt[j]? = some r) : ∃ r0, s.rt[j]? = some r0 ∧ k r = k r0 := by
  have := h j
  rw [ht] at this
  cases hs : s.rt[j]? with
  | none => rw [hs] at this; cases this
  | some r0 => rw [hs] at this; exact ⟨r0, rfl, Option.some.inj this⟩

/-- entries that neither deliver an event nor record a sampled target or a counter update -/
def calm : LogEntry → Bool
  | .distRaw _ => true
  | .draw _ => true
  | .limit .. => true
  | _ => false

/-- the part of a runtime the log rules depend on -/
def core (r : Runtime) : Nat × Bool × Bool × Nat × Nat :=
  (r.currentState, r.zeroedA, r.zeroedB, r.counterA, r.counterB)

/-- `t` extends the log of `s` (newest first) by calm entries; the number of machines stays -/
structure Grow (s t : Fw σ) : Prop where
  len : t.rt.length = s.rt.length
  log : ∃ l : List LogEntry, t.log = l ++ s.log ∧ ∀ e ∈ l, calm e = true

theorem Grow.refl (s : Fw σ) : Grow s s := ⟨rfl, [], rfl, nofun⟩

theorem Grow.trans {s t u : Fw σ} (h₁ : Grow s t) (h₂ : Grow t u) : Grow s u := by
  obtain ⟨l1, e1, q1⟩ := h₁.log
  obtain ⟨l2, e2, q2⟩ := h₂.log
  refine ⟨h₂.len.trans h₁.len, l2 ++ l1, by rw [e2, e1, List.append_assoc], fun e he => ?_⟩
  rcases List.mem_append.1 he with h | h
  · exact q2 e h
  · exact q1 e h

theorem Grow.modRt (s : Fw σ) (j : Nat) (g : Runtime → Runtime) : Grow s (s.modRt j g) :=
  ⟨by simp, [], by simp, nofun⟩

/-- moreover `t` agrees with `s` on the machines and on the core of every runtime -/
structure Calm (s t : Fw σ) : Prop extends Grow s t where
  machines : t.machines = s.machines
  rt : SameOn core s t

namespace Calm

theorem same {s t : Fw σ} (hm : t.machines = s.machines) (hl : t.log = s.log) (hrt : t.rt = s.rt) : Calm s t :=
  ⟨⟨by rw [hrt], [], hl, nofun⟩, hm, SameOn.of_eq core hrt⟩

theorem refl (s : Fw σ) : Calm s s := same rfl rfl rfl

theorem trans {s t u : Fw σ} (h₁ : Calm s t) (h₂ : Calm t u) : Calm s u :=
  ⟨h₁.toGrow.trans h₂.toGrow, h₂.machines.trans h₁.machines, h₁.rt.trans h₂.rt⟩

theorem withFault (s : Fw σ) (f : Fault) : Calm s (s.withFault f) := same (by simp) (by simp) (by simp)

theorem modRt (s : Fw σ) (j : Nat) (g : Runtime → Runtime) (hg : ∀ r, core (g r) = core r) :
    Calm s (s.modRt j g) :=
  ⟨Grow.modRt s j g, by simp, SameOn.modRt core s j g hg⟩

/-- one more calm entry; anything but the log, the runtimes and the machines may change -/
theorem log1 {s t : Fw σ} (e : LogEntry) (he : calm e = true) (hm : t.machines = s.machines)
    (hl : t.log = e :: s.log) (hrt : t.rt = s.rt) : Calm s t :=
  ⟨⟨by rw [hrt], [e], hl, by simpa using he⟩, hm, SameOn.of_eq core hrt⟩

theorem push (s : Fw σ) (e : LogEntry) (he : calm e = true) : Calm s (s.push e) := log1 e he rfl rfl rfl

theorem setLimit (s : Fw σ) (j l : Nat) (b : Bool) :
    Calm s ((s.modRt j (fun r => { r with stateLimit := l })).push (.limit j l b)) :=
  (modRt s j (fun r => { r with stateLimit := l }) (fun _ => rfl)).trans (push _ _ rfl)

end Calm

theorem calm_distSample (d : Dist) (s : Fw σ) : Calm s (distSample ρ d s).2 :=
  Calm.log1 (.distRaw _) rfl rfl rfl rfl

theorem calm_enterState (mi : Nat) (m : Machine) {cur next : Nat} (s : Fw σ) (h : cur ≠ next) :
    Calm (s.modRt mi (fun r => { r with currentState := next })) (enterState ρ mi m cur next s) :=
  enterState_rel_tail ρ Calm.refl Calm.trans (calm_distSample ρ) mi (fun s => Calm.withFault s _)
    (fun s l => Calm.setLimit s mi l false) m h s

theorem grow_enterState (mi : Nat) (m : Machine) (cur next : Nat) (s : Fw σ) :
    Grow s (enterState ρ mi m cur next s) := by
  by_cases h : cur = next
  · rw [h, enterState_self]; exact Grow.refl s
  · exact (Grow.modRt s mi _).trans (calm_enterState ρ mi m s h).toGrow

theorem grow_applyCounterA (mi : Nat) (c : Option Counter) (oldA oldB : Nat) (s : Fw σ) :
    Grow s (applyCounterA ρ mi c oldA oldB s).1 :=
  (applyCounter_rel ρ Grow.refl Grow.trans (fun d s => (calm_distSample ρ d s).toGrow) mi
    (fun s f _ => Grow.modRt s mi f)).1 c oldA oldB s

theorem grow_applyCounterB (mi : Nat) (c : Option Counter) (oldA oldB : Nat) (s : Fw σ) :
    Grow s (applyCounterB ρ mi c oldA oldB s).1 :=
  (applyCounter_rel ρ Grow.refl Grow.trans (fun d s => (calm_distSample ρ d s).toGrow) mi
    (fun s f _ => Grow.modRt s mi f)).2 c oldA oldB s

theorem calm_scheduleAction (mi next : Nat) (s : Fw σ) : Calm s (scheduleAction ρ mi next s) :=
  scheduleAction_rel ρ Calm.refl Calm.trans (calm_distSample ρ) mi (fun s => Calm.withFault s _)
    (fun _ _ => Calm.same rfl rfl rfl) next s

theorem decrementLimit_calm (j : Nat) (s : Fw σ) :
    Calm s (decrementLimit ρ j s) ∨
      ∃ s1, Calm s s1 ∧ decrementLimit ρ j s = (transition ρ FUEL j .limitReached s1).1 :=
  decrementLimit_split ρ (Q := Calm) j Calm.trans (fun s => Calm.withFault s _) (fun s l => Calm.setLimit s j l true)
    (fun _ _ => Calm.same rfl rfl rfl) s

theorem calm_init (ms : List Machine) (fp fb : F64) (t0 : Int) (rng : σ) :
    Calm (Fw.init0 ms fp fb t0 rng) (Fw.init ρ ms fp fb t0 rng) := by
  unfold Fw.init
  generalize Fw.init0 ms fp fb t0 rng = s0
  suffices h : ∀ (idx : List Nat) (s : Fw σ), Calm s (idx.foldl (initLimit ρ) s) from h _ s0
  intro idx
  induction idx with
  | nil => exact Calm.refl
  | cons i idx ih =>
    refine fun s => Calm.trans ?_ (ih _)
    unfold initLimit
    split
    · exact Calm.withFault s _
    · split
      · exact Calm.withFault s _
      · split
        · exact Calm.refl s
        · next a _ =>
          exact (sampleLimit_rel ρ Calm.refl (calm_distSample ρ) a s).trans (Calm.modRt _ i _ (fun _ => rfl))

/-- a reflexive, transitive relation that contains the calm steps and the transitions delivered from
    outside is a walker over whole events -/
theorem WalkEv.ofCalm {R : Fw σ → Fw σ → Prop} (refl : ∀ s, R s s) (trans : ∀ {s t u}, R s t → R t u → R s u)
    (calm : ∀ {s t}, Calm s t → R s t)
    (transition : ∀ (j : Nat) (ev : Event) (s : Fw σ), ev ≠ .counterZero → R s (transition ρ FUEL j ev s).1) :
    WalkEv ρ R where
  refl := refl
  trans := trans
  transition := transition
  decrement j s _ := by
    rcases decrementLimit_calm ρ j s with h | ⟨s1, h, e⟩
    · exact calm h
    · rw [e]; exact trans (calm h) (transition j _ s1 (by decide))
  fault s f := calm (Calm.withFault s f)
  signal s p := calm (Calm.same rfl rfl rfl)
  setG s g' := calm (Calm.same rfl rfl rfl)
  acct s j f hf := calm (Calm.modRt s j f (fun r => by rw [hf r]; rfl))

end Mb
