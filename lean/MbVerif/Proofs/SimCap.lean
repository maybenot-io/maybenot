/-
  The length cap only cuts the run short: the kept events of a capped run are the first `cap`
  kept events of the uncapped run with the same inputs.
-/
import MbVerif.Proofs.SimRecord

namespace Mb.Sim
open Mb

/-- `max_trace_length = 0` is how `sim_advanced` is told "no length cap" -/
def Args.uncapped (a : Args) : Args := { a with maxTraceLength := 0 }

section
variable {σ : Type} (ρ : Oracle σ)

theorem bump_uncapped (a : Args) (r : StepRec) (c : Nat) : bump a.uncapped r c = bump a r c := rfl

theorem stopCheck_below_cap (a : Args) (st : St σ) (iters x x0 : Nat) (hx : x < a.maxTraceLength) :
    stopCheck a st iters x = stopCheck a.uncapped st iters x0 := by
  unfold stopCheck
  have h1 : ¬ (x ≥ a.maxTraceLength) := by omega
  simp [Args.uncapped, h1]

theorem stopCheck_at_cap (a : Args) (st : St σ) (iters x : Nat) (hc : a.maxTraceLength > 0)
    (hx : x ≥ a.maxTraceLength) : stopCheck a st iters x = some .maxTrace := by
  unfold stopCheck
  simp [hc, hx]

theorem loop_cap_prefix (a : Args) (hc : a.maxTraceLength > 0) :
    ∀ (fuel : Nat) (st : St σ) (iters cnt cnt0 : Nat), cnt < a.maxTraceLength →
      (loop ρ a fuel st iters cnt).stream.filter a.keep =
        ((loop ρ a.uncapped fuel st iters cnt0).stream.filter a.keep).take (a.maxTraceLength - cnt) := by
  intro fuel st iters cnt
  refine loop_induct ρ a (P := fun n st i c o => ∀ c0, c < a.maxTraceLength →
    o.stream.filter a.keep = ((loop ρ a.uncapped n st i c0).stream.filter a.keep).take (a.maxTraceLength - c))
    ?_ ?_ ?_ ?_ ?_ fuel st iters cnt
  · intro st i c c0 _; simp [loop]
  · intro n st i c f hs c0 _; simp [loop, hs]
  · intro n st i c hs c0 _; simp [loop, hs]
  · intro n st i c r st' s hs hsc c0 hlt
    rw [loop_succ_some ρ a.uncapped n st st' i c0 r hs]
    by_cases hx : bump a r c ≥ a.maxTraceLength
    · -- the cap is reached by this event: it is kept and it is the last one
      have hk : a.keep r = true := by
        unfold bump at hx
        by_cases hk : a.keep r = true
        · exact hk
        · rw [if_neg hk] at hx; omega
      have hone : a.maxTraceLength - c = 1 := by
        unfold bump at hx; rw [if_pos hk] at hx; omega
      rw [hone]
      cases stopCheck a.uncapped st' i (bump a.uncapped r c0) <;> simp [hk]
    · rw [← stopCheck_below_cap a st' i (bump a r c) (bump a.uncapped r c0) (by omega), hsc]
      exact (List.take_of_length_le (Nat.le_trans (List.length_filter_le _ _)
        (by simp only [List.length_cons, List.length_nil]; omega))).symm
  · intro n st i c r st' o hs hsc ih c0 hlt
    have hx' : bump a r c < a.maxTraceLength := by have := (stopCheck_eq_none.1 hsc).1; omega
    rw [loop_succ_some ρ a.uncapped n st st' i c0 r hs,
      ← stopCheck_below_cap a st' i (bump a r c) (bump a.uncapped r c0) hx', hsc]
    have ih' := ih (bump a.uncapped r c0) hx'
    by_cases hk : a.keep r = true
    · have hb : bump a r c = c + 1 := by simp [bump, hk]
      rw [hb] at ih'
      simp only [List.filter_cons, hk, if_true]
      rw [ih', show a.maxTraceLength - c = (a.maxTraceLength - (c + 1)) + 1 by omega, List.take_succ_cons]
    · have hb : bump a r c = c := by simp [bump, hk]
      rw [hb] at ih'
      simp only [List.filter_cons, hk, if_false, Bool.false_eq_true]
      exact ih'

end
end Mb.Sim
