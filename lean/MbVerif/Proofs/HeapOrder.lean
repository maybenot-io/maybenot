/-
  The order invariant of the heap model (`Sim/Heap.lean`) for an arbitrary comparison that is a
  total preorder: in the array layout every element is `≤` its parent.  `push` and `pop` keep it,
  the root is a maximum, hence `pop` returns a maximum of the old heap and everything that stays
  is `≤` the popped element.

  The proofs follow the `Hole` of the Rust code: `HoleInv d pos` says that `d` is heap ordered on
  every edge that does not touch `pos` (the entry at `pos` is garbage) and that the children of
  `pos` are `≤` the parent of `pos` (so the hole can be filled by anything between them).
-/
import MbVerif.Proofs.HeapCount

namespace Mb.Sim
open Mb

section
variable {α : Type}

/-- the comparison is a total preorder (what Rust's `Ord` promises for `<=`) -/
structure TotalPre (le : α → α → Bool) : Prop where
  total : ∀ a b, le a b = true ∨ le b a = true
  trans : ∀ a b c, le a b = true → le b c = true → le a c = true

theorem TotalPre.refl {le : α → α → Bool} (tp : TotalPre le) (a : α) : le a a = true := by
  cases tp.total a a <;> assumption

/-- heap order in array layout: every element is ≤ its parent -/
def HeapInv (le : α → α → Bool) (d : List α) : Prop :=
  ∀ i (hi : i < d.length), 0 < i → le d[i] (d[(i - 1) / 2]'(by omega)) = true

/-- the same with `getElem?` (the form the proofs work with) -/
def HeapInvQ (le : α → α → Bool) (d : List α) : Prop :=
  ∀ i a p, 0 < i → d[i]? = some a → d[(i - 1) / 2]? = some p → le a p = true

theorem heapInv_iff (le : α → α → Bool) (d : List α) : HeapInv le d ↔ HeapInvQ le d := by
  constructor
  · intro h i a p hi0 ha hp
    obtain ⟨hi, rfl⟩ := List.getElem?_eq_some_iff.1 ha
    obtain ⟨_, rfl⟩ := List.getElem?_eq_some_iff.1 hp
    exact h i hi hi0
  · intro h i hi hi0
    exact h i _ _ hi0 (List.getElem?_eq_getElem hi) (List.getElem?_eq_getElem (by omega))

theorem heapInv_empty (le : α → α → Bool) : HeapInv le [] := by
  intro i hi; simp at hi

/-- heap order everywhere except at `pos`, whose entry is arbitrary; the children of `pos` are
    `≤` the parent of `pos` -/
structure HoleInv (le : α → α → Bool) (d : List α) (pos : Nat) : Prop where
  edge : ∀ i a p, 0 < i → i ≠ pos → (i - 1) / 2 ≠ pos → d[i]? = some a → d[(i - 1) / 2]? = some p →
    le a p = true
  skip : ∀ c a p, 0 < pos → 0 < c → (c - 1) / 2 = pos → d[c]? = some a → d[(pos - 1) / 2]? = some p →
    le a p = true

variable {le : α → α → Bool}

/-! positions in the array layout: parent `(i - 1) / 2`, children `2 i + 1` and `2 i + 2` -/

theorem parent_lt {i : Nat} (h : 0 < i) : (i - 1) / 2 < i := by omega

theorem parent_left (h : Nat) : (2 * h + 1 - 1) / 2 = h := by omega

theorem parent_right (h : Nat) : (2 * h + 1 + 1 - 1) / 2 = h := by omega

theorem child_cases {t h : Nat} (h0 : 0 < t) (hp : (t - 1) / 2 = h) : t = 2 * h + 1 ∨ t = 2 * h + 1 + 1 := by omega

/-- a position in the second half of the array has no child -/
theorem no_child {d : List α} {c pos : Nat} {a : α} (hc0 : 0 < c) (hcq : (c - 1) / 2 = pos) (ha : d[c]? = some a)
    (hlen : d.length ≤ 2 * pos + 1) : False := by
  have := (List.getElem?_eq_some_iff.1 ha).1
  have := child_cases hc0 hcq
  clear hcq
  omega

theorem holeInv_of_heapInvQ {d : List α} (h : HeapInvQ le d) : HoleInv le d 0 :=
  ⟨fun i a p hi0 _ _ ha hp => h i a p hi0 ha hp, fun _ _ _ h0 => absurd h0 (by omega)⟩

/-- filling the hole with something between the children and the parent gives a heap -/
theorem heapInvQ_fill {d : List α} {pos : Nat} {x : α} (hinv : HoleInv le d pos) (hpos : pos < d.length)
    (hch : ∀ c a, 0 < c → (c - 1) / 2 = pos → d[c]? = some a → le a x = true)
    (hpar : 0 < pos → ∀ p, d[(pos - 1) / 2]? = some p → le x p = true) :
    HeapInvQ le (d.set pos x) := by
  intro i a p hi0 ha hp
  by_cases hip : i = pos
  · subst hip
    rw [List.getElem?_set_self hpos] at ha
    rw [List.getElem?_set_ne (Nat.ne_of_gt (parent_lt hi0))] at hp
    cases ha
    exact hpar hi0 p hp
  · rw [List.getElem?_set_ne (Ne.symm hip)] at ha
    by_cases hpp : (i - 1) / 2 = pos
    · rw [hpp, List.getElem?_set_self hpos] at hp
      cases hp
      exact hch i a hi0 hpp ha
    · rw [List.getElem?_set_ne (Ne.symm hpp)] at hp
      exact hinv.edge i a p hi0 hip hpp ha hp

/-- one step of `sift_up`: the parent's value goes into the hole, the hole moves to the parent -/
theorem holeInv_up (tp : TotalPre le) {d : List α} {pos : Nat} {pp : α} (hinv : HoleInv le d pos)
    (hpos0 : 0 < pos) (hposl : pos < d.length) (hq' : d[(pos - 1) / 2]? = some pp) :
    HoleInv le (d.set pos pp) ((pos - 1) / 2) := by
  have hq := parent_lt hpos0
  constructor
  · intro i a p hi0 hiq hpq ha hp
    have hip : i ≠ pos := by intro h; subst h; exact hpq rfl
    rw [List.getElem?_set_ne (Ne.symm hip)] at ha
    by_cases hpp : (i - 1) / 2 = pos
    · rw [hpp, List.getElem?_set_self hposl] at hp
      cases hp
      exact hinv.skip i a _ hpos0 hi0 hpp ha hq'
    · rw [List.getElem?_set_ne (Ne.symm hpp)] at hp
      exact hinv.edge i a p hi0 hip hpp ha hp
  · intro c a p hq0 hc0 hcq ha hp
    have hqq := Nat.lt_trans (parent_lt hq0) hq
    rw [List.getElem?_set_ne (Nat.ne_of_gt hqq)] at hp
    have h1 : le pp p = true := hinv.edge ((pos - 1) / 2) pp p hq0 (Nat.ne_of_lt hq) (Nat.ne_of_lt hqq) hq' hp
    by_cases hcp : c = pos
    · subst hcp
      rw [List.getElem?_set_self hposl] at ha
      cases ha
      exact h1
    · rw [List.getElem?_set_ne (Ne.symm hcp)] at ha
      exact tp.trans _ _ _ (hinv.edge c a pp hc0 hcp (hcq ▸ Nat.ne_of_lt hq) ha (hcq ▸ hq')) h1

/-- the hole moves to its parent in every round, so fuel above the position is never used up -/
theorem siftUp_heapInvQ (tp : TotalPre le) (x : α) : ∀ (fuel : Nat) (d : List α) (pos : Nat),
    pos < d.length → pos < fuel → HoleInv le d pos →
    (∀ c a, 0 < c → (c - 1) / 2 = pos → d[c]? = some a → le a x = true) →
    HeapInvQ le (Heap.siftUp le x fuel d 0 pos) := by
  intro fuel
  induction fuel with
  | zero => intro d pos _ h; omega
  | succ n ih =>
    intro d pos hpos hfuel hinv hch
    unfold Heap.siftUp
    split
    · rename_i hgt
      simp only []
      have hpar := parent_lt hgt
      obtain ⟨pp, hd⟩ : ∃ pp, d[(pos - 1) / 2]? = some pp := ⟨_, List.getElem?_eq_getElem (Nat.lt_trans hpar hpos)⟩
      rw [hd]
      · simp only []
        split
        · rename_i hle
          refine heapInvQ_fill hinv hpos hch ?_
          intro _ p hp
          rw [hd] at hp; cases hp; exact hle
        · rename_i hle
          have hpx : le pp x = true := (tp.total x pp).resolve_left hle
          refine ih (d.set pos pp) ((pos - 1) / 2) (by rw [List.length_set]; exact Nat.lt_trans hpar hpos)
            (Nat.lt_of_lt_of_le hpar (Nat.le_of_lt_succ hfuel)) (holeInv_up tp hinv hgt hpos hd) ?_
          intro c a hc0 hcq ha
          by_cases hcp : c = pos
          · subst hcp
            rw [List.getElem?_set_self hpos] at ha
            cases ha
            exact hpx
          · rw [List.getElem?_set_ne (Ne.symm hcp)] at ha
            exact tp.trans _ _ _ (hinv.edge c a pp hc0 hcp (hcq ▸ Nat.ne_of_lt hpar) ha (hcq ▸ hd)) hpx
    · rename_i hgt
      refine heapInvQ_fill hinv hpos hch ?_
      intro h0; omega

/-- one step of the descent: the child `c` (which is `≥` its sibling) goes into the hole, the hole
    moves to `c` -/
theorem holeInv_down {d : List α} {hole c : Nat} {v : α} (hinv : HoleInv le d hole)
    (hh : hole < d.length) (hc0 : 0 < c) (hch : (c - 1) / 2 = hole) (hv : d[c]? = some v)
    (hsib : ∀ s w, 0 < s → (s - 1) / 2 = hole → s ≠ c → d[s]? = some w → le w v = true) :
    HoleInv le (d.set hole v) c := by
  have hhc : hole < c := hch ▸ parent_lt hc0
  constructor
  · intro i a p hi0 hic hpc ha hp
    by_cases hih : i = hole
    · subst hih
      rw [List.getElem?_set_self hh] at ha
      cases ha
      rw [List.getElem?_set_ne (Nat.ne_of_gt (parent_lt hi0))] at hp
      exact hinv.skip c _ p hi0 hc0 hch hv hp
    · rw [List.getElem?_set_ne (Ne.symm hih)] at ha
      by_cases hph : (i - 1) / 2 = hole
      · rw [hph, List.getElem?_set_self hh] at hp
        cases hp
        exact hsib i a hi0 hph hic ha
      · rw [List.getElem?_set_ne (Ne.symm hph)] at hp
        exact hinv.edge i a p hi0 hih hph ha hp
  · intro k a p _ hk0 hkc ha hp
    have hck : c < k := hkc ▸ parent_lt hk0
    rw [List.getElem?_set_ne (Nat.ne_of_lt (Nat.lt_trans hhc hck))] at ha
    rw [hch, List.getElem?_set_self hh] at hp
    cases hp
    exact hinv.edge k a _ hk0 (Nat.ne_of_gt (Nat.lt_trans hhc hck)) (hkc ▸ Nat.ne_of_gt hhc) ha (hkc ▸ hv)

/-- the descent keeps the hole invariant and ends at a leaf; a round moves the hole from `h` to
    `2 h + 1` or `2 h + 2`, so `fuel + 2 * hole + 1` never drops and reaching the length means a leaf -/
theorem siftDownLoop_holeInv (tp : TotalPre le) : ∀ (fuel : Nat) (d : List α) (endd hole : Nat),
    endd = d.length → hole < d.length → d.length ≤ fuel + 2 * hole + 1 → HoleInv le d hole →
    (Heap.siftDownLoop le fuel d endd hole).1.length = d.length ∧
    (Heap.siftDownLoop le fuel d endd hole).2 < d.length ∧
    d.length ≤ 2 * (Heap.siftDownLoop le fuel d endd hole).2 + 1 ∧
    HoleInv le (Heap.siftDownLoop le fuel d endd hole).1 (Heap.siftDownLoop le fuel d endd hole).2 := by
  intro fuel
  induction fuel with
  | zero =>
    intro d endd hole he hh hf hinv
    simp only [Heap.siftDownLoop]
    exact ⟨trivial, hh, by omega, hinv⟩
  | succ n ih =>
    intro d endd hole he hh hf hinv
    -- the child `c` with value `v` moves up if its sibling `s` is not greater
    have down : ∀ c s v, 0 < c → (c - 1) / 2 = hole → (∀ t, 0 < t → (t - 1) / 2 = hole → t ≠ c → t = s) →
        d[c]? = some v → (∀ w, d[s]? = some w → le w v = true) → HoleInv le (d.set hole v) c ∧ c < d.length :=
      fun c s v hc0 hcp hs hv hsib =>
        ⟨holeInv_down hinv hh hc0 hcp hv fun t w ht0 ht htc hw => hsib w (hs t ht0 ht htc ▸ hw),
          (List.getElem?_eq_some_iff.1 hv).1⟩
    have left := fun v => down (2 * hole + 1) (2 * hole + 1 + 1) v (Nat.succ_pos _) (parent_left hole)
      fun t h0 hp hne => (child_cases h0 hp).resolve_left hne
    have right := fun v => down (2 * hole + 1 + 1) (2 * hole + 1) v (Nat.succ_pos _) (parent_right hole)
      fun t h0 hp hne => (child_cases h0 hp).resolve_right hne
    generalize hr : Heap.siftDownLoop le (n + 1) d endd hole = r
    unfold Heap.siftDownLoop at hr
    simp only [] at hr
    split at hr
    · rename_i hc
      obtain ⟨a, ha⟩ : ∃ a, d[2 * hole + 1]? = some a := ⟨_, List.getElem?_eq_getElem (by omega)⟩
      obtain ⟨b, hb⟩ : ∃ b, d[2 * hole + 1 + 1]? = some b := ⟨_, List.getElem?_eq_getElem (by omega)⟩
      rw [ha, hb] at hr
      simp only [] at hr
      by_cases hle : le a b = true
      · rw [if_pos hle, if_pos hle] at hr
        have h := right b hb fun w hw => by rw [ha] at hw; cases hw; exact hle
        have := ih (d.set hole b) endd _ (by rw [he, List.length_set]) (by rw [List.length_set]; exact h.2)
          (by rw [List.length_set]; omega) h.1
        rwa [List.length_set, hr] at this
      · rw [if_neg hle, if_neg hle] at hr
        have h := left a ha fun w hw => by
          rw [hb] at hw; cases hw; exact (tp.total a b).resolve_left hle
        have := ih (d.set hole a) endd _ (by rw [he, List.length_set]) (by rw [List.length_set]; exact h.2)
          (by rw [List.length_set]; omega) h.1
        rwa [List.length_set, hr] at this
    · rename_i hc
      split at hr
      · rename_i hc1
        obtain ⟨a, ha⟩ : ∃ a, d[2 * hole + 1]? = some a := ⟨_, List.getElem?_eq_getElem (by omega)⟩
        rw [ha] at hr
        simp only [] at hr
        have h := left a ha fun w hw => by
          have := (List.getElem?_eq_some_iff.1 hw).1; omega
        rw [← hr]
        exact ⟨List.length_set .., h.2, by omega, h.1⟩
      · rw [← hr]
        exact ⟨rfl, hh, by omega, hinv⟩

theorem siftDownToBottom_heapInvQ (tp : TotalPre le) (x : α) (d : List α) (h : 0 < d.length)
    (hinv : HeapInvQ le d) : HeapInvQ le (Heap.siftDownToBottom le x d) := by
  unfold Heap.siftDownToBottom
  simp only []
  obtain ⟨h1, h2, h3, h4⟩ :=
    siftDownLoop_holeInv tp d.length d d.length 0 rfl h (by omega) (holeInv_of_heapInvQ hinv)
  exact siftUp_heapInvQ tp x _ _ _ (by omega) (by omega) h4 fun c a hc0 hcq ha => (no_child hc0 hcq ha (by omega)).elim

theorem heapInvQ_prefix {d : List α} {y : α} (h : HeapInvQ le (d ++ [y])) : HeapInvQ le d := by
  intro i a p hi0 ha hp
  have hi := (List.getElem?_eq_some_iff.1 ha).1
  have hpl := (List.getElem?_eq_some_iff.1 hp).1
  refine h i a p hi0 ?_ ?_
  · rw [List.getElem?_append_left hi]; exact ha
  · rw [List.getElem?_append_left hpl]; exact hp

theorem heapInv_push (tp : TotalPre le) {h : Heap α} (x : α) (hinv : HeapInv le h.data) :
    HeapInv le (Heap.push le h x).data := by
  rw [heapInv_iff] at hinv ⊢
  unfold Heap.push
  simp only []
  have hlen : (h.data ++ [x]).length ≤ 2 * h.data.length + 1 := by
    rw [List.length_append, List.length_singleton]; omega
  refine siftUp_heapInvQ tp x _ _ _ (by simp) (Nat.lt_succ_self _) ⟨?_, ?_⟩ ?_
  · intro i a p hi0 hil _ ha hp
    have hi := (List.getElem?_eq_some_iff.1 ha).1
    rw [List.length_append, List.length_singleton] at hi
    have hi' : i < h.data.length := Nat.lt_of_le_of_ne (Nat.le_of_lt_succ hi) hil
    rw [List.getElem?_append_left hi'] at ha
    rw [List.getElem?_append_left (Nat.lt_trans (parent_lt hi0) hi')] at hp
    exact hinv i a p hi0 ha hp
  · exact fun c a p _ hc0 hcq ha _ => (no_child hc0 hcq ha hlen).elim
  · exact fun c a hc0 hcq ha => (no_child hc0 hcq ha hlen).elim

theorem heapInv_pop (tp : TotalPre le) {h h' : Heap α} {x : α} (hinv : HeapInv le h.data)
    (hp : Heap.pop le h = some (x, h')) : HeapInv le h'.data := by
  rw [heapInv_iff] at hinv ⊢
  unfold Heap.pop at hp
  cases hl : h.data.getLast? with
  | none => simp [hl] at hp
  | some last =>
    simp only [hl] at hp
    obtain ⟨ys, hys⟩ := List.getLast?_eq_some_iff.1 hl
    have hdl : h.data.dropLast = ys := by rw [hys]; simp
    rw [hdl] at hp
    rw [hys] at hinv
    cases ys with
    | nil =>
      simp only [] at hp
      cases hp
      intro i a p _ ha; simp at ha
    | cons root rest =>
      simp only [Option.some.injEq, Prod.mk.injEq] at hp
      obtain ⟨hx, hh⟩ := hp
      subst hx; subst hh
      exact siftDownToBottom_heapInvQ tp last (root :: rest) (by simp) (heapInvQ_prefix hinv)

/-- every element is ≤ its ancestors, in particular the root -/
theorem heapInvQ_le_root (tp : TotalPre le) {d : List α} (hinv : HeapInvQ le d) {r : α}
    (hr : d[0]? = some r) : ∀ (n i : Nat) (a : α), i ≤ n → d[i]? = some a → le a r = true := by
  intro n
  induction n with
  | zero =>
    intro i a hi ha
    have : i = 0 := by omega
    subst this
    rw [hr] at ha; cases ha
    exact tp.refl _
  | succ n ih =>
    intro i a hi ha
    by_cases hi0 : i = 0
    · subst hi0
      rw [hr] at ha; cases ha
      exact tp.refl _
    · have hi0 := Nat.pos_of_ne_zero hi0
      have hpl := Nat.lt_trans (parent_lt hi0) (List.getElem?_eq_some_iff.1 ha).1
      exact tp.trans _ _ _ (hinv i a _ hi0 ha (List.getElem?_eq_getElem hpl))
        (ih ((i - 1) / 2) _ (Nat.le_of_lt_succ (Nat.lt_of_lt_of_le (parent_lt hi0) hi)) (List.getElem?_eq_getElem hpl))

theorem heap_root_max (tp : TotalPre le) {d : List α} (hinv : HeapInv le d) :
    ∀ y ∈ d, ∀ r, d.head? = some r → le y r = true := by
  intro y hy r hr
  rw [heapInv_iff] at hinv
  obtain ⟨i, hi, rfl⟩ := List.getElem_of_mem hy
  have hr' : d[0]? = some r := by rw [← hr]; cases d <;> simp
  exact heapInvQ_le_root tp hinv hr' i i _ (Nat.le_refl _) (List.getElem?_eq_getElem hi)

theorem heap_pop_mem {h h' : Heap α} {x : α} (hp : Heap.pop le h = some (x, h')) :
    ∀ y ∈ h'.data, y ∈ h.data := by
  classical
  intro y hy
  have h1 := (heap_pop_countP (fun z => decide (z = y)) le hp).1
  have h2 : 0 < h'.data.countP (fun z => decide (z = y)) :=
    List.countP_pos_iff.2 ⟨y, hy, by simp⟩
  have h3 : 0 < h.data.countP (fun z => decide (z = y)) := by omega
  obtain ⟨z, hz, hzy⟩ := List.countP_pos_iff.1 h3
  have : z = y := by simpa using hzy
  exact this ▸ hz

theorem heap_pop_max (tp : TotalPre le) {h h' : Heap α} {x : α} (hinv : HeapInv le h.data)
    (hp : Heap.pop le h = some (x, h')) :
    (∀ y ∈ h.data, le y x = true) ∧ (∀ y ∈ h'.data, le y x = true) := by
  have hpeek := (heap_pop_countP (fun _ => true) le hp).2
  have hold : ∀ y ∈ h.data, le y x = true := fun y hy => heap_root_max tp hinv y hy x hpeek
  exact ⟨hold, fun y hy => hold y (heap_pop_mem hp y hy)⟩

end
end Mb.Sim
