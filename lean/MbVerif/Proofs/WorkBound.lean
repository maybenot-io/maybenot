/-
  Call-level counting on the ghost log: the work bound of C01 (transition invocations per event,
  per signal round and per call).
-/
import MbVerif.Proofs.LogCount
import MbVerif.Proofs.SignalRound
import MbVerif.Spec.C01

namespace Mb
variable {σ : Type} (ρ : Oracle σ)

theorem wsum_foldl {μ : LogEntry → Nat} {α : Type} (F : Fw σ → α → Fw σ) (b : α → Nat)
    (h : ∀ s j, wsum μ (F s j).log ≤ wsum μ s.log + b j) (l : List α) (s : Fw σ) :
    wsum μ (l.foldl F s).log ≤ wsum μ s.log + (l.map b).sum := by
  induction l generalizing s with
  | nil => simp
  | cons a l ih =>
    simp only [List.foldl_cons, List.map_cons, List.sum_cons]
    have := ih (F s a)
    have := h s a
    omega

def μSteps : LogEntry → Nat
  | .trans .. => 1
  | _ => 0

theorem μSteps_transOnly : TransOnly μSteps := by
  intro e he
  cases e with
  | trans m ev st => exact absurd rfl (he m ev st)
  | _ => rfl

/-- number of transition invocations recorded in the log -/
def stepsOf (s : Fw σ) : Nat := wsum μSteps s.log

/-- 3: the transition's own entry and at most one CounterZero delivery per counter of the machine
    (each sets a guard flag that is cleared only at the start of a call) -/
theorem steps_transition (mi : Nat) (ev : Event) (s : Fw σ) :
    stepsOf (transition ρ FUEL mi ev s).1 ≤ stepsOf s + 3 := by
  have := (count_main ρ μSteps_transOnly 1 FUEL).1 mi ev 1 s (fun _ => Nat.le_refl _) (fun _ => Nat.le_refl _)
  have hu := unset_le_two s mi
  unfold stepsOf; omega

theorem steps_decrement (mi : Nat) (s : Fw σ) : stepsOf (decrementLimit ρ mi s) ≤ stepsOf s + 3 := by
  rcases decrementLimit_split ρ (Q := fun s t : Fw σ => stepsOf t = stepsOf s) mi
    (fun h₁ h₂ => h₂.trans h₁) (fun s => (quiet_withFault s _).w)
    (fun s l => ((quiet_modRt s mi _).trans
      (quiet_push μSteps_transOnly _ _ (fun _ _ _ h => by cases h))).w)
    (fun s _ => rfl) s with h | ⟨s1, h, e⟩
  · omega
  · have := steps_transition ρ mi .limitReached s1
    rw [e]; omega

theorem steps_transDec (mi : Nat) (ev : Event) (s : Fw σ) (c : Fw σ × Bool → Bool) :
    stepsOf (if c (transition ρ FUEL mi ev s) = true then decrementLimit ρ mi (transition ρ FUEL mi ev s).1
             else (transition ρ FUEL mi ev s).1) ≤ stepsOf s + 3 + (if c (transition ρ FUEL mi ev s) = true then 3 else 0) := by
  have h := steps_transition ρ mi ev s
  split
  · have := steps_decrement ρ mi (transition ρ FUEL mi ev s).1; omega
  · omega

theorem sum_map_const (l : List Nat) (k : Nat) : (l.map (fun _ => k)).sum = l.length * k := by
  induction l with
  | nil => simp
  | cons a l ih => simp [ih, Nat.add_mul, Nat.add_comm]

theorem sum_range_indicator (n m : Nat) :
    ((List.range n).map (fun j => 3 + (if j = m then 3 else 0))).sum ≤ 3 * n + 3 := by
  induction n with
  | zero => simp
  | succ n ih =>
    rw [List.range_succ, List.map_append, List.sum_append]
    simp only [List.map_cons, List.map_nil, List.sum_cons, List.sum_nil]
    by_cases h : n = m
    · subst h
      -- all earlier indices differ from n
      have : ((List.range n).map (fun j => 3 + (if j = n then 3 else 0))).sum = 3 * n := by
        have heq : (List.range n).map (fun j => 3 + (if j = n then 3 else 0)) = (List.range n).map (fun _ => 3) := by
          apply List.map_congr_left
          intro j hj
          have : j ≠ n := by have := List.mem_range.mp hj; omega
          simp [this]
        rw [heq, sum_map_const]; simp [Nat.mul_comm]
      simp only [if_true]; omega
    · simp only [h, if_false]; omega

theorem steps_evStep (e : TEvent) (b : Nat) (a : Fw σ) (j : Nat) :
    stepsOf (evStep ρ e b a j) ≤ stepsOf a + 3 +
      (if evDec e j (transition ρ FUEL j e.kind (evAcct e b j a)) = true then 3 else 0) := by
  have h := steps_transDec ρ j e.kind (evAcct e b j a) (evDec e j)
  have hq : stepsOf (evAcct e b j a) = stepsOf a := congrArg (wsum μSteps) (evAcct_frame e b j a).1
  rw [hq] at h
  exact h

/-- delivery to all machines, when only machine `m` can get its limit decremented -/
theorem steps_evRange (e : TEvent) (b m : Nat) (hm : ∀ j (p : Fw σ × Bool), evDec e j p = true → j = m)
    (a : Fw σ) (n : Nat) : stepsOf ((List.range n).foldl (evStep ρ e b) a) ≤ stepsOf a + (3 * n + 3) := by
  have h := wsum_foldl (μ := μSteps) (evStep ρ e b) (fun j => 3 + if j = m then 3 else 0)
    (fun a j => by
      refine Nat.le_trans (steps_evStep ρ e b a j) ?_
      show wsum μSteps a.log + 3 + _ ≤ _
      split
      · next hd => rw [if_pos (hm j _ hd)]
      · omega) (List.range n) a
  have := sum_range_indicator n m
  unfold stepsOf
  omega

theorem steps_processEvent (e : TEvent) (s : Fw σ) :
    stepsOf (processEvent ρ e s) ≤ stepsOf s + (3 * s.rt.length + 3) := by
  have hg : stepsOf (evGlobal e s) = stepsOf s := congrArg (wsum μSteps) (evGlobal_frame e s).1
  rw [processEvent_eq, (evGlobal_frame e s).2.2.2.1, ← hg]
  cases e with
  | paddingSent m | timerBegin m | timerEnd m =>
    rw [TEvent.targets, foldl_ite_singleton]
    split
    · omega
    · refine Nat.le_trans (steps_evStep ρ _ _ _ _) ?_
      split <;> omega
  | blockingBegin m =>
    exact steps_evRange ρ _ _ m (fun j p h => by
      simp only [evDec, Bool.and_eq_true, beq_iff_eq] at h; exact h.2) _ _
  | _ => exact steps_evRange ρ _ _ 0 (fun j p h => by simp [evDec] at h) _ _

theorem steps_signalRound (s : Fw σ) : stepsOf (signalRound ρ s) ≤ stepsOf s + (3 * s.rt.length + 3) := by
  unfold stepsOf
  rcases signalRound_cases ρ s with h | ⟨ex, _, h⟩
  · rw [h]; omega
  have hf := wsum_foldl (μ := μSteps) (fun s j => (transition ρ FUEL j .signal s).1) (fun _ => 3)
    (fun s j => steps_transition ρ j .signal s)
    ((List.range s.rt.length).filter (fun j => !(ex == some j))) { s with signalPending := none }
  have hlen := List.length_filter_le (fun j => !(ex == some j)) (List.range s.rt.length)
  rw [sum_map_const, show ({ s with signalPending := none } : Fw σ).log = s.log from rfl] at hf
  rw [List.length_range] at hlen
  have key := h _ rfl
  generalize List.foldl _ _ _ = s2 at hf key
  rcases key with h | ⟨_, h⟩ | ⟨x, _, h⟩ <;> rw [h]
  · omega
  · show wsum μSteps s2.log ≤ _; omega
  · have : wsum μSteps _ ≤ wsum μSteps s2.log + 3 :=
      steps_transition ρ x .signal { s2 with signalPending := none }
    omega

/-- The work of one call: at most 3·(machines + 1)·(events + 1) transition invocations. -/
theorem steps_triggerEvents (es : List TEvent) (t : Int) (s : Fw σ) :
    stepsOf (triggerEvents ρ es t s) ≤ stepsOf s + 3 * (s.rt.length + 1) * (es.length + 1) := by
  unfold triggerEvents
  have hfold : ∀ (es : List TEvent) (s' : Fw σ),
      stepsOf (es.foldl (fun s e => processEvent ρ e s) s') ≤ stepsOf s' + (3 * s'.rt.length + 3) * es.length ∧
      (es.foldl (fun s e => processEvent ρ e s) s').rt.length = s'.rt.length := by
    intro es
    induction es with
    | nil => intro s'; exact ⟨by simp, rfl⟩
    | cons e es ih =>
      intro s'
      simp only [List.foldl_cons, List.length_cons]
      have h1 := steps_processEvent ρ e s'
      have hl : (processEvent ρ e s').rt.length = s'.rt.length := run_rtLen (processEvent_run ρ e s')
      obtain ⟨h2, h3⟩ := ih (processEvent ρ e s')
      rw [hl] at h2
      refine ⟨?_, h3.trans hl⟩
      have : (3 * s'.rt.length + 3) * (es.length + 1) = (3 * s'.rt.length + 3) * es.length + (3 * s'.rt.length + 3) := by
        rw [Nat.mul_add]; simp
      omega
  obtain ⟨h1, h2⟩ := hfold es (s.callStart t)
  have h3 := steps_signalRound ρ (es.foldl (fun s e => processEvent ρ e s) (s.callStart t))
  have hl0 : (s.callStart t).rt.length = s.rt.length := by simp [Fw.callStart]
  have e0 : stepsOf (s.callStart t) = stepsOf s := rfl
  rw [h2, hl0] at h3
  rw [hl0] at h1
  have : 3 * (s.rt.length + 1) * (es.length + 1) = (3 * s.rt.length + 3) * es.length + (3 * s.rt.length + 3) := by
    have : 3 * (s.rt.length + 1) = 3 * s.rt.length + 3 := by omega
    rw [this, Nat.mul_add]; simp
  omega

end Mb
