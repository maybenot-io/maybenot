/-
  C14, progress: a run without machines on a non-empty time-ordered parsed trace never faults,
  never stops early, and — when the caps and the loop fuel are not binding — stops because all
  normal packets were processed (`Stop.noNormal`).

  The argument: the state invariant `XInv` of `Proofs/SimExact.lean` (nothing was delayed so
  far), strengthened by "every queued event is strictly less than `Duration::MAX` after the
  clock", implies that one iteration of the main loop succeeds
  (`step_progress`): `pick_next` takes the queue branch and pops the head it peeked,
  `sim_network_stack` stays within the packets-per-second limit (so no checked duration
  arithmetic is reached), and `trigger_update` on a framework without machines returns no action
  and no fault.  The weight `4·#NormalSent + 3·#TunnelSent + 2·#TunnelRecv + #NormalRecv` of the
  queued events drops by exactly one per iteration, and the loop's third stop test fires exactly
  when no NormalSent, TunnelSent or TunnelRecv is queued.
-/
import MbVerif.Proofs.SimIdentity

namespace Mb.Sim
open Mb Mb.SimSpec

section
variable {σ : Type} (ρ : Oracle σ)

/-- without machines and aggregate delays, with a non-empty queue whose events are all strictly
    less than `Duration::MAX` after the clock, `pick_next` decides for the queue and names the
    event `SimQueue::peek` selects -/
theorem pickDecide_progress {st : St σ} {delay lim : Nat} (hn : NoMach st) (hq : NetQuiet delay lim st.net)
    (hw : st.sq.WF) (hl : st.sq.len ≠ 0)
    (hr : st.sq.AllE fun e => st.now ≤ e.time ∧ e.time - st.now < durMax) :
    ∃ pk qid dur, st.sq.peek 0 0 st.now = .ok (some pk, qid, dur) ∧
      pickDecide st = .ok (.queue dur qid pk.client) := by
  obtain ⟨pk, qid, dur, hpk⟩ := SimQueue.peek_some st.sq 0 0 st.now hl
  refine ⟨pk, qid, dur, hpk, ?_⟩
  have hr' : st.sq.AllE fun e => st.now ≤ e.time ∧ e.time - st.now ≤ durMax :=
    SimQueue.allE_mono hr (fun e he => ⟨he.1, by omega⟩)
  obtain ⟨m1, m2, _⟩ := SimQueue.peek_min hw hr' hpk
  have hlt : dur < durMax := by
    have := (hr pk.client qid pk (Heap.peek_mem m1)).2
    omega
  obtain ⟨hs, hi, hb⟩ := hn.offsets
  have hbd : st.bound = durMax := by unfold St.bound; rw [hs, hi, hb, hq.aggOff]; simp
  refine pickDecide_ok_iff.2 ⟨(dur, qid, pk.client), ?_, ?_⟩
  · rw [hbd]
    exact peekQueue_ok_iff.2 (.head pk qid dur (by rw [hq.ca, hq.sa]; exact hpk) (by omega) (hn.passes pk) rfl)
  · rw [hs, hi, hb, hq.aggOff]
    exact Pick.choose_eq_queue hlt hlt (by omega) (by omega)

theorem pickNext_progress {st : St σ} {delay lim : Nat} (fuel : Nat) (hn : NoMach st) (hq : NetQuiet delay lim st.net)
    (hw : st.sq.WF) (hl : st.sq.len ≠ 0)
    (hr : st.sq.AllE fun e => st.now ≤ e.time ∧ e.time - st.now < durMax) :
    ∃ e st', pickNext (fuel + 1) st = some (.ok (some e, st')) := by
  obtain ⟨pk, qid, dur, hpk, hd⟩ := pickDecide_progress hn hq hw hl hr
  have hr' : st.sq.AllE fun e => st.now ≤ e.time ∧ e.time - st.now ≤ durMax :=
    SimQueue.allE_mono hr (fun e he => ⟨he.1, by omega⟩)
  obtain ⟨m1, _, _⟩ := SimQueue.peek_min hw hr' hpk
  obtain ⟨e', s', hpop⟩ := SimQueue.pop_someG 0 m1
  have hagg : st.net.agg pk.client = 0 := by
    unfold Bottleneck.agg; cases pk.client <;> simp [hq.ca, hq.sa]
  unfold pickNext
  simp only [hd]
  rw [pickQueue_ok_iff.2 ⟨e', s', hagg ▸ hpop, rfl, rfl⟩]
  exact ⟨_, _, rfl⟩

end

section
variable {σ : Type} (ρ : Oracle σ)

/-- a framework without machines that is fed a packet event does not fault -/
theorem triggerEvents_quiet_fault (e : TEvent) (t : Int) (s : Fw σ) (h : Quiet s)
    (he : e = .normalSent ∨ e = .tunnelSent ∨ e = .tunnelRecv ∨ e = .normalRecv) :
    (triggerEvents ρ [e] t s).fault = s.fault := by
  obtain ⟨hrt, hact, hsig⟩ := h
  have hq : Quiet (s.callStart t) := by
    simp [Quiet, Fw.callStart, hrt, hact, hsig]
  have hf : (s.callStart t).fault = s.fault := by simp [Fw.callStart]
  have h1 := processEvent_quiet ρ e _ hq
  have hpf : (processEvent ρ e (s.callStart t)).fault = (s.callStart t).fault := by
    rcases he with he | he | he | he <;> subst he <;> simp [processEvent, transitionAll, hq.1]
  unfold triggerEvents
  simp only [List.foldl_cons, List.foldl_nil]
  have hsr : signalRound ρ (processEvent ρ e (s.callStart t)) = processEvent ρ e (s.callStart t) := by
    unfold signalRound
    simp [h1.1.2.2]
  rw [hsr, hpf, hf]

theorem triggerUpdate_ok (st : St σ) (next : SimEvent) (hqc : Quiet st.client.fw) (hqs : Quiet st.server.fw)
    (hfc : st.client.fw.fault = none) (hfs : st.server.fw.fault = none) (hok : pktOK next = true) :
    ∃ acts st', triggerUpdate ρ st next = .ok (acts, st') := by
  have hq : Quiet (st.side next.client).fw := by
    unfold St.side; cases next.client <;> simp [hqc, hqs]
  have hf : (st.side next.client).fw.fault = none := by
    unfold St.side; cases next.client <;> simp [hfc, hfs]
  have hq' : Quiet ({ (st.side next.client).fw with rng := st.orc, log := [] } : Fw σ) := hq
  have ht : (trigFw ρ st next).actionsOut = [] := (triggerEvents_quiet ρ [next.event] st.now _ hq').2.2
  have hfl : (trigFw ρ st next).fault = none :=
    (triggerEvents_quiet_fault ρ next.event st.now _ hq' (pktOK_event hok)).trans hf
  exact ⟨_, _, (triggerUpdate_ok_iff ρ).2 ⟨hfl, rfl, _, _, by rw [ht]; rfl, rfl⟩⟩

/-- the invariant of a run that makes progress: the exact-run invariant with the horizon `B`
    strictly less than `Duration::MAX` after the clock -/
structure PInv (delay lim : Nat) (L : Bool → List Int) (B : Int) (st : St σ) : Prop where
  x : XInv delay lim L B st
  lt : B - st.now < durMax

theorem reach_ge (delay : Nat) (e : SimEvent) : e.time ≤ reach delay e := by
  unfold reach; split <;> omega

/-- One iteration of an exact run succeeds: with a non-empty queue the iteration returns an
    event (no fault, not "nothing to do"), and the invariant is kept. -/
theorem step_progress {delay lim : Nat} {L : Bool → List Int} {B : Int}
    (hstat : WinBound lim L)
    {st : St σ} (hp : PInv delay lim L B st) (hl : st.sq.len ≠ 0) :
    ∃ r st', step ρ st = .ok (some (r, st')) ∧ PInv delay lim L B st' := by
  have hx := hp.x
  have hr : st.sq.AllE fun e => st.now ≤ e.time ∧ e.time - st.now < durMax :=
    SimQueue.allE_mono hx.fut fun e he => ⟨he.1, by have := reach_ge delay e; have := hp.lt; omega⟩
  obtain ⟨next, st1, hpn⟩ := pickNext_progress (pickMeasure st) hx.nm hx.nq hx.wf hl hr
  obtain ⟨e1, e2, e3, e4, e5, qi, hpop, hmin⟩ := pickNext_exact _ _ _ _ hx.nm hx.nq hx.wf hx.range hpn
  have hpkt := (pickNext_nomach _ _ _ _ hx.nm hpn).2
  have hfn := ((SimQueue.pop_spec0 hx.ord hpop).2.1 _ hx.fut).2
  have hs := simNetworkStack_within (sq := st1.sq) (byp := (st1.side next.client).blockingBypassable)
    (net := st1.net) (now := next.time) hpkt rfl (by rw [e3, hx.nq.lm]; exact hx.window_le hstat hpop)
  obtain ⟨acts, st2, ht⟩ := triggerUpdate_ok ρ
    ({ ({ st1 with now := next.time } : St σ) with
        sq := pushAll st1.sq (succL st1.net.network.delay next),
        net := if next.event = .tunnelSent then winUpd st1.net next.client next.time else st1.net } : St σ) next
    (by simp only [e1]; exact hx.nm.qc) (by simp only [e2]; exact hx.nm.qs)
    (by simp only [e1]; exact hx.nm.fc) (by simp only [e2]; exact hx.nm.fs) hpkt
  have hstep : step ρ st = .ok (some (⟨next, SimSpec.isNetwork next, acts⟩, st2)) :=
    (step_some_iff ρ).2 ⟨st1, _, _, hpn, by rw [e4]; exact hfn.1, hs, ht⟩
  have hnow : st2.now = next.time := (step_spec ρ hstep).1
  exact ⟨_, _, hstep, (step_exact ρ hstat hx hstep).1, by have := hp.lt; omega⟩

end

def isTR (e : SimEvent) : Bool := e.event == .tunnelRecv
def isNR (e : SimEvent) : Bool := e.event == .normalRecv

/-- iterations the queued events still need if all of them are served: a NormalSent is followed
    by its TunnelSent, TunnelRecv and NormalRecv -/
def wgt (sq : SimQueue) : Nat := 4 * tcount isNS sq + 3 * tcount isTS sq + 2 * tcount isTR sq + tcount isNR sq

/-- queued events that are normal packets in the sense of the loop's third stop test -/
def act (sq : SimQueue) : Nat := tcount isNS sq + tcount isTS sq + tcount isTR sq

theorem two_le_wgt {sq : SimQueue} (h : 0 < act sq) : 2 ≤ wgt sq := by
  unfold act at h; unfold wgt; omega

theorem len_pos_of_act {sq : SimQueue} (h : 0 < act sq) : sq.len ≠ 0 := by
  have h1 := tcount_le_len isNS sq
  have h2 := tcount_le_len isTS sq
  have h3 := tcount_le_len isTR sq
  unfold act at h; omega

/-- the loop's third stop test on a queue of plain packets: "no normal packets" means exactly
    that no NormalSent, TunnelSent or TunnelRecv is queued -/
theorem noNormal_iff_act {sq : SimQueue} (hw : sq.WF) (hpk : tcount notPkt sq = 0) :
    sq.noNormalPackets = true ↔ act sq = 0 := by
  constructor
  · intro h
    have hno := noNormal_no_packets hw h
    have z1 : tcount isNS sq = 0 := tcount_zero_iff.2 (fun c qi e he => (hno c qi e he).1)
    have z2 : tcount isTS sq = 0 := tcount_zero_iff.2 (fun c qi e he => (hno c qi e he).2.1)
    have z3 : tcount isTR sq = 0 := tcount_zero_iff.2 (fun c qi e he => (hno c qi e he).2.2)
    unfold act; omega
  · intro h
    unfold act at h
    have z1 := tcount_zero_iff.1 (show tcount isNS sq = 0 by omega)
    have z2 := tcount_zero_iff.1 (show tcount isTS sq = 0 by omega)
    have z3 := tcount_zero_iff.1 (show tcount isTR sq = 0 by omega)
    have zp := tcount_zero_iff.1 hpk
    have key : ∀ (c : Bool), ((sq.side c).WF c) → (sq.side c).noNormalPackets = true := fun c hq =>
      (EventQueue.noNormal_iff hq).2 fun qi e he => ⟨z1 c qi e he, z2 c qi e he, z3 c qi e he,
        fun _ => pktOK_pad (by simpa [notPkt] using zp c qi e he)⟩
    unfold SimQueue.noNormalPackets
    rw [show sq.client.noNormalPackets = true from key true hw.client,
      show sq.server.noNormalPackets = true from key false hw.server]
    rfl

section
variable {σ : Type} (ρ : Oracle σ)

theorem step_wgt {delay lim : Nat} {L : Bool → List Int} {B : Int}
    (hstat : WinBound lim L)
    {st st' : St σ} {r : StepRec} (hx : XInv delay lim L B st) (h : step ρ st = .ok (some (r, st'))) :
    wgt st'.sq + 1 = wgt st.sq := by
  obtain ⟨_, hok, hc⟩ := step_exact ρ hstat hx h
  have c1 := hc isNS
  have c2 := hc isTS
  have c3 := hc isTR
  have c4 := hc isNR
  -- a packet's successor weighs one less than the packet
  have hw : 4 * b2n (isNS r.ev) + 3 * b2n (isTS r.ev) + 2 * b2n (isTR r.ev) + b2n (isNR r.ev) =
      4 * (succL delay r.ev).countP isNS + 3 * (succL delay r.ev).countP isTS +
        2 * (succL delay r.ev).countP isTR + (succL delay r.ev).countP isNR + 1 := by
    rcases pktOK_event hok with hev | hev | hev | hev <;> simp [succL, hev, isNS, isTS, isTR, isNR, b2n]
  unfold wgt
  omega

/-- Progress of the main loop.  From a state of an exact run in which a normal packet is
    still queued, with fuel and caps that leave room for the weight of the queue, the loop stops
    because all normal packets were processed; the number of iterations is the weight it
    consumed, and at least one event (the NormalRecv of the TunnelRecv served last) is
    still queued. -/
theorem loop_progress {delay lim : Nat} {L : Bool → List Int} {B : Int}
    (hstat : WinBound lim L)
    (a : Args) (hcont : a.continueAfterAllNormal = false) :
    ∀ (fuel : Nat) (st : St σ) (iters cnt : Nat), PInv delay lim L B st → 0 < act st.sq →
      wgt st.sq ≤ fuel + 1 →
      (a.maxSimIterations = 0 ∨ iters + wgt st.sq ≤ a.maxSimIterations) →
      (a.maxTraceLength = 0 ∨ cnt + wgt st.sq ≤ a.maxTraceLength) →
      (loop ρ a fuel st iters cnt).stop = .noNormal ∧
      ∃ stf, (loop ρ a fuel st iters cnt).final = some stf ∧ act stf.sq = 0 ∧ 0 < wgt stf.sq ∧
        (loop ρ a fuel st iters cnt).stream.length + wgt stf.sq = wgt st.sq := by
  -- with a normal packet queued the iteration succeeds, whatever `step` was found to return
  have hstep : ∀ {st : St σ} {x}, PInv delay lim L B st → 0 < act st.sq → step ρ st = x →
      ∃ r st', x = .ok (some (r, st')) ∧ PInv delay lim L B st' ∧ wgt st'.sq + 1 = wgt st.sq := by
    intro st x hp hact hx
    obtain ⟨r, st', hs, hp'⟩ := step_progress ρ hstat hp (len_pos_of_act hact)
    exact ⟨r, st', hx ▸ hs, hp', step_wgt ρ hstat hp.x hs⟩
  refine loop_induct ρ a (P := fun fuel st iters cnt o => PInv delay lim L B st → 0 < act st.sq →
    wgt st.sq ≤ fuel + 1 → (a.maxSimIterations = 0 ∨ iters + wgt st.sq ≤ a.maxSimIterations) →
    (a.maxTraceLength = 0 ∨ cnt + wgt st.sq ≤ a.maxTraceLength) →
    o.stop = .noNormal ∧ ∃ stf, o.final = some stf ∧ act stf.sq = 0 ∧ 0 < wgt stf.sq ∧
      o.stream.length + wgt stf.sq = wgt st.sq) ?_ ?_ ?_ ?_ ?_
  · intro st iters cnt _ hact hfuel _ _
    have := two_le_wgt hact; omega
  · intro n st iters cnt f hs hp hact _ _ _
    obtain ⟨_, _, h, _⟩ := hstep hp hact hs; cases h
  · intro n st iters cnt hs hp hact _ _ _
    obtain ⟨_, _, h, _⟩ := hstep hp hact hs; cases h
  · intro n st iters cnt r st' s hs hsc hp hact _ hit hlen
    obtain ⟨_, _, h, hp', hwg⟩ := hstep hp hact hs
    cases h
    have hw2 := two_le_wgt hact
    have hb : bump a r cnt ≤ cnt + 1 := by unfold bump; split <;> omega
    rcases stopCheck_eq_some hsc with ⟨_, h1, h2⟩ | ⟨_, h1, h2⟩ | ⟨rfl, _, hnn⟩
    · omega
    · omega
    · exact ⟨rfl, st', rfl, (noNormal_iff_act hp'.x.wf hp'.x.nm.pk).1 hnn, by omega, by
        simp only [List.length_cons, List.length_nil]; omega⟩
  · intro n st iters cnt r st' o hs hsc ih hp hact _ hit hlen
    obtain ⟨_, _, h, hp', hwg⟩ := hstep hp hact hs
    cases h
    have hb : bump a r cnt ≤ cnt + 1 := by unfold bump; split <;> omega
    have hact' : 0 < act st'.sq := by
      rcases Nat.eq_zero_or_pos (act st'.sq) with h0 | h0
      · exact absurd ⟨hcont, (noNormal_iff_act hp'.x.wf hp'.x.nm.pk).2 h0⟩ (stopCheck_eq_none.1 hsc).2.2
      · exact h0
    obtain ⟨i1, stf, i2, i3, i5, i4⟩ := ih hp' hact' (by omega) (by omega) (by omega)
    exact ⟨i1, stf, i2, i3, i5, by simp only [List.length_cons]; omega⟩

end

theorem parseTrace_counts (trace : List TraceLine) (delay : Nat) :
    tcount isNS (parseTrace trace delay) = trace.length ∧ tcount isTS (parseTrace trace delay) = 0 ∧
    tcount isTR (parseTrace trace delay) = 0 ∧ tcount isNR (parseTrace trace delay) = 0 ∧
    tcount (fun _ => true) (parseTrace trace delay) = trace.length := by
  -- all queued events are NormalSent, so a count is decided by the predicate's value on that kind
  have key : ∀ (P : SimEvent → Bool) (b : Bool), (∀ e, e.event = .normalSent → P e = b) →
      tcount P (parseTrace trace delay) = if b then trace.length else 0 := by
    intro P b hP
    have hev : ∀ e ∈ trace.map (nsOf delay), P e = b := fun e he => by
      obtain ⟨l, _, rfl⟩ := List.mem_map.1 he
      exact hP _ (by unfold nsOf; split <;> rfl)
    rw [parseTrace_tcount]
    cases b
    · exact List.countP_eq_zero.2 fun e he => by simp [hev e he]
    · rw [List.countP_eq_length.2 hev, List.length_map]; rfl
  exact ⟨key _ true fun e h => by simp [isNS, h], key _ false fun e h => by simp [isTS, h],
    key _ false fun e h => by simp [isTR, h], key _ false fun e h => by simp [isNR, h], key _ true fun _ _ => rfl⟩

theorem parseTrace_firstTime_some (trace : List TraceLine) (delay : Nat) (hne : trace ≠ []) :
    ∃ t0, (parseTrace trace delay).firstTime = some t0 := by
  cases hft : (parseTrace trace delay).firstTime with
  | some t0 => exact ⟨t0, rfl⟩
  | none =>
    exfalso
    have hemp := parseTrace_other_empty trace delay
    have hbase : ∀ c, (((parseTrace trace delay).side c).heap .base).data = [] := by
      unfold SimQueue.firstTime EventQueue.firstBaseTime at hft
      intro c
      cases hpc : (parseTrace trace delay).client.base.peek <;>
        cases hps : (parseTrace trace delay).server.base.peek <;> simp [hpc, hps] at hft
      cases c
      · exact List.eq_nil_of_length_eq_zero (heap_peek_none hps)
      · exact List.eq_nil_of_length_eq_zero (heap_peek_none hpc)
    have hz : tcount (fun _ => true) (parseTrace trace delay) = 0 := by
      apply tcount_zero_iff.2
      intro c qi e he
      by_cases hq : qi = .base
      · subst hq; rw [hbase c] at he; cases he
      · rw [hemp c qi hq] at he; cases he
    have := (parseTrace_counts trace delay).2.2.2.2
    have hl : 0 < trace.length := List.length_pos_iff.2 hne
    omega

theorem feedCounts_head (w : Nat) (x : Int) (r : List Int) : 1 ∈ feedCounts ⟨w, []⟩ (x :: r) := by
  have : ((⟨w, []⟩ : WindowCount).add x).1 = 1 := by
    unfold WindowCount.add
    simp [WindowCount.prune, dsince, durSince]
  simp [feedCounts, this]

section
variable {σ : Type} (ρ : Oracle σ)

theorem Side.new_nomach (t0 : Int) (fp fb : F64) (orc : σ) (h1 : Validate.fracOK fp = true) (h2 : Validate.fracOK fb = true) :
    ∃ sd o, Side.new ρ [] t0 fp fb orc = .ok (sd, o) := by
  unfold Side.new
  have hv : Validate.frameworkNew [] fp fb = true := by simp [Validate.frameworkNew, h1, h2]
  have hf : (Fw.init ρ [] fp fb t0 orc).fault = none := by simp [Fw.init, Fw.init0]
  simp only [hv, Bool.not_true, Bool.false_eq_true, if_false, hf]
  exact ⟨_, _, rfl⟩

/-- the initial state of a run without machines on a non-empty parsed trace exists and satisfies
    the progress invariant with the horizon one nanosecond short of `Duration::MAX` -/
theorem initState_pinv {trace : List TraceLine} {delay lim : Nat} {a : Args} {orc : σ} (hne : trace ≠ [])
    (hnet : a.network = ⟨delay, none⟩) (hlim : (parseTrace trace delay).maxPps = some lim) (hpos : 0 < lim)
    (hB : ∀ l ∈ trace, ((l.1 : Nat) : Int) + 2 * (delay : Int) < durMax)
    (hfrac : Validate.fracOK a.fpClient = true ∧ Validate.fracOK a.fbClient = true ∧
      Validate.fracOK a.fpServer = true ∧ Validate.fracOK a.fbServer = true) :
    ∃ st, initState ρ [] [] (parseTrace trace delay) a orc = .ok st ∧
      PInv delay lim (Lof trace delay) (st.now + durMax - 1) st ∧ st.sq = parseTrace trace delay := by
  obtain ⟨t0, hft⟩ := parseTrace_firstTime_some trace delay hne
  obtain ⟨c, o1, hc⟩ := Side.new_nomach ρ t0 a.fpClient a.fbClient orc hfrac.1 hfrac.2.1
  obtain ⟨s, o2, hsv⟩ := Side.new_nomach ρ t0 a.fpServer a.fbServer o1 hfrac.2.2.1 hfrac.2.2.2
  have hnew : ∃ net, Bottleneck.new a.network Gen.SIM_BOTTLENECK_WINDOW_NS (parseTrace trace delay).maxPps = .ok net := by
    unfold Bottleneck.new
    simp only [hnet, hlim, Option.getD_none, Option.getD_some]
    have : ¬ min lim (2 ^ 32 - 1) = 0 := by
      have : (2 : Nat) ^ 32 - 1 ≠ 0 := by decide
      omega
    simp only [this, if_false]
    exact ⟨_, rfl⟩
  obtain ⟨net, hnew⟩ := hnew
  have hi : initState ρ [] [] (parseTrace trace delay) a orc =
      .ok { sq := parseTrace trace delay, client := c, server := s, net := net, now := t0, orc := o2 } := by
    unfold initState firstTimeE
    simp only [hft, bind, Except.bind, hc, hsv, hnew, pure, Except.pure]
  refine ⟨_, hi, ?_, rfl⟩
  obtain ⟨hx, -, -⟩ := initState_xinv ρ hnet hlim (H := durMax - 1) (Nat.sub_le _ _)
    (fun l hl => by have := hB l hl; omega) hi
  have h1 : (0 : Int) < durMax := by decide
  exact ⟨by rwa [show t0 + (durMax : Int) - 1 = t0 + ((durMax - 1 : Nat) : Int) by omega], by
    show t0 + (durMax : Int) - 1 - t0 < durMax; omega⟩

theorem finish_final_noNormal (args : Args) (o : LoopOut σ) (h : o.stop = .noNormal) : (finish args o).final = o.final := by
  unfold finish; rw [h]

/-- Progress, in terms of the window counts of the trace (see `C14_progress` in
    Props/C14.lean for the statement in terms of the trace alone). -/
theorem sim_progress (budget : Nat) (trace : List TraceLine) (delay lim : Nat) (a : Args) (orc : σ)
    (hne : trace ≠ []) (hnet : a.network = ⟨delay, none⟩) (hlim : (parseTrace trace delay).maxPps = some lim)
    (hs : Asc (sTimes trace)) (hr : Asc (rTimes trace))
    (hfs : ∀ c ∈ feedCounts ⟨Gen.SIM_BOTTLENECK_WINDOW_NS, []⟩ (sTimes trace), c ≤ lim)
    (hfr : ∀ c ∈ feedCounts ⟨Gen.SIM_BOTTLENECK_WINDOW_NS, []⟩ ((rTimes trace).map (· + (-(delay : Int)))), c ≤ lim)
    (hB : ∀ l ∈ trace, ((l.1 : Nat) : Int) + 2 * (delay : Int) < durMax)
    (hfrac : Validate.fracOK a.fpClient = true ∧ Validate.fracOK a.fbClient = true ∧
      Validate.fracOK a.fpServer = true ∧ Validate.fracOK a.fbServer = true)
    (hcont : a.continueAfterAllNormal = false)
    (hit : a.maxSimIterations = 0 ∨ 4 * trace.length ≤ a.maxSimIterations)
    (hlen : a.maxTraceLength = 0 ∨ 4 * trace.length ≤ a.maxTraceLength)
    (hbud : 4 * trace.length ≤ budget + 1) :
    (simAdvanced ρ budget [] [] (parseTrace trace delay) a orc).stop = .noNormal ∧
    ∃ stf, (simAdvanced ρ budget [] [] (parseTrace trace delay) a orc).final = some stf ∧
      stf.sq.noNormalPackets = true ∧
      (simAdvanced ρ budget [] [] (parseTrace trace delay) a orc).stream.length + tcount isNR stf.sq = 4 * trace.length ∧
      1 ≤ tcount isNR stf.sq ∧ tcount isNR stf.sq ≤ trace.length := by
  have hstat := Lof_static hs hr hfs hfr
  -- the trace-derived limit is positive
  have hpos : 0 < lim := by
    cases htr : trace with
    | nil => exact absurd htr hne
    | cons l ls =>
      cases hl : l.2
      · have : (rTimes trace).map (· + (-(delay : Int))) = ((l.1 : Int) + (-(delay : Int))) :: (rTimes ls).map (· + (-(delay : Int))) := by
          rw [htr]; simp [rTimes, hl]
        rw [this] at hfr
        exact hfr 1 (feedCounts_head _ _ _)
      · have : sTimes trace = (l.1 : Int) :: sTimes ls := by
          rw [htr]; simp [sTimes, hl]
        rw [this] at hfs
        exact hfs 1 (feedCounts_head _ _ _)
  obtain ⟨st, hi, hp, hsq⟩ := initState_pinv ρ (orc := orc) hne hnet hlim hpos hB hfrac
  obtain ⟨c1, c2, c3, c4, c5⟩ := parseTrace_counts trace delay
  have hw0 : wgt st.sq = 4 * trace.length := by unfold wgt; rw [hsq, c1, c2, c3, c4]; omega
  have ha0 : 0 < act st.sq := by
    unfold act; rw [hsq, c1, c2, c3]
    have := List.length_pos_iff.2 hne; omega
  have hfuel : wgt st.sq ≤ loopFuel a budget + 1 := by
    rw [hw0]; unfold loopFuel
    split
    · rcases hit with h | h <;> omega
    · omega
  obtain ⟨hstop, stf, hfin, hact, hwpos, hcnt⟩ := loop_progress ρ hstat a hcont (loopFuel a budget) st 0 0 hp ha0 hfuel
    (by rw [hw0]; rcases hit with h | h; exact Or.inl h; right; omega)
    (by rw [hw0]; rcases hlen with h | h; exact Or.inl h; right; omega)
  -- the events still queued at the end are at most as many as the lines
  obtain ⟨hxf, hT⟩ := loop_exact ρ hstat a (fun _ => true) isNR
    (by
      intro e hok
      rcases pktOK_event hok with hev | hev | hev | hev <;> simp [succL, hev, isNR, b2n])
    (loopFuel a budget) st 0 0 hp.x stf hfin
  have hnr : tcount isNR stf.sq ≤ trace.length := by
    have h1 := tcount_mono (P := isNR) (Q := fun _ => true) (fun _ _ => rfl) stf.sq
    rw [hsq, c5] at hT
    omega
  have hwf : wgt stf.sq = tcount isNR stf.sq := by
    unfold act at hact; unfold wgt; omega
  rw [simAdvanced_of_init ρ hi, finish_stop, finish_stream, finish_final_noNormal a _ hstop]
  refine ⟨hstop, stf, hfin, (noNormal_iff_act hxf.wf hxf.nm.pk).2 hact, ?_, by omega, hnr⟩
  rw [← hwf, hcnt, hw0]

end

end Mb.Sim
