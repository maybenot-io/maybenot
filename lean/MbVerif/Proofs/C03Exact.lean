/-
  C03: accuracy of the blocked share the code computes in doubles
  (`Duration::as_secs_f64` twice, one division) against the exact rational share.

  Range assumption throughout: durations `< 2^53 · 10^9` ns (≈ 285 million years), so that the
  whole seconds are exactly representable; the elapsed time `b` is positive.

  `secsF64 ns` is a real number within relative error `ε₁ = 2^-52` of `ns/10^9` (two roundings: the
  fraction, then the sum with the exact whole seconds); `divDur a b` is within `ε = 2^-50` of `a/b`
  (one more rounding, of a quotient in the normal range).  Hence for a set limit `val64 f = .fin q`,
  `q > 0`, the double test `belowShare a b f` compares `q` with a number in `(a/b)·(1 ± 2^-50)`
  (`belowShare_spec`); for `q ≤ 0` or NaN the test is `true` by definition, for `+inf` too since the
  computed share is finite.
-/
import MbVerif.Proofs.Fp
import MbVerif.Spec.C03
import Mathlib.Tactic.NormNum
import Mathlib.Tactic.Linarith
import Mathlib.Tactic.Positivity
import Mathlib.Tactic.Ring
import Mathlib.Tactic.FieldSimp

namespace Mb
open Fp

theorem rel_comp {x y z e1 e2 : ℚ} (he2 : 0 ≤ e2)
    (h1 : |y - x| ≤ x * e1) (h2 : |z - y| ≤ y * e2) :
    |z - x| ≤ x * (e1 + e2 + e1 * e2) := by
  have hy : y ≤ x * (1 + e1) := by have := (abs_le.mp h1).2; linarith
  have h3 : y * e2 ≤ x * (1 + e1) * e2 := mul_le_mul_of_nonneg_right hy he2
  have h4 : |z - x| ≤ |z - y| + |y - x| := by
    have := abs_add_le (z - y) (y - x); simpa using this
  calc |z - x| ≤ |z - y| + |y - x| := h4
    _ ≤ x * (1 + e1) * e2 + x * e1 := by linarith
    _ = x * (e1 + e2 + e1 * e2) := by ring

theorem div_rel {c B sa sb e η : ℚ} (hc : 0 ≤ c) (hB : 0 < B) (he1 : e < 1) (hη0 : 0 ≤ η)
    (hη : η ≤ 1) (hsa : |sa - c * B| ≤ c * B * e) (hsb : |sb - B| ≤ B * e)
    (h1 : 1 + e ≤ (1 + η) * (1 - e)) (h2 : (1 - η) * (1 + e) ≤ 1 - e) :
    |sa / sb - c| ≤ c * η := by
  have hsa' := abs_le.mp hsa
  have hsb' := abs_le.mp hsb
  have hsblo : B * (1 - e) ≤ sb := by linarith
  have hsbhi : sb ≤ B * (1 + e) := by linarith
  have hsb0 : 0 < sb := lt_of_lt_of_le (mul_pos hB (by linarith)) hsblo
  have hcB : 0 ≤ c * B := mul_nonneg hc hB.le
  rw [abs_le]
  constructor
  · -- c (1 - η) ≤ sa / sb
    have : c * (1 - η) ≤ sa / sb := by
      rw [le_div_iff₀ hsb0]
      calc c * (1 - η) * sb ≤ c * (1 - η) * (B * (1 + e)) :=
            mul_le_mul_of_nonneg_left hsbhi (mul_nonneg hc (by linarith))
        _ = c * B * ((1 - η) * (1 + e)) := by ring
        _ ≤ c * B * (1 - e) := mul_le_mul_of_nonneg_left h2 hcB
        _ ≤ sa := by linarith
    linarith
  · have : sa / sb ≤ c * (1 + η) := by
      rw [div_le_iff₀ hsb0]
      calc sa ≤ c * B * (1 + e) := by linarith
        _ ≤ c * B * ((1 + η) * (1 - e)) := mul_le_mul_of_nonneg_left h1 hcB
        _ = c * (1 + η) * (B * (1 - e)) := by ring
        _ ≤ c * (1 + η) * sb := mul_le_mul_of_nonneg_left hsblo (mul_nonneg hc (by linarith))
    linarith

theorem rep_inv30 : Rep 53 (-1074) (1 / 2 ^ 30) := by
  rw [← pow2_neg_eq 30]; exact rep_pow2 (by norm_num)

/-- the rounded fractional part `fl(r / 10^9)` for `r < 10^9` -/
theorem frac_round {r : Nat} (hr : r < 1000000000) :
    ∃ t : ℚ, f64.round ((r : ℚ) / 1000000000) = .fin t ∧ Rep 53 (-1074) t ∧
      |t - (r : ℚ) / 1000000000| ≤ (r : ℚ) / 1000000000 * (1 / 2 ^ 53) ∧
      (0 < r → 1 / 2 ^ 30 ≤ t) ∧ 0 ≤ t ∧ t ≤ 1 := by
  set ρ : ℚ := (r : ℚ) / 1000000000 with hρ
  have hρ0 : 0 ≤ ρ := by positivity
  have hhi : ρ ≤ 1 := (div_le_one (by norm_num)).mpr (by exact_mod_cast hr.le)
  have hlo : 0 < r → 1 / 2 ^ 30 ≤ ρ := fun hr0 =>
    calc (1 : ℚ) / 2 ^ 30 ≤ 1 / 1000000000 := by norm_num
      _ ≤ ρ := div_le_div_of_nonneg_right (by exact_mod_cast hr0) (by norm_num)
  refine ⟨rne 53 (-1074) ρ, Fmt.round_fin_of_le f64 (by decide) hρ0 rep_one hhi one_lt_pow2_1024,
    rne_rep 53 (by decide) _ _, ?_, fun hr0 => le_rne_of_rep_le 53 (by decide) _ rep_inv30 (hlo hr0),
    rne_nonneg 53 _ hρ0, rne_le_of_le_rep 53 (by decide) _ rep_one hhi⟩
  rcases Nat.eq_zero_or_pos r with h0 | h0
  · simp [hρ, h0, rne_zero]
  · exact rne_rel_err (k := 30) (by decide) (hlo h0)

/-- below `2^53` s the whole seconds are exact: one rounding for the fraction, one for the sum -/
theorem secsF64_eq (ns : Nat) (hS : ns / 1000000000 < 2 ^ 53) :
    secsF64 ns = add f64 (.fin ((ns / 1000000000 : Nat) : ℚ))
      (f64.round (((ns % 1000000000 : Nat) : ℚ) / 1000000000)) := by
  have hr : ns % 1000000000 < 2 ^ 53 := lt_trans (Nat.mod_lt _ (by norm_num)) (by norm_num)
  unfold secsF64
  rw [ofNat_exact _ hS, ofNat_exact _ hr, div_fin_fin f64 _ (by norm_num)]

/-- the fraction `ρ ≤ 1` rounded to `t`, then `S + t` rounded to `s`, with `S ≥ 1`: the two
    relative errors `2^-53` add up to at most `2^-52` of `S + ρ` -/
theorem secs_two_roundings {S ρ t s : ℚ} (hS : 1 ≤ S) (hρ0 : 0 ≤ ρ) (hρ1 : ρ ≤ 1)
    (ht : |t - ρ| ≤ ρ * (1 / 2 ^ 53)) (hs : |s - (S + t)| ≤ (S + t) * (1 / 2 ^ 53)) :
    |s - (S + ρ)| ≤ (S + ρ) * (1 / 2 ^ 52) := by
  rw [abs_le] at ht hs ⊢
  constructor <;> linarith

/-- `Duration::as_secs_f64` with range information: the result is a finite double within relative
    error `2^-52` of the exact number of seconds, it is `≥ 2^-30` for a non-zero duration, and
    `≤ 2^53`. -/
theorem secsF64_bounds (ns : Nat) (h : ns < 2 ^ 53 * 10 ^ 9) :
    ∃ s : ℚ, secsF64 ns = .fin s ∧
      |s - (ns : ℚ) / 10 ^ 9| ≤ (ns : ℚ) / 10 ^ 9 * (1 / 2 ^ 52) ∧
      (0 < ns → 1 / 2 ^ 30 ≤ s) ∧ s ≤ 2 ^ 53 := by
  have hS : ns / 1000000000 < 2 ^ 53 := Nat.div_lt_of_lt_mul (by omega)
  have hrlt : ns % 1000000000 < 1000000000 := Nat.mod_lt ns (by norm_num)
  have hpos : 0 < ns → ns / 1000000000 = 0 → 0 < ns % 1000000000 := by omega
  obtain ⟨t, ht, htrep, hterr, htlo, ht0, ht1⟩ := frac_round hrlt
  have hx : (ns : ℚ) / 10 ^ 9 =
      (ns / 1000000000 : Nat) + ((ns % 1000000000 : Nat) : ℚ) / 1000000000 := by
    conv_lhs => rw [← Nat.div_add_mod ns 1000000000]
    push_cast; ring
  have hρ0 : (0 : ℚ) ≤ ((ns % 1000000000 : Nat) : ℚ) / 1000000000 := by positivity
  have hρ1 : ((ns % 1000000000 : Nat) : ℚ) / 1000000000 ≤ 1 :=
    (div_le_one (by norm_num)).mpr (by exact_mod_cast hrlt.le)
  rw [secsF64_eq ns hS, ht, hx]
  simp only [add]
  generalize ns / 1000000000 = S at *
  generalize ((ns % 1000000000 : Nat) : ℚ) / 1000000000 = ρ at *
  rcases Nat.eq_zero_or_pos S with hS0 | hS0
  · subst hS0
    rw [Nat.cast_zero, zero_add, zero_add]
    refine ⟨t, Fmt.round_eq_self_of_rep f64 htrep (lt_of_le_of_lt ht1 one_lt_pow2_1024)
      (lt_of_lt_of_le (neg_lt_zero.mpr (pow2_pos _)) ht0), ?_, fun hn => htlo (hpos hn rfl),
      le_trans ht1 (by norm_num)⟩
    exact le_trans hterr (mul_le_mul_of_nonneg_left (by norm_num) hρ0)
  · have hS1 : (1 : ℚ) ≤ S := by exact_mod_cast hS0
    have hS53 : (S : ℚ) + 1 ≤ 2 ^ 53 := by exact_mod_cast hS
    have hqlo : (1 : ℚ) / 2 ^ 30 ≤ S + t := by linarith [show (1 : ℚ) / 2 ^ 30 ≤ 1 by norm_num]
    have hqhi : (S : ℚ) + t ≤ 2 ^ 53 := by linarith
    exact ⟨rne 53 (-1074) (S + t),
      Fmt.round_fin_of_le f64 (by decide) (by linarith) (rep_two_pow 53) hqhi (two_pow_lt (by decide)),
      secs_two_roundings hS1 hρ0 hρ1 hterr (rne_rel_err (k := 30) (by decide) hqlo),
      fun _ => le_rne_of_rep_le 53 (by decide) _ rep_inv30 hqlo,
      rne_le_of_le_rep 53 (by decide) _ (rep_two_pow 53) hqhi⟩

/-- Accuracy of `Duration::as_secs_f64`.  For a duration of `ns < 2^53 · 10^9` nanoseconds
    (about 285 million years; the whole seconds are then exactly representable) the double the
    code computes is finite and within relative error `ε₁ = 2^-52` of the exact number of seconds
    `ns / 10^9`.  (For `ns = 0` the bound forces `s = 0`, see `secsF64_zero`.) -/
theorem secsF64_accuracy (ns : Nat) (h : ns < 2 ^ 53 * 10 ^ 9) :
    ∃ s : ℚ, secsF64 ns = .fin s ∧
      |s - (ns : ℚ) / 10 ^ 9| ≤ (ns : ℚ) / 10 ^ 9 * (1 / 2 ^ 52) := by
  obtain ⟨s, h1, h2, _⟩ := secsF64_bounds ns h
  exact ⟨s, h1, h2⟩

theorem secsF64_zero : secsF64 0 = .fin 0 := by
  obtain ⟨s, h1, h2⟩ := secsF64_accuracy 0 (by norm_num)
  have : s = 0 := by simpa using h2
  rw [h1, this]

/-- Accuracy of the double share.  For durations `a, b < 2^53 · 10^9` ns with `b > 0` the
    quotient `div_duration_f64(a, b)` computed in doubles (two `as_secs_f64`, one division) is a
    finite double (no overflow, no NaN) within relative error `ε = 2^-50` of the exact rational
    quotient `a / b`.  (For `a = 0` the bound forces `d = 0`, see `divDur_zero`.) -/
theorem divDur_accuracy (a b : Nat) (ha : a < 2 ^ 53 * 10 ^ 9) (hb : b < 2 ^ 53 * 10 ^ 9)
    (hb0 : 0 < b) :
    ∃ d : ℚ, divDur a b = .fin d ∧ |d - (a : ℚ) / b| ≤ (a : ℚ) / b * (1 / 2 ^ 50) := by
  obtain ⟨sa, hsa, hsaerr, hsalo, hsahi⟩ := secsF64_bounds a ha
  obtain ⟨sb, hsb, hsberr, hsblo, hsbhi⟩ := secsF64_bounds b hb
  have hsblo := hsblo hb0
  have hsbpos : 0 < sb := lt_of_lt_of_le (by positivity) hsblo
  unfold divDur
  rw [hsa, hsb]
  rw [div_fin_fin f64 sa hsbpos.ne']
  by_cases ha0 : a = 0
  · subst ha0
    have : sa = 0 := by simpa using hsaerr
    exact ⟨0, by rw [this, zero_div, round_zero], by simp⟩
  · have hsalo := hsalo (Nat.pos_of_ne_zero ha0)
    have hbq : (0 : ℚ) < b := by exact_mod_cast hb0
    -- the quotient of the two doubles is in the normal range: both lie in `[2^-30, 2^53]`
    have hqlo : (1 : ℚ) / 2 ^ 83 ≤ sa / sb := by
      rw [le_div_iff₀ hsbpos]; linarith
    have hqhi : sa / sb ≤ 2 ^ 83 := by
      rw [div_le_iff₀ hsbpos]; linarith
    have hq0 : 0 ≤ sa / sb := le_trans (by positivity) hqlo
    refine ⟨rne 53 (-1074) (sa / sb),
      Fmt.round_fin_of_le f64 (by decide) hq0 (rep_two_pow 83) hqhi (two_pow_lt (by decide)), ?_⟩
    -- error of the exact quotient of the two doubles: numerator and denominator are within `e = 2^-52`,
    -- and `η = 2^-51 + 2^-100` is a bound of `(1 + e)/(1 − e) − 1` that is a short dyadic number
    have hc : (0 : ℚ) ≤ (a : ℚ) / b := by positivity
    have hB : (0 : ℚ) < (b : ℚ) / 10 ^ 9 := by positivity
    have hcB : (a : ℚ) / b * ((b : ℚ) / 10 ^ 9) = (a : ℚ) / 10 ^ 9 := by
      rw [div_mul_div_comm, mul_comm, mul_div_mul_left _ _ hbq.ne']
    rw [← hcB] at hsaerr
    have hquot : |sa / sb - (a : ℚ) / b| ≤ (a : ℚ) / b * (1 / 2 ^ 51 + 1 / 2 ^ 100) :=
      div_rel hc hB (by norm_num) (by norm_num) (by norm_num) hsaerr hsberr (by norm_num)
        (by norm_num)
    have htot := rel_comp (by norm_num) hquot (rne_rel_err (k := 83) (by decide) hqlo)
    refine le_trans htot (mul_le_mul_of_nonneg_left ?_ hc)
    norm_num

theorem divDur_zero (b : Nat) (hb : b < 2 ^ 53 * 10 ^ 9) (hb0 : 0 < b) : divDur 0 b = .fin 0 := by
  obtain ⟨d, h1, h2⟩ := divDur_accuracy 0 b (by norm_num) hb hb0
  have : d = 0 := by simpa using h2
  rw [h1, this]

theorem belowShare_iff (a b : Nat) (f : F64) {q d : ℚ} (hv : val64 f = .fin q) (hq : 0 < q)
    (hd : divDur a b = .fin d) : C03.belowShare a b f = true ↔ d < q := by
  unfold C03.belowShare
  rw [hv, hd]
  simp [gt, ge, lt, le, hq]

/-- the double test for a set limit `q > 0` compares `q` with a number within `2^-50` of the
    exact share -/
theorem belowShare_spec (a b : Nat) (f : F64) (q : ℚ) (ha : a < 2 ^ 53 * 10 ^ 9)
    (hb : b < 2 ^ 53 * 10 ^ 9) (hb0 : 0 < b) (hv : val64 f = .fin q) (hq : 0 < q) :
    ∃ d : ℚ, (a : ℚ) / b * (1 - 1 / 2 ^ 50) ≤ d ∧ d ≤ (a : ℚ) / b * (1 + 1 / 2 ^ 50) ∧
      (C03.belowShare a b f = true ↔ d < q) := by
  obtain ⟨d, hd, herr⟩ := divDur_accuracy a b ha hb hb0
  rw [abs_le] at herr
  exact ⟨d, by linarith, by linarith, belowShare_iff a b f hv hq hd⟩

/-- C03, exact share (soundness of "below").  Durations `a, b < 2^53 · 10^9` ns, `b > 0`, limit
    `f` a finite double `q > 0`.  Whenever the code's double test says "the blocked share is below
    the limit", the exact rational share `a / b` is below the limit up to the relative tolerance
    `ε = 2^-50`:  `(a / b) · (1 − 2^-50) < q`. -/
theorem C03_exact (a b : Nat) (f : F64) (q : ℚ) (ha : a < 2 ^ 53 * 10 ^ 9)
    (hb : b < 2 ^ 53 * 10 ^ 9) (hb0 : 0 < b) (hv : val64 f = .fin q) (hq : 0 < q)
    (h : C03.belowShare a b f = true) : (a : ℚ) / b * (1 - 1 / 2 ^ 50) < q := by
  obtain ⟨d, h1, _, h3⟩ := belowShare_spec a b f q ha hb hb0 hv hq
  exact lt_of_le_of_lt h1 (h3.mp h)

/-- the same with the tolerance on the limit: `a / b < q · (1 + 2^-49)` -/
theorem C03_exact' (a b : Nat) (f : F64) (q : ℚ) (ha : a < 2 ^ 53 * 10 ^ 9)
    (hb : b < 2 ^ 53 * 10 ^ 9) (hb0 : 0 < b) (hv : val64 f = .fin q) (hq : 0 < q)
    (h : C03.belowShare a b f = true) : (a : ℚ) / b < q * (1 + 1 / 2 ^ 49) := by
  have h1 := C03_exact a b f q ha hb hb0 hv hq h
  linarith

/-- C03, exact share (converse direction).  Whenever the code's double test says "not below
    the limit" (for a set limit `q > 0`), the exact rational share reaches the limit up to the
    same tolerance: `q ≤ (a / b) · (1 + 2^-50)`. -/
theorem C03_exact_conv (a b : Nat) (f : F64) (q : ℚ) (ha : a < 2 ^ 53 * 10 ^ 9)
    (hb : b < 2 ^ 53 * 10 ^ 9) (hb0 : 0 < b) (hv : val64 f = .fin q) (hq : 0 < q)
    (h : C03.belowShare a b f = false) : q ≤ (a : ℚ) / b * (1 + 1 / 2 ^ 50) := by
  obtain ⟨d, _, h2, h3⟩ := belowShare_spec a b f q ha hb hb0 hv hq
  exact le_trans (not_lt.mp (mt h3.mpr (by simp [h]))) h2

/-- outside the tolerance band `q · (1 ± 2^-50)`-ish the double test and the exact rational test
    `a / b < q` agree -/
theorem C03_exact_band (a b : Nat) (f : F64) (q : ℚ) (ha : a < 2 ^ 53 * 10 ^ 9)
    (hb : b < 2 ^ 53 * 10 ^ 9) (hb0 : 0 < b) (hv : val64 f = .fin q) (hq : 0 < q) :
    ((a : ℚ) / b * (1 + 1 / 2 ^ 50) < q → C03.belowShare a b f = true) ∧
    (q ≤ (a : ℚ) / b * (1 - 1 / 2 ^ 50) → C03.belowShare a b f = false) := by
  obtain ⟨d, h1, h2, h3⟩ := belowShare_spec a b f q ha hb hb0 hv hq
  exact ⟨fun h => h3.mpr (lt_of_le_of_lt h2 h),
    fun h => Bool.eq_false_iff.mpr (mt h3.mp (not_lt.mpr (le_trans h h1)))⟩

/-- a limit that is not positive (or NaN) is "not set": the test always says "below" -/
theorem belowShare_unset (a b : Nat) (f : F64)
    (hv : val64 f = .nan ∨ ∃ q : ℚ, val64 f = .fin q ∧ q ≤ 0) : C03.belowShare a b f = true := by
  unfold C03.belowShare
  rcases hv with hv | ⟨q, hv, hq⟩
  · rw [hv]; simp [gt]
  · rw [hv]; simp [gt, lt, not_lt.mpr hq]

/-- an infinite limit is never reached: the computed share is finite -/
theorem belowShare_inf (a b : Nat) (f : F64) (ha : a < 2 ^ 53 * 10 ^ 9)
    (hb : b < 2 ^ 53 * 10 ^ 9) (hb0 : 0 < b) (hv : val64 f = .inf false) :
    C03.belowShare a b f = true := by
  obtain ⟨d, hd, _⟩ := divDur_accuracy a b ha hb hb0
  unfold C03.belowShare
  rw [hv, hd]
  rfl

/-! Non-vacuity: the hypotheses are satisfiable and both verdicts occur (limit `f = 0.5`). -/

example : C03.belowShare 1000000000 4000000000 0x3FE0000000000000 = true := by decide +kernel
example : C03.belowShare 1 3 0x3FE0000000000000 = true := by decide +kernel
example : C03.belowShare 3000000001 4000000000 0x3FE0000000000000 = false := by decide +kernel

example : (1 : ℚ) / 3 * (1 - 1 / 2 ^ 50) < 1 / 2 := by
  have := C03_exact 1 3 0x3FE0000000000000 (1 / 2) (by norm_num) (by norm_num) (by norm_num)
    (by decide +kernel) (by norm_num) (by decide +kernel)
  simpa using this

example : (1 : ℚ) / 2 ≤ (3000000001 : ℚ) / 4000000000 * (1 + 1 / 2 ^ 50) := by
  have := C03_exact_conv 3000000001 4000000000 0x3FE0000000000000 (1 / 2) (by norm_num)
    (by norm_num) (by norm_num) (by decide +kernel) (by norm_num) (by decide +kernel)
  simpa using this

end Mb
