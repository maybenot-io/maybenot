/-
  C09 for machines that have not ended: the Signal deliveries counted as the monitor counts them
  (`C09.deliveries`: entries `trans mi Signal st` with `st ≠ END`). A machine that has not ended
  when the delivery round starts receives its Signal while not ended.
-/
import MbVerif.Proofs.SigSlot
import MbVerif.Proofs.EndAbs
import MbVerif.Spec.C09

namespace Mb
variable {σ : Type} (ρ : Oracle σ)

/-- weight 1 on the Signal deliveries to machine `mi0` while it has not ended -/
def μLive (mi0 : Nat) : LogEntry → Nat
  | .trans m ev st => if m = mi0 ∧ ev = Gen.EV_Signal ∧ st ≠ STATE_END then 1 else 0
  | _ => 0

/-- Signal events delivered to machine `mi0` while it had not ended, according to the log -/
def liveSigOf (mi0 : Nat) (s : Fw σ) : Nat := wsum (μLive mi0) s.log

theorem μLive_le (mi0 : Nat) (e : LogEntry) : μLive mi0 e ≤ μSig mi0 e := by
  cases e with
  | trans m ev st =>
    simp only [μLive, μSig]
    by_cases h : m = mi0 ∧ ev = Gen.EV_Signal
    · rw [if_pos h]; split <;> omega
    · have : ¬ (m = mi0 ∧ ev = Gen.EV_Signal ∧ st ≠ STATE_END) := fun h' => h ⟨h'.1, h'.2.1⟩
      rw [if_neg this]; omega
  | _ => exact Nat.le_refl _

theorem live_transition_signal_eq (mi0 j : Nat) (s : Fw σ) (hp : Present mi0 s) :
    liveSigOf mi0 (transition ρ FUEL j .signal s).1 =
      liveSigOf mi0 s + (if j = mi0 ∧ notEnded s mi0 = true then 1 else 0) := by
  obtain ⟨r, m, hr, hm⟩ := hp.get
  have h := wsum_signal_delivery ρ mi0 j s r m hr hm (μLive mi0) (μLive_le mi0)
  have hown : μLive mi0 (.trans mi0 Event.signal.toNat r.currentState) = if notEnded s mi0 = true then 1 else 0 := by
    simp [μLive, notEnded, hr, (toNat_signal _).mpr rfl]
  rw [hown] at h
  rw [liveSigOf, h, liveSigOf]
  by_cases hj : j = mi0 <;> simp [hj]

theorem ended_of_not_notEnded {j : Nat} {s : Fw σ} (hj : j < s.rt.length) (h : notEnded s j = false) : Ended j s := by
  unfold notEnded at h
  unfold Ended
  rw [List.getElem?_eq_getElem hj] at h ⊢
  simp only [Option.map_some, Option.some.injEq]
  simpa using h

/-- a machine that has not ended after the delivery round had not ended before it: END is absorbing -/
theorem notEnded_before_round (j : Nat) (s : Fw σ) (hj : j < s.rt.length)
    (h : notEnded (signalRound ρ s) j = true) : notEnded s j = true := by
  cases hb : notEnded s j with
  | true => rfl
  | false =>
    have he := signalRound_rel ρ (R := fun s t => Ended j s → Ended j t) (fun _ h => h) (fun h₁ h₂ h => h₂ (h₁ h))
      (fun _ _ h => h) (fun s a hq => by
        unfold Ended
        by_cases ha : a = j
        · subst ha; rw [(transition_ended ρ FUEL a .signal s hq).1]; exact hq
        · rw [(transition_reach ρ FUEL a .signal s).frame.rtOther j (Ne.symm ha)]; exact hq)
      s (ended_of_not_notEnded hj hb)
    rw [notEnded_false_of_ended he] at h
    cases h

end Mb

namespace Mb.C09
open Mb
variable {σ : Type} (ρ : Oracle σ)

theorem liveCount (j : Nat) : DeliveryCount ρ j (liveSigOf j) (fun s => notEnded s j) where
  reset _ _ := ⟨rfl, rfl⟩
  deliver a s hp := live_transition_signal_eq ρ j a s hp
  other a s ha := by
    unfold notEnded
    rw [(transition_reach ρ FUEL a .signal s).frame.rtOther j (Ne.symm ha)]

theorem live_eventsDone (es : List TEvent) (t : Int) (s : Fw σ) (j : Nat) :
    liveSigOf j (eventsDone ρ es t s) = liveSigOf j s := by
  obtain ⟨l, e⟩ := (eventsDone_run ρ es t s).logExt
  have h := sig_eventsDone ρ es t s j
  unfold sigOf at h
  rw [e, wsum_append] at h
  have := wsum_le_of_le (μLive_le j) l
  unfold liveSigOf
  rw [e, wsum_append]
  omega

/-- A whole call, live deliveries; "not ended" refers to the state after the reported events of
    the call (a machine that has not ended at the end of the call had not ended then:
    `notEnded_before_round`). -/
theorem call_delivers_live (es : List TEvent) (t : Int) (s : Fw σ) (j : Nat) (hp : Present j s) :
    ((eventsDone ρ es t s).signalPending = none → liveSigOf j (triggerEvents ρ es t s) = liveSigOf j s) ∧
    ((eventsDone ρ es t s).signalPending = some .all →
      liveSigOf j (triggerEvents ρ es t s) =
        liveSigOf j s + (if notEnded (eventsDone ρ es t s) j = true then 1 else 0)) ∧
    (∀ x, (eventsDone ρ es t s).signalPending = some (.allExcept x) →
      (j ≠ x → liveSigOf j (triggerEvents ρ es t s) =
        liveSigOf j s + (if notEnded (eventsDone ρ es t s) j = true then 1 else 0)) ∧
      (j = x → liveSigOf j (triggerEvents ρ es t s) =
        liveSigOf j s +
          (if (afterFirst ρ (eventsDone ρ es t s) (some x)).signalPending.isSome = true ∧
              notEnded (eventsDone ρ es t s) j = true then 1 else 0))) := by
  have h := (liveCount ρ j).round (eventsDone ρ es t s) (hp.ofRun (eventsDone_run ρ es t s))
  rwa [live_eventsDone ρ es t s j] at h

theorem live_at_end (es : List TEvent) (t : Int) (s : Fw σ) (j : Nat) (hj : j < s.rt.length)
    (h : notEnded (triggerEvents ρ es t s) j = true) : notEnded (eventsDone ρ es t s) j = true := by
  rw [triggerEvents_eq] at h
  exact notEnded_before_round ρ j _ (by rw [run_rtLen (eventsDone_run ρ es t s)]; exact hj) h

/-- the live count is the monitor's count of deliveries -/
theorem wsum_live_eq_deliveries (j : Nat) (l : List LogEntry) : wsum (μLive j) l = deliveries l j := by
  unfold deliveries
  induction l with
  | nil => rfl
  | cons e l ih =>
    rw [wsum_cons, List.countP_cons, ih, Nat.add_comm]
    cases e with
    | trans m ev st => simp only [μLive, Bool.and_eq_true, beq_iff_eq, bne_iff_ne, and_assoc]
    | _ => rfl

/-- What the monitor checks. For a machine `j` that has not ended when the call returns, the
    monitor's count of Signal deliveries to `j` in the call's log segment is: 0 if no signal is
    pending after the reported events, 1 if the slot is `all`, 1 if the slot is `allExcept x` with
    `x ≠ j`, and for the lone signaller `x` itself 1 if the first round left a signal pending and 0
    otherwise. -/
theorem call_deliveries (es : List TEvent) (t : Int) (s : Fw σ) (j : Nat) (hp : Present j s)
    (hlive : notEnded (triggerEvents ρ es t s) j = true) :
    ∃ l, (triggerEvents ρ es t s).log = l ++ s.log ∧
      ((eventsDone ρ es t s).signalPending = none → deliveries l j = 0) ∧
      ((eventsDone ρ es t s).signalPending = some .all → deliveries l j = 1) ∧
      (∀ x, (eventsDone ρ es t s).signalPending = some (.allExcept x) →
        (j ≠ x → deliveries l j = 1) ∧
        (j = x → deliveries l j =
          if (afterFirst ρ (eventsDone ρ es t s) (some x)).signalPending.isSome = true then 1 else 0)) := by
  obtain ⟨l, e⟩ := triggerEvents_logExt ρ es t s
  have hl : liveSigOf j (triggerEvents ρ es t s) = deliveries l j + liveSigOf j s := by
    unfold liveSigOf; rw [e, wsum_append, wsum_live_eq_deliveries]
  have hne := live_at_end ρ es t s j hp.1 hlive
  obtain ⟨d1, d2, d3⟩ := call_delivers_live ρ es t s j hp
  simp only [hne, if_true, and_true] at d2 d3
  refine ⟨l, e, fun h => ?_, fun h => ?_, fun x h => ⟨fun hx => ?_, fun hx => ?_⟩⟩
  · have := d1 h; omega
  · have := d2 h; omega
  · have := (d3 x h).1 hx; omega
  · have h4 := (d3 x h).2 hx
    by_cases hs : (afterFirst ρ (eventsDone ρ es t s) (some x)).signalPending.isSome = true
    · rw [if_pos hs] at h4 ⊢; omega
    · rw [if_neg hs] at h4 ⊢; omega

end Mb.C09
