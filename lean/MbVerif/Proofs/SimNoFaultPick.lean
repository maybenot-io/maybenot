/-
  The simulator with machines does not fault (`C19_total`): the time-bound invariant of the main
  loop and its preservation by `pick_next`.  `SimNoFaultStep` continues with the rest of an
  iteration, `SimNoFault` with the loop and the whole run.

  The invariant bounds every pending time relative to the clock, the age of every blocked
  TunnelSent, every pending aggregate delay and the total aggregate delay of a side.  All bounds
  are abstract numbers here; `SimNoFault` instantiates them with multiples of the 24 h cap on
  sampled timeouts and durations.

  Names used in the three files.  The suffix `_ti` marks a lemma "under the time-bound
  invariant".  `TPar` (`π`) holds the numbers the bounds are stated with.  `SlotI now sd`: the
  pending action timers, internal timers and the blocking expiry of one side are at most `TO`,
  `TD`, `W` after the clock.  `NetI π kw J net`: each window of the bottleneck holds at most `kw`
  stamps, every pending aggregate delay is at most `π.D`, and a side's aggregate delay plus `π.D`
  for each delay still pending is at most `J`, the budget used so far (`π.JM` bounds it for the
  whole run).  `qpred`: the time bound of a queued event by heap, `A` being the age bound of a
  queued TunnelSent.  `PI π A Hn kw J st` puts these together for a state whose clock lies in
  `[π.t0, Hn]` (`Hn`: the horizon).  `FI`, `FwI` (SimNoFaultStep): the invariant of the embedded
  frameworks; `ApplyI`: what storing returned actions keeps; `LI` (SimNoFault): `PI` and `FwI`
  with every parameter a function of the iteration count.  `Sound x Q`: `x` fails at most with a
  fault for which `SimFault.isBug` holds (an assertion of the code; `step_total` excludes those),
  and its result satisfies `Q`.
-/
import MbVerif.Proofs.SimNoFaultQ

namespace Mb.Sim
open Mb

namespace TB
/-- the cap on a sampled timeout, in ns -/
def TO : Nat := Gen.MAX_SAMPLED_TIMEOUT * 1000
/-- the cap on a sampled internal-timer duration, in ns -/
def TD : Nat := Gen.MAX_SAMPLED_TIMER_DURATION * 1000
/-- the cap on a sampled blocking duration, in ns -/
def BD : Nat := Gen.MAX_SAMPLED_BLOCK_DURATION * 1000
/-- a blocking expires at most this long after it was scheduled -/
def W : Nat := TO + BD
/-- the largest multiple of the network delay `push_aggregate_delay` computes -/
def aggK : Nat := max (max Gen.SIM_AGG_CLIENTEXP_CLIENT Gen.SIM_AGG_CLIENTEXP_SERVER)
  (max Gen.SIM_AGG_SERVEREXP_CLIENT Gen.SIM_AGG_SERVEREXP_SERVER)
end TB

structure TPar where
  /-- network delay -/
  d : Nat
  /-- every base (trace) time is at most this -/
  Tm : Int
  /-- the start of the simulation -/
  t0 : Int
  /-- bound on the extra delay per packet over the limit -/
  pw : Nat
  /-- bound on the delay the packets-per-second bottleneck adds to one packet -/
  P : Nat
  /-- bound on one pending aggregate delay -/
  D : Nat
  /-- bound on the total aggregate delay of a side -/
  JM : Nat

/-- queued internal events are at most this far after the clock -/
def TPar.S (π : TPar) : Nat := TB.TO + TB.TD + π.d + π.P

/-- what the checked duration arithmetic of the network needs -/
structure TPar.OK (π : TPar) : Prop where
  jm : π.JM ≤ durMax
  kd : TB.aggK * π.d ≤ durMax
  pd : π.P + π.d ≤ durMax

/-- the time bound of a queued event, by heap: base events are trace times, internal events are
    at most `S` after the clock, a queued TunnelSent is due and at most `A` old -/
def qpred (π : TPar) (A : Nat) (now : Int) (_c : Bool) (qi : Queue) (e : SimEvent) : Prop :=
  match qi with
  | .base => e.time ≤ π.Tm
  | .internal => e.time ≤ now + π.S
  | .blocking => e.time ≤ now ∧ now ≤ e.time + A
  | .bypassable => e.time ≤ now ∧ now ≤ e.time + A

/-- a scheduled action is a padding or a blocking with a capped duration -/
def actBound : TAction → Prop
  | .sendPadding _ _ _ _ => True
  | .blockOutgoing _ du _ _ _ => du ≤ Gen.MAX_SAMPLED_BLOCK_DURATION
  | _ => False

section
variable {σ : Type}

structure SlotI (now : Int) (sd : Side σ) : Prop where
  acts : ∀ a, some a ∈ sd.schedAction → a.time ≤ now + TB.TO ∧ actBound a.action
  tims : ∀ t, some t ∈ sd.schedTimer → t ≤ now + TB.TD
  untl : ∀ u, sd.blockingUntil = some u → u ≤ now + TB.W

structure NetI (π : TPar) (kw J : Nat) (net : Bottleneck) : Prop where
  delay : net.network.delay = π.d
  ppsA : net.ppsAddedDelay ≤ π.pw
  winC : net.clientWindow.stamps.length ≤ kw
  winS : net.serverWindow.stamps.length ≤ kw
  aggC : net.clientAgg + π.D * net.aggQueue.data.countP (fun p => p.client) ≤ J
  aggS : net.serverAgg + π.D * net.aggQueue.data.countP (fun p => !p.client) ≤ J
  dl : ∀ p ∈ net.aggQueue.data, p.delay ≤ π.D

structure PI (π : TPar) (A : Nat) (Hn : Int) (kw J : Nat) (st : St σ) : Prop where
  t0le : π.t0 ≤ st.now
  nowle : st.now ≤ Hn
  wf : st.sq.WF
  ord : st.sq.Ord
  q : st.sq.AllQ (qpred π A st.now)
  sides : ∀ c, SlotI st.now (st.side c)
  net : NetI π kw J st.net

end

/-- `x` fails at most with one of the code's own assertions (`SimFault.isBug`; those are excluded
    separately, by `step_total`), and its result satisfies `Q` -/
def Sound {α : Type} (x : Except SimFault α) (Q : α → Prop) : Prop :=
  match x with
  | .error f => f.isBug = true
  | .ok a => Q a

section
variable {α β : Type} {x : Except SimFault α} {P Q : α → Prop}

theorem Sound.ok (h : Sound x Q) {a : α} (hx : x = .ok a) : Q a := by
  subst hx; exact h

theorem Sound.bug (h : Sound x Q) {f : SimFault} (hx : x = .error f) : f.isBug = true := by
  subst hx; exact h

theorem Sound.of_ok {a : α} (hx : x = .ok a) (h : Q a) : Sound x Q := by
  subst hx; exact h

theorem Sound.mono (h : Sound x P) (hpq : ∀ a, P a → Q a) : Sound x Q := by
  cases x with
  | error f => exact h
  | ok a => exact hpq a h

theorem Sound.bind {f : α → Except SimFault β} {R : β → Prop} (h : Sound x P)
    (hf : ∀ a, x = .ok a → P a → Sound (f a) R) : Sound (x >>= f) R := by
  cases x with
  | error e => exact h
  | ok a => exact hf a rfl h

theorem Sound.map {g : α → β} {R : β → Prop} (h : Sound x fun a => R (g a)) : Sound (x.map g) R := by
  cases x with
  | error e => exact h
  | ok a => exact h

end

theorem NetI.ghost {π : TPar} {kw J : Nat} {b : Bottleneck} (h : NetI π kw J b) (g : Ghost) :
    NetI π kw J { b with ghost := g } :=
  ⟨h.delay, h.ppsA, h.winC, h.winS, h.aggC, h.aggS, h.dl⟩

theorem NetI.weaken {π : TPar} {kw kw' J J' : Nat} {b : Bottleneck} (h : NetI π kw J b) (hk : kw ≤ kw')
    (hJ : J ≤ J') : NetI π kw' J' b :=
  ⟨h.delay, h.ppsA, Nat.le_trans h.winC hk, Nat.le_trans h.winS hk, Nat.le_trans h.aggC hJ, Nat.le_trans h.aggS hJ,
    h.dl⟩

theorem NetI.mono {π : TPar} {kw J J' : Nat} {b : Bottleneck} (h : NetI π kw J b) (hJ : J ≤ J') :
    NetI π kw J' b :=
  h.weaken (Nat.le_refl _) hJ

theorem durChk_of_le {n : Nat} (h : n ≤ durMax) : durChk n = .ok n := by
  unfold durChk
  simp [Nat.not_lt.2 h]

theorem popAggregateDelay_ti {π : TPar} {kw J : Nat} {b : Bottleneck} (h : NetI π kw J b) (hJ : J ≤ durMax) :
    ∃ b', b.popAggregateDelay = .ok b' ∧ NetI π kw J b' := by
  unfold Bottleneck.popAggregateDelay
  cases hp : Heap.pop PendingAgg.le b.aggQueue with
  | none => exact ⟨b, rfl, h⟩
  | some pr =>
    obtain ⟨a, q⟩ := pr
    simp only []
    have hc1 := heap_pop_countP (fun p : PendingAgg => p.client) PendingAgg.le hp
    have hc2 := heap_pop_countP (fun p : PendingAgg => !p.client) PendingAgg.le hp
    have ha : a ∈ b.aggQueue.data := Heap.peek_mem hc1.2
    have had := h.dl a ha
    have hsub := heap_pop_mem hp
    have hC := h.aggC
    have hS := h.aggS
    rw [hc1.1] at hC
    rw [hc2.1] at hS
    -- the two sides are symmetric: the popped delay moves from the pending count to the side's sum
    cases hac : a.client <;>
      simp only [hac, b2n, if_true, Bool.not_true, Bool.not_false, Bool.false_eq_true, if_false, Nat.mul_add,
        Nat.mul_one, Nat.add_zero] at hC hS ⊢ <;>
      rw [durChk_of_le (by omega)] <;>
      exact ⟨_, rfl, ⟨h.delay, h.ppsA, h.winC, h.winS, by simp only []; omega, by simp only []; omega,
        fun p hp' => h.dl p (hsub p hp')⟩⟩

theorem aggK_client_le (c : Bool) :
    (if c then Gen.SIM_AGG_CLIENTEXP_CLIENT else Gen.SIM_AGG_SERVEREXP_CLIENT) ≤ TB.aggK := by
  cases c <;> decide

theorem aggK_server_le (c : Bool) :
    (if c then Gen.SIM_AGG_CLIENTEXP_SERVER else Gen.SIM_AGG_SERVEREXP_SERVER) ≤ TB.aggK := by
  cases c <;> decide

theorem pushAggregateDelay_ti {π : TPar} {kw J : Nat} {b : Bottleneck} (h : NetI π kw J b) (hok : π.OK)
    {bd : Nat} (hbd : bd ≤ π.D) (now : Int) (c : Bool) :
    ∃ b', b.pushAggregateDelay bd now c = .ok b' ∧ NetI π kw (J + π.D) b' := by
  unfold Bottleneck.pushAggregateDelay
  have h1 : (if c then Gen.SIM_AGG_CLIENTEXP_CLIENT else Gen.SIM_AGG_SERVEREXP_CLIENT) * b.network.delay ≤ durMax := by
    rw [h.delay]
    exact Nat.le_trans (Nat.mul_le_mul_right _ (aggK_client_le c)) hok.kd
  have h2 : (if c then Gen.SIM_AGG_CLIENTEXP_SERVER else Gen.SIM_AGG_SERVEREXP_SERVER) * b.network.delay ≤ durMax := by
    rw [h.delay]
    exact Nat.le_trans (Nat.mul_le_mul_right _ (aggK_server_le c)) hok.kd
  simp only [durChk_of_le h1, durChk_of_le h2, bind, Except.bind, pure, Except.pure]
  refine ⟨_, rfl, ⟨h.delay, h.ppsA, h.winC, h.winS, ?_, ?_, ?_⟩⟩
  · simp only [heap_push_countP, b2n, if_true, Bool.false_eq_true, if_false, Nat.add_zero, Nat.mul_add, Nat.mul_one]
    have := h.aggC
    omega
  · simp only [heap_push_countP, b2n, Bool.not_true, Bool.not_false, if_true, Bool.false_eq_true, if_false,
      Nat.add_zero, Nat.mul_add, Nat.mul_one]
    have := h.aggS
    omega
  · intro p hp
    rcases heap_push_mem hp with hp | hp
    · rcases heap_push_mem hp with hp | hp
      · exact h.dl p hp
      · subst hp; exact hbd
    · subst hp; exact hbd


section
variable {σ : Type}

theorem peekQueue_ok (st : St σ) (e : Nat) : ∃ r, peekQueue st e = .ok r := by
  cases h : peekQueue st e with
  | ok r => exact ⟨r, rfl⟩
  | error f =>
    obtain ⟨h0, hp⟩ := peekQueue_error_iff.1 h
    obtain ⟨ev, qi, d, hs⟩ := SimQueue.peek_some st.sq st.net.clientAgg st.net.serverAgg st.now
      (by simpa [SimQueue.isEmpty] using h0)
    rw [hs] at hp
    rcases hp with hp | ⟨_, _, hp, _⟩ <;> cases hp

theorem pickDecide_ok (st : St σ) : ∃ p, pickDecide st = .ok p := by
  obtain ⟨r, hr⟩ := peekQueue_ok st st.bound
  exact ⟨_, pickDecide_ok_iff.2 ⟨r, hr, rfl⟩⟩

/-- every served offset is at most the blocking-expiry offset -/
theorem pickDecide_offset_le_block {st : St σ} {p : Pick} {o : Nat} (h : pickDecide st = .ok p)
    (ho : p.offset = some o) :
    o ≤ (peekBlockedExp st.client.blockingUntil st.server.blockingUntil st.now).1 := by
  obtain ⟨r, _, hp⟩ := pickDecide_ok_iff.1 h
  have hs := Pick.choose_spec st.actOff st.timOff st.aggOff st.blkExp r
  rw [hp] at hs
  cases p <;> cases ho
  · exact Nat.le_of_eq (congrArg Prod.fst hs.1)
  · exact Nat.le_of_lt hs.2.2.1
  · exact Nat.le_of_lt hs.2.2.1
  · exact Nat.le_of_lt hs.2.2.1

end


section
variable {σ : Type}

def SameFw (st st' : St σ) : Prop :=
  ∀ c, (st'.side c).fw = (st.side c).fw ∧
    (st'.side c).schedAction.length = (st.side c).schedAction.length ∧
    (st'.side c).schedTimer.length = (st.side c).schedTimer.length

theorem SameFw.refl (st : St σ) : SameFw st st := fun _ => ⟨rfl, rfl, rfl⟩

theorem SameFw.trans {a b c : St σ} (h1 : SameFw a b) (h2 : SameFw b c) : SameFw a c := fun x =>
  ⟨(h2 x).1.trans (h1 x).1, (h2 x).2.1.trans (h1 x).2.1, (h2 x).2.2.trans (h1 x).2.2⟩

theorem SameFw.setSide (st : St σ) (c : Bool) (x : Side σ) (hfw : x.fw = (st.side c).fw)
    (ha : x.schedAction.length = (st.side c).schedAction.length)
    (ht : x.schedTimer.length = (st.side c).schedTimer.length) : SameFw st (st.setSide c x) := by
  intro c'
  cases c <;> cases c' <;> first | exact ⟨rfl, rfl, rfl⟩ | exact ⟨hfw, ha, ht⟩

theorem peekAggregateDelay_le (b : Bottleneck) (now : Int) : b.peekAggregateDelay now ≤ durMax := by
  unfold Bottleneck.peekAggregateDelay
  split
  · exact dsince_le' _ _
  · exact Nat.le_refl _

/-- the blocking-expiry branch is only taken for a real expiry -/
theorem pickDecide_blockExp_lt {st : St σ} {b : Nat} {c : Bool} (h : pickDecide st = .ok (.blockExp b c)) :
    b < durMax := by
  obtain ⟨r, _, hp⟩ := pickDecide_ok_iff.1 h
  exact Nat.lt_of_lt_of_le (Pick.choose_blockExp hp).2.1 (peekAggregateDelay_le st.net st.now)

/-- the queue branch is only taken for a real offset -/
theorem pickDecide_queue_lt {st : St σ} {q : Nat} {qid : Queue} {c : Bool} (h : pickDecide st = .ok (.queue q qid c)) :
    q < durMax :=
  Nat.lt_of_lt_of_le (pickDecide_queue h).2 (peekBlockedExp_le _ _ _)

/-- without any blocking `peek_queue` reports what `SimQueue::peek` selects (or "later than the
    other candidates") -/
theorem peekQueue_noblock {st : St σ} {e q : Nat} {qid : Queue} {c : Bool}
    (hc : st.client.blockingUntil = none) (hs : st.server.blockingUntil = none)
    (h : peekQueue st e = .ok (q, qid, c)) :
    q = durMax ∨ ∃ pk, st.sq.peek st.net.clientAgg st.net.serverAgg st.now = .ok (some pk, qid, q) := by
  rcases peekQueue_ok_iff.1 h with ⟨_, hr⟩ | ⟨_, _, _, _, _, hr⟩ | ⟨pk, qu, dur, hpk, _, _, hr⟩ | ⟨pk, _, _, _, _, hp, _⟩
  · cases hr; exact Or.inl rfl
  · cases hr; exact Or.inl rfl
  · cases hr; exact Or.inr ⟨pk, hpk⟩
  · have hb := (St.passes_eq_false.1 hp).2.1
    cases hpc : pk.client <;> simp [hpc, St.side, hc, hs] at hb

theorem peekQueue_heap {st : St σ} {e q : Nat} {qid : Queue} {c : Bool} (hw : st.sq.WF)
    (h : peekQueue st e = .ok (q, qid, c)) (hq : q < durMax) :
    ∃ hd, ((st.sq.side c).heap qid).peek = some hd := by
  rcases peekQueue_ok_iff.1 h with ⟨_, hr⟩ | ⟨_, _, _, _, _, hr⟩ | ⟨pk, qu, dur, hpk, _, _, hr⟩ | ⟨_, _, _, _, _, _, hr⟩
  · cases hr; exact absurd hq (Nat.lt_irrefl _)
  · cases hr; exact absurd hq (Nat.lt_irrefl _)
  · cases hr; exact ⟨_, (SimQueue.peek_own hw hpk).1⟩
  · obtain ⟨c', hc', _⟩ := st.earliest_cases
    rw [hc'] at hr
    have hcl := (st.earliestSide_spec c').1
    have hdur : (st.earliestSide c').1 = durMax ∨
        ∃ hd, ((st.sq.side c').heap (st.earliestSide c').2.1).peek = some hd ∧ _ :=
      peekQueueEarliestSide_dur st.sq (st.side c').blockingUntil (st.side c').blockingBypassable st.now
        (st.net.agg c') c'
    rw [← hr] at hcl hdur
    rcases hdur with hm | ⟨hd, hhd, _⟩
    · exact absurd hm (Nat.ne_of_lt hq)
    · cases hcl
      exact ⟨hd, hhd⟩

theorem PI.withNet {π : TPar} {A : Nat} {Hn : Int} {kw J kw' J' : Nat} {st : St σ} (h : PI π A Hn kw J st)
    {net' : Bottleneck} (hn : NetI π kw' J' net') : PI π A Hn kw' J' { st with net := net' } :=
  ⟨h.t0le, h.nowle, h.wf, h.ord, h.q, h.sides, hn⟩

theorem pickAgg_ti {π : TPar} {A : Nat} {Hn : Int} {kw J : Nat} {st : St σ} (h : PI π A Hn kw J st)
    (hJ : J ≤ durMax) :
    Sound (pickAgg st) fun st' => PI π A Hn kw J st' ∧ SameFw st st' ∧ st'.now = st.now ∧ st'.sq = st.sq := by
  unfold pickAgg
  by_cases hz : st.net.aggQueue.len = 0
  · rw [if_pos hz]
    exact rfl
  · rw [if_neg hz]
    obtain ⟨b', hb', hn⟩ := popAggregateDelay_ti h.net hJ
    rw [hb']
    exact ⟨h.withNet hn, SameFw.refl _, rfl, rfl⟩

end


section
variable {σ : Type}

theorem NetI.agg_le {π : TPar} {kw J : Nat} {net : Bottleneck} (h : NetI π kw J net) (c : Bool) : net.agg c ≤ J := by
  unfold Bottleneck.agg
  cases c
  · have := h.aggS; simp only [Bool.false_eq_true, if_false]; omega
  · have := h.aggC; simp only [if_true]; omega

/-- a queued event is served (with its heap's shift, an aggregate delay of at most `J`) within
    the bound on trace times plus `J`, or within `S` of the clock -/
theorem qpred_time_le {π : TPar} {A : Nat} {now : Int} {c : Bool} {qi : Queue} {e : SimEvent} {g J : Nat}
    (h : qpred π A now c qi e) (hg : g ≤ J) : e.time + qShift qi g ≤ max (π.Tm + (J : Int)) (now + (π.S : Int)) := by
  cases qi <;> simp only [qpred, qShift, if_true, reduceCtorEq, if_false] at h ⊢ <;> omega

theorem PI.setSide {π : TPar} {A : Nat} {Hn : Int} {kw J : Nat} {st : St σ} (h : PI π A Hn kw J st)
    (c : Bool) (x : Side σ) (hx : SlotI st.now x) : PI π A Hn kw J (st.setSide c x) := by
  cases c with
  | true =>
    exact ⟨h.t0le, h.nowle, h.wf, h.ord, h.q, fun c' => by
      cases c'
      · exact h.sides false
      · exact hx, h.net⟩
  | false =>
    exact ⟨h.t0le, h.nowle, h.wf, h.ord, h.q, fun c' => by
      cases c'
      · exact hx
      · exact h.sides true, h.net⟩

/-- the queue branch: the pop succeeds, the invariant is kept, the served event is within the
    horizon, and while a TunnelSent stays queued it is at most `W` after the clock -/
theorem pickQueue_ti {π : TPar} {A : Nat} {Hn : Int} {kw J : Nat} {st : St σ} (h : PI π A Hn kw J st)
    {q : Nat} {qid : Queue} {c : Bool} (hd : pickDecide st = .ok (.queue q qid c))
    (hJM : J ≤ π.JM) (hHb : π.Tm + π.JM ≤ Hn) :
    Sound (pickQueue st q qid c) fun r =>
      PI π A Hn kw J r.2 ∧ SameFw st r.2 ∧ r.2.now = st.now ∧
      r.1.time ≤ Hn + ((π.S + TB.W : Nat) : Int) ∧ (r.2.sq.hasBlocked → r.1.time ≤ st.now + (TB.W : Int)) := by
  obtain ⟨⟨earliest, hpq⟩, hlt⟩ := pickDecide_queue hd
  have hqlt := pickDecide_queue_lt hd
  obtain ⟨hd0, hhd0⟩ := peekQueue_heap h.wf hpq hqlt
  obtain ⟨e0, sq0, hpop⟩ := SimQueue.pop_someG (st.net.agg c) hhd0
  have hp := (pickQueue_ok_iff (q := q)).2 ⟨e0, sq0, hpop, rfl, rfl⟩
  obtain ⟨tmp, htmp, het⟩ := pickQueue_offset_ge h.wf hd hp
  have hetq : max e0.time (st.now + (q : Int)) ≤ st.now + (q : Int) := by
    rw [show max e0.time (st.now + (q : Int)) = _ from het]
    unfold dsince durSince at htmp
    split <;> omega
  have hnow := h.nowle
  -- the offset is within the horizon, and at most `W` while a TunnelSent stays queued
  have key : st.now + (q : Int) ≤ Hn + ((π.S + TB.W : Nat) : Int) ∧ (sq0.hasBlocked → q ≤ TB.W) := by
    -- with a blocking pending the offset is below the expiry's, which is at most `W`
    have blocked : ∀ x u, (st.side x).blockingUntil = some u →
        st.now + (q : Int) ≤ Hn + ((π.S + TB.W : Nat) : Int) ∧ (sq0.hasBlocked → q ≤ TB.W) := by
      intro x u hu
      have hq : q ≤ TB.W := Nat.le_trans (Nat.le_of_lt (Nat.lt_of_lt_of_le hlt
        (peekBlockedExp_le_side st.client.blockingUntil st.server.blockingUntil st.now x u (by cases x <;> exact hu))))
        (dsince_le_of_le ((h.sides x).untl u hu))
      exact ⟨Int.add_le_add hnow (Int.ofNat_le.2 (Nat.le_trans hq (Nat.le_add_left _ _))), fun _ => hq⟩
    cases hcu : st.client.blockingUntil with
    | some u => exact blocked true u hcu
    | none =>
      cases hsu : st.server.blockingUntil with
      | some u => exact blocked false u hsu
      | none =>
        rcases peekQueue_noblock hcu hsu hpq with hmax | ⟨pk, hpk⟩
        · exact absurd hmax (Nat.ne_of_lt hqlt)
        · obtain ⟨hhead, hdur⟩ := SimQueue.peek_own h.wf hpk
          have hqp := h.q pk.client qid pk (Heap.peek_mem hhead)
          have hx : pk.time + qShift qid (if pk.client then st.net.clientAgg else st.net.serverAgg) ≤ _ :=
            qpred_time_le hqp (h.net.agg_le pk.client)
          have hb := dsince_add_le (M := Hn + ((π.S + TB.W : Nat) : Int)) (Int.le_trans hx (Int.max_le.2 ⟨by push_cast; omega, by push_cast; omega⟩))
            (Int.le_trans hnow (Int.le_add_of_nonneg_right (Int.natCast_nonneg _)))
          rw [← hdur] at hb
          refine ⟨hb, fun hbk => ?_⟩
          obtain ⟨c1, q1, e1, hq1, he1⟩ := SimQueue.hasBlocked_of_pop hpop hbk
          have hqp1 := h.q c1 q1 e1 he1
          have ht1 : e1.time ≤ st.now := by
            rcases hq1 with rfl | rfl <;> exact hqp1.1
          have hne : q1 ≠ .base := by rcases hq1 with rfl | rfl <;> nofun
          exact SimQueue.peek_zero h.ord hne he1 ht1 hpk ▸ Nat.zero_le _
  exact Sound.of_ok hp ⟨⟨h.t0le, hnow, (pickQueue_conserve h.wf hp).1, (SimQueue.pop_specG hpop).2.1 h.ord,
    h.q.pop hpop, h.sides, h.net.ghost _⟩, fun c' => ⟨rfl, rfl, rfl⟩, rfl, Int.le_trans hetq key.1,
    fun hb => Int.le_trans hetq (Int.add_le_add_left (Int.ofNat_le.2 (key.2 hb)) _)⟩

end


section
variable {σ : Type}

theorem peekBlockedExp_some {cu su : Option Int} {now : Int} {b : Nat} {c : Bool}
    (h : peekBlockedExp cu su now = (b, c)) (hb : b < durMax) : (if c then cu else su).isSome := by
  unfold peekBlockedExp at h
  cases cu with
  | none =>
    cases su with
    | none => simp only [Prod.mk.injEq] at h; omega
    | some s => simp only [Prod.mk.injEq] at h; obtain ⟨_, hc⟩ := h; subst hc; simp
  | some cc =>
    cases su with
    | none => simp only [Prod.mk.injEq] at h; obtain ⟨_, hc⟩ := h; subst hc; simp
    | some s =>
      simp only [] at h
      split at h <;> (simp only [Prod.mk.injEq] at h; obtain ⟨_, hc⟩ := h; subst hc; simp)

theorem foldl_tail_ge (p : SimEvent → Int → Bool) : ∀ (l : List SimEvent) (t : Int),
    t ≤ l.foldl (fun tail e => if p e tail && e.time > tail then e.time else tail) t := by
  intro l
  induction l with
  | nil => intro t; exact Int.le_refl _
  | cons x xs ih =>
    intro t
    simp only [List.foldl_cons]
    refine Int.le_trans ?_ (ih _)
    split
    · rename_i hc
      simp only [Bool.and_eq_true, decide_eq_true_eq] at hc
      omega
    · exact Int.le_refl _

/-- the aggregate delay queued at a blocking expiry is at most the time the head waited -/
theorem aggDelayOnBlockingExpire_le {sq : SimQueue} {c : Bool} {expire : Int} {head : SimEvent} {ab bd : Nat}
    (h : aggDelayOnBlockingExpire sq c expire head ab = some bd) : bd ≤ dsince expire head.time := by
  unfold aggDelayOnBlockingExpire at h
  simp only [] at h
  generalize htl : (if (sq.side c).blocking.len + (sq.side c).bypassable.len > Gen.SIM_EXPIRE_BUFFER_MIN then
      ((sq.side c).blocking.toList ++ (sq.side c).bypassable.toList).foldl
        (fun tail e => if dsince e.time head.time ≤ Gen.SIM_EXPIRE_BUFFER_WINDOW_NS && e.time > tail then e.time else tail)
        head.time
    else head.time) = tail at h
  have hge : head.time ≤ tail := by
    rw [← htl]
    split
    · exact foldl_tail_ge (fun e _ => decide (dsince e.time head.time ≤ Gen.SIM_EXPIRE_BUFFER_WINDOW_NS)) _ _
    · exact Int.le_refl _
  have hres : bd = dsince expire tail := by
    split at h
    · cases h
    · split at h
      · split at h
        · cases h
        · cases h; rfl
      · cases h; rfl
  rw [hres]
  exact dsince_anti hge

theorem peekBlocking_blocked (sq : SimQueue) (byp c : Bool) :
    (sq.peekBlocking byp c).2 = .blocking ∨ (sq.peekBlocking byp c).2 = .bypassable := by
  unfold SimQueue.peekBlocking EventQueue.peekBlockingSide
  cases byp
  · simp only [Bool.false_eq_true, if_false]
    split
    · exact Or.inl rfl
    · exact Or.inr rfl
  · exact Or.inl rfl

theorem peekBlocking_mem {sq : SimQueue} {byp c : Bool} {ev : SimEvent} (h : (sq.peekBlocking byp c).1 = some ev) :
    ∃ qi, (qi = Queue.blocking ∨ qi = Queue.bypassable) ∧ ev ∈ ((sq.side c).heap qi).data ∧
      ((sq.side c).heap qi).peek = some ev ∧ qi = (sq.peekBlocking byp c).2 := by
  have hh := peekBlocking_head sq byp c
  rw [h] at hh
  exact ⟨_, peekBlocking_blocked sq byp c, Heap.peek_mem hh.symm, hh.symm, rfl⟩

theorem blockExpNet_ti {π : TPar} {A kw J : Nat} {sq : SimQueue} {net : Bottleneck} {now : Int}
    (hq : sq.AllQ (qpred π A now)) (hn : NetI π kw J net) (hok : π.OK) (c : Bool) {b : Nat} (hb : b ≤ TB.W)
    (hAD : A + TB.W ≤ π.D) :
    ∃ net', blockExpNet sq net c (now + (b : Int)) = .ok net' ∧ NetI π kw (J + π.D) net' := by
  unfold blockExpNet
  cases hpb : (sq.peekBlocking false c).1 with
  | none => exact ⟨net, rfl, hn.mono (Nat.le_add_right _ _)⟩
  | some ev =>
    simp only []
    split
    · cases had : aggDelayOnBlockingExpire sq c (now + (b : Int)) ev (net.agg c) with
      | none => exact ⟨net, rfl, hn.mono (Nat.le_add_right _ _)⟩
      | some bd =>
        simp only []
        obtain ⟨qi, hqi, hmem, _, _⟩ := peekBlocking_mem hpb
        have hqp := hq c qi ev hmem
        have hage : now ≤ ev.time + (A : Int) := by
          rcases hqi with hqi | hqi <;> subst hqi <;> exact hqp.2
        have hbd := aggDelayOnBlockingExpire_le had
        have : dsince (now + (b : Int)) ev.time ≤ A + b := by
          unfold dsince durSince
          have : (now + (b : Int) - ev.time).toNat ≤ A + b := by omega
          omega
        exact pushAggregateDelay_ti hn hok (by omega) _ _
    · exact ⟨net, rfl, hn.mono (Nat.le_add_right _ _)⟩

theorem pickBlockExp_ti {π : TPar} {A : Nat} {Hn : Int} {kw J : Nat} {st : St σ} (h : PI π A Hn kw J st)
    (hok : π.OK) {b : Nat} {c : Bool} (hd : pickDecide st = .ok (.blockExp b c)) (hAD : A + TB.W ≤ π.D) :
    Sound (pickBlockExp st b c) fun r =>
      PI π A Hn kw (J + π.D) r.2 ∧ SameFw st r.2 ∧ r.2.now = st.now ∧ r.2.sq = st.sq ∧
      r.1.time ≤ st.now + (TB.W : Int) := by
  have hpk := pickDecide_blockExp hd
  obtain ⟨u, hu, hbu⟩ := peekBlockedExp_spec _ _ _ _ _ hpk (peekBlockedExp_some hpk (pickDecide_blockExp_lt hd))
  have hside : (if c then st.client.blockingUntil else st.server.blockingUntil) = (st.side c).blockingUntil := by
    cases c <;> rfl
  rw [hside] at hu
  have hbW : b ≤ TB.W := by rw [hbu]; exact dsince_le_of_le ((h.sides c).untl u hu)
  obtain ⟨net', hnet', hn'⟩ := blockExpNet_ti h.q h.net hok c hbW hAD
  have hx : SlotI st.now ({ (st.side c) with blockingUntil := none } : Side σ) :=
    ⟨(h.sides c).acts, (h.sides c).tims, nofun⟩
  refine Sound.of_ok (pickBlockExp_ok_iff.2 ⟨net', hnet', rfl, rfl⟩)
    ⟨(h.setSide c _ hx).withNet hn', SameFw.setSide st c _ rfl rfl rfl, setSide_now _ _ _, setSide_sq _ _ _, ?_⟩
  show st.now + (b : Int) ≤ st.now + (TB.W : Int)
  omega

end


section
variable {σ : Type}

theorem PI.pushSim {π : TPar} {A : Nat} {Hn : Int} {kw J : Nat} {st : St σ} (h : PI π A Hn kw J st)
    (ev : SimEvent) (hq : qpred π A st.now ev.client (route ev) ev) :
    PI π A Hn kw J { st with sq := st.sq.pushSim ev } :=
  ⟨h.t0le, h.nowle, (pushSim_spec st.sq ev h.wf).1, SimQueue.pushSim_ord ev h.ord, h.q.pushSim hq, h.sides, h.net⟩

theorem S_ge_TD (π : TPar) : TB.TD ≤ π.S := by unfold TPar.S; omega
theorem S_ge_TO (π : TPar) : TB.TO ≤ π.S := by unfold TPar.S; omega

/-- side `c` gets new slots within the bounds and an event of its own is queued in the internal
    heap, at most `S` after the clock: the invariant is kept, frameworks and clock are untouched -/
theorem PI.sideEvent {π : TPar} {A : Nat} {Hn : Int} {kw J : Nat} {st : St σ} (h : PI π A Hn kw J st) (c : Bool)
    (x : Side σ) (ev : SimEvent) (st' : St σ)
    (hst : st' = { (st.setSide c x) with sq := (st.setSide c x).sq.pushSim ev })
    (hx : SlotI st.now x) (hfw : x.fw = (st.side c).fw)
    (hA : x.schedAction.length = (st.side c).schedAction.length)
    (hT : x.schedTimer.length = (st.side c).schedTimer.length)
    (hc : ev.client = c) (hr : route ev = .internal) (ht : ev.time ≤ st.now + (π.S : Int)) :
    PI π A Hn kw J st' ∧ SameFw st st' ∧ st'.now = st.now := by
  subst hst
  exact ⟨(h.setSide c x hx).pushSim ev (by rw [hr, setSide_now]; exact ht), SameFw.setSide st c x hfw hA hT,
    setSide_now _ _ _⟩

theorem doInternalTimer_error {st : St σ} {t : Int} {f : SimFault} (h : doInternalTimer st t = .error f) :
    f = .noInternal := by
  unfold doInternalTimer at h
  split at h
  · cases h
  · split at h <;> cases h
    rfl

theorem pickTimer_ti {π : TPar} {A : Nat} {Hn : Int} {kw J : Nat} {st : St σ} (h : PI π A Hn kw J st) {i : Nat} :
    Sound (pickTimer st i) fun st' => PI π A Hn kw J st' ∧ SameFw st st' ∧ st'.now = st.now := by
  cases hr : pickTimer st i with
  | error f => exact doInternalTimer_error (pickTimer_error_iff.1 hr) ▸ rfl
  | ok st' =>
    obtain ⟨ev, st1, hd, rfl⟩ := pickTimer_ok_iff.1 hr
    obtain ⟨c, id, t', hf, rfl, rfl⟩ := doInternalTimer_ok hd
    have ht : some (st.now + (i : Int)) ∈ (st.side c).schedTimer := by
      obtain ⟨k, _, hl⟩ := findSlot_spec _ _ _ _ _ hf
      have hteq : t' = st.now + (i : Int) := by simpa using findSlot_sat _ _ _ _ _ hf
      exact hteq ▸ List.mem_of_getElem? hl
    have hS := S_ge_TD π
    have htb := (h.sides c).tims _ ht
    exact h.sideEvent c _ _ _ rfl
      ⟨(h.sides c).acts, fun t' ht' => (h.sides c).tims t' (mem_set_none ht'), (h.sides c).untl⟩
      rfl rfl (by simp) rfl rfl (by show st.now + (i : Int) ≤ _; omega)

theorem findAction_mem {st : St σ} {target : Int} {c : Bool} {i : Nat} {a : SchedAction}
    (h : findAction st target = some (c, i, a)) : some a ∈ (st.side c).schedAction := by
  unfold findAction at h
  split at h
  · rename_i j b hfs
    cases h
    obtain ⟨k, hk, hl⟩ := findSlot_spec _ _ _ _ _ hfs
    exact List.mem_of_getElem? (by simpa [St.side] using hl)
  · split at h
    · rename_i j b hfs
      cases h
      obtain ⟨k, hk, hl⟩ := findSlot_spec _ _ _ _ _ hfs
      exact List.mem_of_getElem? (by simpa [St.side] using hl)
    · cases h

theorem blockUpdate_le {until_ : Option Int} {byp : Bool} {t : Int} {durNs : Nat} {bypass replace : Bool} {now : Int}
    (hu : ∀ u, until_ = some u → u ≤ now + (TB.W : Int)) (ht : t ≤ now + (TB.TO : Int)) (hd : durNs ≤ TB.BD) :
    ∀ u, (blockUpdate until_ byp t durNs bypass replace).1 = some u → u ≤ now + (TB.W : Int) := by
  intro u hu'
  unfold blockUpdate at hu'
  simp only [] at hu'
  split at hu'
  · simp only [Option.some.injEq] at hu'
    unfold TB.W
    push_cast
    omega
  · exact hu u hu'

theorem pickAction_ti {π : TPar} {A : Nat} {Hn : Int} {kw J : Nat} {st : St σ} (h : PI π A Hn kw J st) {s : Nat} :
    Sound (pickAction st s) fun st' => PI π A Hn kw J st' ∧ SameFw st st' ∧ st'.now = st.now := by
  have hS := S_ge_TO π
  unfold pickAction doScheduledAction
  cases hfa : findAction st (st.now + (s : Int)) with
  | none => exact rfl
  | some pr =>
    obtain ⟨c, idx, a⟩ := pr
    obtain ⟨hat, hab⟩ := (h.sides c).acts a (findAction_mem hfa)
    have hx0 : SlotI st.now ({ (st.side c) with schedAction := (st.side c).schedAction.set idx none } : Side σ) :=
      ⟨fun a' ha' => (h.sides c).acts a' (mem_set_none ha'), (h.sides c).tims, (h.sides c).untl⟩
    simp only []
    cases haa : a.action with
    | cancel m t => exact rfl
    | updateTimer du rp m => exact rfl
    | sendPadding to bypass replace machine =>
      exact h.sideEvent c _ _ _ rfl hx0 rfl (by simp) rfl rfl rfl (by show a.time ≤ _; omega)
    | blockOutgoing to du bypass replace machine =>
      rw [haa] at hab
      exact h.sideEvent c _ _ _ rfl ⟨hx0.acts, hx0.tims,
        blockUpdate_le (h.sides c).untl hat (Nat.mul_le_mul_right _ hab : du * 1000 ≤ TB.BD)⟩ rfl (by simp) rfl rfl rfl
        (by show a.time ≤ _; omega)

end


section
variable {σ : Type}

theorem PI.monoJ {π : TPar} {A : Nat} {Hn : Int} {kw J J' : Nat} {st : St σ} (h : PI π A Hn kw J st) (hJ : J ≤ J') :
    PI π A Hn kw J' st :=
  ⟨h.t0le, h.nowle, h.wf, h.ord, h.q, h.sides, h.net.mono hJ⟩

/-- what `pick_next` called in `st` guarantees of its result: the invariant, the frameworks and
    the clock unchanged, and the returned event within `S + W` of the horizon `Hn` — within `W` of
    the clock whenever a TunnelSent is still queued afterwards -/
def NextOK (π : TPar) (A : Nat) (Hn : Int) (kw J : Nat) (st : St σ) (r : Option SimEvent × St σ) : Prop :=
  PI π A Hn kw J r.2 ∧ SameFw st r.2 ∧ r.2.now = st.now ∧
  ∀ ev, r.1 = some ev → ev.time ≤ Hn + ((π.S + TB.W : Nat) : Int) ∧
    (r.2.sq.hasBlocked → ev.time ≤ st.now + (TB.W : Int))

/-- `pick_next` under the time-bound invariant: it raises no environmental fault and keeps
    the invariant, using at most one unit `D` of the aggregate-delay budget. -/
theorem pickNext_ti {π : TPar} {A : Nat} {Hn : Int} {kw J : Nat} (hok : π.OK) (hJM : J + π.D ≤ π.JM)
    (hHb : π.Tm + π.JM ≤ Hn) (hAD : A + TB.W ≤ π.D) :
    ∀ (fuel : Nat) (st : St σ) r, pickNext fuel st = some r → PI π A Hn kw J st →
    Sound r (NextOK π A Hn kw (J + π.D) st) := by
  have hJd : J ≤ durMax := by have := hok.jm; omega
  -- a branch that only prepares the state and picks again
  have again : ∀ {st st1 : St σ} {r : Except SimFault (Option SimEvent × St σ)}, SameFw st st1 → st1.now = st.now →
      Sound r (NextOK π A Hn kw (J + π.D) st1) → Sound r (NextOK π A Hn kw (J + π.D) st) :=
    fun hs1 hn1 ih => ih.mono fun _ ⟨hp2, hs2, hn2, hev⟩ => ⟨hp2, hs1.trans hs2, hn2.trans hn1, hn1 ▸ hev⟩
  refine pickNext_induct ?_ ?_ ?_ ?_ ?_ ?_ ?_ ?_ ?_ ?_ ?_ ?_
  · intro st f hd _
    obtain ⟨p, hp⟩ := pickDecide_ok st
    rw [hp] at hd
    cases hd
  · intro st _ h
    exact ⟨h.monoJ (Nat.le_add_right _ _), SameFw.refl _, rfl, fun _ hev => nomatch hev⟩
  · intro st f _ ha h
    exact (pickAgg_ti h hJd).bug ha
  · intro st st1 r _ ha ih h
    obtain ⟨hp1, hs1, hn1, _⟩ := (pickAgg_ti h hJd).ok ha
    exact again hs1 hn1 (ih hp1)
  · intro st b c f hd hb h
    exact (pickBlockExp_ti h hok hd hAD).bug hb
  · intro st b c e st' hd hb h
    obtain ⟨hp1, hs1, hn1, _, (het : e.time ≤ st.now + (TB.W : Int))⟩ := (pickBlockExp_ti h hok hd hAD).ok hb
    have := h.nowle
    exact ⟨hp1, hs1, hn1, fun ev hev => by cases hev; exact ⟨by push_cast; omega, fun _ => het⟩⟩
  · intro st q qid c f hd hq h
    exact (pickQueue_ti h hd (by omega) hHb).bug hq
  · intro st q qid c e st' hd hq h
    obtain ⟨hp1, hs1, hn1, het, hblk⟩ := (pickQueue_ti h hd (by omega) hHb).ok hq
    exact ⟨hp1.monoJ (Nat.le_add_right _ _), hs1, hn1, fun ev hev => by cases hev; exact ⟨het, hblk⟩⟩
  · intro st i f _ ht h
    exact (pickTimer_ti h).bug ht
  · intro st st1 i r _ ht ih h
    obtain ⟨hp1, hs1, hn1⟩ := (pickTimer_ti h).ok ht
    exact again hs1 hn1 (ih hp1)
  · intro st s f _ ha h
    exact (pickAction_ti h).bug ha
  · intro st st1 s r _ ha ih h
    obtain ⟨hp1, hs1, hn1⟩ := (pickAction_ti h).ok ha
    exact again hs1 hn1 (ih hp1)

end

end Mb.Sim
