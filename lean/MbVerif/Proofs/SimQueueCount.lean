/-
  Counting over the event queues: a well-formedness invariant of the routing (`WF`) and the
  number of normal packets still waiting to be sent on a side (`pending`), with their behaviour
  under push and pop.
-/
import MbVerif.Proofs.HeapCount
import MbVerif.Proofs.SimBasic
import MbVerif.Proofs.SimPeek

namespace Mb.Sim
open Mb

def isTS (e : SimEvent) : Bool := e.event == .tunnelSent
def isNS (e : SimEvent) : Bool := e.event == .normalSent
/-- a normal packet that has not left its side yet: a base NormalSent or a normal TunnelSent -/
def wN (e : SimEvent) : Bool := isNS e || (isTS e && !e.containsPadding)

/-- routing invariant of one side's queues (for side `c`): base holds only NormalSent, blocking
    only non-bypass TunnelSent, bypassable only bypass TunnelSent, internal neither kind, and
    every event belongs to the side -/
structure EventQueue.WF (q : EventQueue) (c : Bool) : Prop where
  base : q.base.data.countP (fun e => !isNS e || e.client != c) = 0
  blocking : q.blocking.data.countP (fun e => !isTS e || e.bypass || e.client != c) = 0
  bypassable : q.bypassable.data.countP (fun e => !isTS e || !e.bypass || e.client != c) = 0
  internal : q.internal.data.countP (fun e => isTS e || isNS e || e.client != c) = 0

def EventQueue.pending (q : EventQueue) : Nat :=
  q.base.data.countP wN + q.blocking.data.countP wN + q.bypassable.data.countP wN

theorem b2n_le_one (b : Bool) : b2n b ≤ 1 := by cases b <;> simp [b2n]

theorem countP_zero_of_le {α : Type} {p : α → Bool} {l l' : List α} {k : Nat}
    (h : l.countP p = l'.countP p + k) (hz : l.countP p = 0) : l'.countP p = 0 := by omega

theorem EventQueue.empty_wf (c : Bool) : EventQueue.empty.WF c := ⟨rfl, rfl, rfl, rfl⟩
theorem EventQueue.empty_pending : EventQueue.empty.pending = 0 := rfl

theorem EventQueue.push_spec (q : EventQueue) (c : Bool) (e : SimEvent) (hw : q.WF c) (hc : e.client = c) :
    (q.push e).WF c ∧ (q.push e).pending = q.pending + b2n (wN e) := by
  unfold EventQueue.push
  cases hev : e.event with
  | tunnelSent =>
    simp only []
    by_cases hb : e.bypass = true
    · simp only [hb, if_true]
      constructor
      · refine ⟨hw.base, hw.blocking, ?_, hw.internal⟩
        simp only [EvHeap.push]
        rw [heap_push_countP, hw.bypassable]
        simp [b2n, isTS, hev, hb, hc]
      · simp only [EventQueue.pending, EvHeap.push]
        rw [heap_push_countP]; omega
    · have hb' : e.bypass = false := by simpa using hb
      simp only [hb', Bool.false_eq_true, if_false]
      constructor
      · refine ⟨hw.base, ?_, hw.bypassable, hw.internal⟩
        simp only [EvHeap.push]
        rw [heap_push_countP, hw.blocking]
        simp [b2n, isTS, hev, hb', hc]
      · simp only [EventQueue.pending, EvHeap.push]
        rw [heap_push_countP]; omega
  | normalSent =>
    simp only []
    constructor
    · refine ⟨?_, hw.blocking, hw.bypassable, hw.internal⟩
      simp only [EvHeap.push]
      rw [heap_push_countP, hw.base]
      simp [b2n, isNS, hev, hc]
    · simp only [EventQueue.pending, EvHeap.push]
      rw [heap_push_countP]; omega
  | normalRecv | paddingRecv | tunnelRecv | blockingEnd | paddingSent _ | blockingBegin _ | timerBegin _ | timerEnd _ =>
    simp only []
    constructor
    · refine ⟨hw.base, hw.blocking, hw.bypassable, ?_⟩
      simp only [EvHeap.push]
      rw [heap_push_countP, hw.internal]
      simp [b2n, isTS, isNS, hev, hc]
    · simp only [EventQueue.pending]
      simp [b2n, wN, isTS, isNS, hev]

/-- same packet up to the time stamp (the base queue shifts the time on pop) -/
def sameButTime (a b : SimEvent) : Prop :=
  a.event = b.event ∧ a.client = b.client ∧ a.containsPadding = b.containsPadding ∧ a.bypass = b.bypass ∧ a.replace = b.replace

/-- the events that must not be in heap `qi` of side `c`: the four predicates of `EventQueue.WF`
    indexed by the heap, so that one argument serves all four (`wf_iff`) -/
def EventQueue.misrouted (c : Bool) : Queue → SimEvent → Bool
  | .base => fun e => !isNS e || e.client != c
  | .blocking => fun e => !isTS e || e.bypass || e.client != c
  | .bypassable => fun e => !isTS e || !e.bypass || e.client != c
  | .internal => fun e => isTS e || isNS e || e.client != c

theorem EventQueue.wf_iff {q : EventQueue} {c : Bool} :
    q.WF c ↔ ∀ qi, (q.heap qi).data.countP (EventQueue.misrouted c qi) = 0 :=
  ⟨fun h qi => by cases qi; exact h.blocking; exact h.bypassable; exact h.internal; exact h.base,
   fun h => ⟨h .base, h .blocking, h .bypassable, h .internal⟩⟩

theorem EventQueue.pop_spec (q q' : EventQueue) (c : Bool) (qi : Queue) (ds : Nat) (e : SimEvent) (hw : q.WF c)
    (h : q.pop qi ds = .ok (some (e, q'))) :
    q'.WF c ∧ q.pending = q'.pending + b2n (wN e) ∧ e.client = c ∧
    (qi = .internal → isTS e = false ∧ isNS e = false) ∧
    (qi = .base → isNS e = true) ∧
    (qi = .blocking → isTS e = true ∧ e.bypass = false) ∧
    (qi = .bypassable → isTS e = true ∧ e.bypass = true) := by
  obtain ⟨x, hh, hp, rfl, hq'⟩ := EventQueue.pop_some h
  -- the popped element was rightly in its heap; the rest of the heap still is
  have hc1 := (heap_pop_countP (EventQueue.misrouted c qi) SimEvent.le hp).1
  have hz := EventQueue.wf_iff.1 hw qi
  have hx0 : EventQueue.misrouted c qi x = false := by
    cases hm : EventQueue.misrouted c qi x
    · rfl
    · rw [hm] at hc1; simp [b2n] at hc1; omega
  have hc2 := (heap_pop_countP wN SimEvent.le hp).1
  show _ ∧ _ = _ + b2n (wN x) ∧ x.client = c ∧ (_ → isTS x = false ∧ isNS x = false) ∧ (_ → isNS x = true) ∧
    (_ → isTS x = true ∧ x.bypass = false) ∧ (_ → isTS x = true ∧ x.bypass = true)
  have hb : q'.base = _ := hq' .base
  have hbl : q'.blocking = _ := hq' .blocking
  have hby : q'.bypassable = _ := hq' .bypassable
  refine ⟨EventQueue.wf_iff.2 fun qj => ?_, ?_, ?_⟩
  · rw [hq' qj]
    split
    · rename_i hj; subst hj; omega
    · exact EventQueue.wf_iff.1 hw qj
  · simp only [EventQueue.pending, hb, hbl, hby]
    cases qi <;> simp only [EventQueue.heap, EventQueue.misrouted, reduceCtorEq, if_true, if_false] at hc2 hx0 ⊢
    · omega
    · omega
    · simp only [Bool.or_eq_false_iff] at hx0
      simp [wN, hx0.1.1, hx0.1.2, b2n]
    · omega
  · cases qi <;> simp [EventQueue.misrouted] at hx0 <;> simp [hx0]
end Mb.Sim
