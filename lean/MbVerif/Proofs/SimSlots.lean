/-
  Lemmas about the per-machine slots: `applyAction` against the contract, the event produced by
  `do_scheduled_action`, and the fold that `peek_scheduled_action` and
  `peek_scheduled_internal_timer` share.
-/
import MbVerif.Proofs.SimBlocking
import MbVerif.Proofs.SimWalk
import MbVerif.Spec.C17

namespace Mb.Sim
open Mb

section
variable {σ : Type}

theorem list_set_self {α : Type} (l : List α) (i : Nat) (x : α) (h : l[i]? = some x) : l.set i x = l := by
  induction l generalizing i with
  | nil => simp
  | cons y ys ih =>
    cases i with
    | zero => simp at h; simp [h]
    | succ i => simp at h; simp [ih i h]

theorem map_set_join {β : Type} (pend : Option SchedAction → Option β) (hnone : pend none = none)
    (l : List (Option SchedAction)) (m : Nat) : l.map pend = (l.map pend).set m (pend (l[m]?.join)) := by
  cases hm : l[m]? with
  | none => rw [List.set_eq_of_length_le (by simpa using hm)]
  | some x => exact (list_set_self _ _ _ (by simp [hm])).symm

theorem applyAction_slot {sd sd' : Side σ} {sq sq' : SimQueue} {now : Int} {cl : Bool} {a : TAction}
    {pend : Option SchedAction → Option C17.Pending}
    (h : applyAction sd sq now cl a = .ok (sd', sq'))
    (hp : ∀ x, pend x = match x with | some a => some ⟨a.action, a.time⟩ | none => none) :
    sd'.schedAction.map pend =
      (sd.schedAction.map pend).set a.machine (C17.slotSpec (pend (sd.schedAction[a.machine]?.join)) now a) := by
  have hnone : pend none = none := by rw [hp]
  cases a with
  | cancel m t =>
    obtain ⟨_, _, rfl, _⟩ := applyAction_cancel_iff.1 h
    cases t
    · simp [TAction.machine, C17.slotSpec, List.map_set, hnone]
    · exact map_set_join pend hnone _ m
    · simp [TAction.machine, C17.slotSpec, List.map_set, hnone]
  | sendPadding to b r m =>
    obtain ⟨_, rfl, _⟩ := applyAction_sendPadding_iff.1 h
    simp [TAction.machine, C17.slotSpec, List.map_set, hp]
  | blockOutgoing to d b r m =>
    obtain ⟨_, rfl, _⟩ := applyAction_blockOutgoing_iff.1 h
    simp [TAction.machine, C17.slotSpec, List.map_set, hp]
  | updateTimer d r m =>
    obtain ⟨cur, _, h2⟩ := applyAction_updateTimer_iff.1 h
    have hsame : sd'.schedAction = sd.schedAction := by
      split at h2 <;> rw [h2.1]
    rw [hsame]
    exact map_set_join pend hnone _ m

/-- `applyAction` (the per-action arm of `trigger_update`) pushes a TimerBegin, stamped with the clock, for the machine and on the side of
    the caller, exactly when an UpdateTimer sets the timer; otherwise it leaves the queue alone -/
theorem applyAction_queue {sd sd' : Side σ} {sq sq' : SimQueue} {now : Int} {cl : Bool} {a : TAction}
    (h : applyAction sd sq now cl a = .ok (sd', sq')) :
    sq' = sq ∨ ∃ d r m, a = .updateTimer d r m ∧ (timerUpdate (sd.schedTimer[m]?.join) now (d * 1000) r).2 = true
      ∧ sq' = sq.pushSim ⟨.timerBegin m, now, cl, false, false, false⟩ := by
  cases a with
  | cancel m t => exact Or.inl (applyAction_cancel_iff.1 h).2.2.2
  | sendPadding to b r m => exact Or.inl (applyAction_sendPadding_iff.1 h).2.2
  | blockOutgoing to d b r m => exact Or.inl (applyAction_blockOutgoing_iff.1 h).2.2
  | updateTimer d r m =>
    obtain ⟨cur, hc, h2⟩ := applyAction_updateTimer_iff.1 h
    split at h2
    · exact Or.inr ⟨d, r, m, rfl, by rw [hc]; assumption, h2.2⟩
    · exact Or.inl h2.2

theorem doScheduledAction_event {st st' : St σ} {target : Int} {e : SimEvent}
    (h : doScheduledAction st target = .ok (e, st')) :
    e.time = target ∧ ∃ i a, (st.side e.client).schedAction[i]? = some (some a) ∧ a.time = target ∧
      (st'.side e.client).schedAction = (st.side e.client).schedAction.set i none ∧
      ((∃ to b r m, a.action = .sendPadding to b r m ∧ e.event = .paddingSent m ∧ e.bypass = b ∧ e.replace = r) ∨
       (∃ to d b r m, a.action = .blockOutgoing to d b r m ∧ e.event = .blockingBegin m)) := by
  obtain ⟨c, i, a, sd, hf, rfl, hsa, _, _, ht, hc, hev⟩ := doScheduledAction_ok h
  obtain ⟨hslot, hat⟩ := findAction_spec hf
  rw [hc, side_setSide_same]
  exact ⟨ht.trans hat, i, a, hslot, hat, hsa, hev⟩

end

/-! `peek_scheduled_action` and `peek_scheduled_internal_timer` are the same fold: both run the same
step over the client's slots and then the server's, starting from `MAX`; the slots differ only in
where their time is. -/

section
variable {α : Type} (time : α → Int) (now : Int)

/-- one step: a slot that is not in the past and earlier than `earliest` replaces it -/
def peekStepG (earliest : Nat) (x : Option α) : Nat :=
  match x with
  | some a => if time a ≥ now && dsince (time a) now < earliest then dsince (time a) now else earliest
  | none => earliest

/-- the whole peek: client slots, then server slots, from `MAX` -/
def peekFold (c s : List (Option α)) : Nat :=
  s.foldl (peekStepG time now) (c.foldl (peekStepG time now) durMax)

theorem peekStepG_le (acc : Nat) (x : Option α) : peekStepG time now acc x ≤ acc := by
  unfold peekStepG
  cases x with
  | none => exact Nat.le_refl _
  | some a =>
    simp only []
    split
    · rename_i h
      simp only [Bool.and_eq_true, decide_eq_true_eq] at h
      exact Nat.le_of_lt h.2
    · exact Nat.le_refl _

theorem foldl_peekStepG_le_init : ∀ (l : List (Option α)) (init : Nat),
    l.foldl (peekStepG time now) init ≤ init := by
  intro l
  induction l with
  | nil => intro init; exact Nat.le_refl _
  | cons x xs ih => intro init; exact Nat.le_trans (ih _) (peekStepG_le time now init x)

theorem foldl_peekStepG_le_mem (a : α) (hn : now ≤ time a) :
    ∀ (l : List (Option α)) (init : Nat), some a ∈ l → l.foldl (peekStepG time now) init ≤ dsince (time a) now := by
  intro l
  induction l with
  | nil => intro init h; cases h
  | cons x xs ih =>
    intro init h
    rcases List.mem_cons.1 h with h | h
    · subst h
      refine Nat.le_trans (foldl_peekStepG_le_init time now xs _) ?_
      unfold peekStepG
      simp only []
      split
      · exact Nat.le_refl _
      · rename_i hc
        simp only [Bool.and_eq_true, decide_eq_true_eq, not_and, Nat.not_lt] at hc
        exact hc hn
    · exact ih _ h

theorem foldl_peekStepG_attained : ∀ (l : List (Option α)) (init : Nat),
    l.foldl (peekStepG time now) init = init ∨
    ∃ a, some a ∈ l ∧ time a ≥ now ∧ l.foldl (peekStepG time now) init = dsince (time a) now := by
  intro l
  induction l with
  | nil => intro init; exact Or.inl rfl
  | cons x xs ih =>
    intro init
    rcases ih (peekStepG time now init x) with h | ⟨t, hm, hge, h⟩
    · rw [List.foldl_cons, h]
      cases x with
      | none => exact Or.inl rfl
      | some t =>
        simp only [peekStepG]
        split
        · rename_i hc
          simp only [Bool.and_eq_true, decide_eq_true_eq] at hc
          exact Or.inr ⟨t, List.mem_cons_self, hc.1, rfl⟩
        · exact Or.inl rfl
    · exact Or.inr ⟨t, List.mem_cons_of_mem _ hm, hge, h⟩

variable (c s : List (Option α))

theorem peekFold_le : peekFold time now c s ≤ durMax :=
  Nat.le_trans (foldl_peekStepG_le_init time now s _) (foldl_peekStepG_le_init time now c _)

theorem peekFold_le_mem (a : α) (hm : some a ∈ c ∨ some a ∈ s) (hn : now ≤ time a) :
    peekFold time now c s ≤ dsince (time a) now := by
  rcases hm with hm | hm
  · exact Nat.le_trans (foldl_peekStepG_le_init time now s _) (foldl_peekStepG_le_mem time now a hn c _ hm)
  · exact foldl_peekStepG_le_mem time now a hn s _ hm

theorem peekFold_attained : peekFold time now c s = durMax ∨
    ∃ a, (some a ∈ c ∨ some a ∈ s) ∧ time a ≥ now ∧ peekFold time now c s = dsince (time a) now := by
  unfold peekFold
  rcases foldl_peekStepG_attained time now s (c.foldl (peekStepG time now) durMax) with hs | ⟨a, hm, hge, hs⟩
  · rw [hs]
    rcases foldl_peekStepG_attained time now c durMax with hc | ⟨a, hm, hge, hc⟩
    · exact Or.inl hc
    · exact Or.inr ⟨a, Or.inl hm, hge, hc⟩
  · exact Or.inr ⟨a, Or.inr hm, hge, hs⟩

end

theorem peekFold_none {α : Type} (time : α → Int) (now : Int) {c s : List (Option α)}
    (hc : ∀ a, some a ∉ c) (hs : ∀ a, some a ∉ s) : peekFold time now c s = durMax := by
  rcases peekFold_attained time now c s with h | ⟨a, ha | ha, _⟩
  · exact h
  · exact absurd ha (hc a)
  · exact absurd ha (hs a)

theorem peekScheduledAction_fold (c s : List (Option SchedAction)) (now : Int) :
    peekScheduledAction c s now = peekFold SchedAction.time now c s := by
  have : peekStepG SchedAction.time now = fun earliest a => match a with
      | some a => if a.time ≥ now && dsince a.time now < earliest then dsince a.time now else earliest
      | none => earliest := by
    funext e x; cases x <;> rfl
  unfold peekFold
  rw [this]
  rfl

theorem peekScheduledInternalTimer_fold (c s : List (Option Int)) (now : Int) :
    peekScheduledInternalTimer c s now = peekFold id now c s := by
  have : peekStepG id now = fun earliest t => match t with
      | some t => if t ≥ now && dsince t now < earliest then dsince t now else earliest
      | none => earliest := by
    funext e x; cases x <;> rfl
  unfold peekFold
  rw [this]
  rfl

theorem peekScheduledAction_le_mem (c s : List (Option SchedAction)) (now : Int) (a : SchedAction)
    (hm : some a ∈ c ∨ some a ∈ s) (hn : now ≤ a.time) :
    peekScheduledAction c s now ≤ dsince a.time now := by
  rw [peekScheduledAction_fold]
  exact peekFold_le_mem SchedAction.time now c s a hm hn

theorem peekScheduledInternalTimer_le_mem (c s : List (Option Int)) (now : Int) (t : Int)
    (hm : some t ∈ c ∨ some t ∈ s) (hn : now ≤ t) :
    peekScheduledInternalTimer c s now ≤ dsince t now := by
  rw [peekScheduledInternalTimer_fold]
  exact peekFold_le_mem id now c s t hm hn

theorem peekScheduledAction_none {c s : List (Option SchedAction)} {now : Int}
    (hc : ∀ a, some a ∉ c) (hs : ∀ a, some a ∉ s) : peekScheduledAction c s now = durMax := by
  rw [peekScheduledAction_fold]
  exact peekFold_none _ now hc hs

theorem peekScheduledInternalTimer_none {c s : List (Option Int)} {now : Int}
    (hc : ∀ a, some a ∉ c) (hs : ∀ a, some a ∉ s) : peekScheduledInternalTimer c s now = durMax := by
  rw [peekScheduledInternalTimer_fold]
  exact peekFold_none _ now hc hs

end Mb.Sim
