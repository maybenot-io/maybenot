/-
  C09, lower bound / exactness: every invocation of `transition` for a machine that exists records
  its own `trans` entry in the ghost log, so the delivery round delivers exactly one Signal to each
  machine it visits.
-/
import MbVerif.Proofs.SigCount
import MbVerif.Proofs.Exhausted

namespace Mb
variable {σ : Type} (ρ : Oracle σ)

theorem wsum_append (μ : LogEntry → Nat) (l l' : List LogEntry) : wsum μ (l ++ l') = wsum μ l + wsum μ l' := by
  simp [wsum]

theorem wsum_mem_le (μ : LogEntry → Nat) (e : LogEntry) (l : List LogEntry) (h : e ∈ l) : μ e ≤ wsum μ l := by
  induction l with
  | nil => cases h
  | cons a l ih =>
    rw [wsum_cons]
    rcases List.mem_cons.mp h with rfl | h'
    · omega
    · have := ih h'; omega

theorem sigOf_mono_of_ext (mi0 : Nat) {s t : Fw σ} (h : ∃ l, t.log = l ++ s.log) : sigOf mi0 s ≤ sigOf mi0 t := by
  obtain ⟨l, e⟩ := h
  unfold sigOf
  rw [e, wsum_append]; omega

theorem transition_after_push (n j : Nat) (ev : Event) (s : Fw σ) (r : Runtime) (m : Machine)
    (hr : s.rt[j]? = some r) (hm : s.machines[j]? = some m) :
    LogExt (s.push (.trans j ev.toNat r.currentState)) (transition ρ (n + 1) j ev s).1 :=
  LogExt.ofReach (transition_reach_pushed ρ n j ev s r m hr hm)

theorem transition_logs_own_entry (n j : Nat) (ev : Event) (s : Fw σ) (r : Runtime) (m : Machine)
    (hr : s.rt[j]? = some r) (hm : s.machines[j]? = some m) :
    ∃ l, (transition ρ (n + 1) j ev s).1.log = l ++ s.log ∧ LogEntry.trans j ev.toNat r.currentState ∈ l := by
  obtain ⟨l, e⟩ := transition_after_push ρ n j ev s r m hr hm
  refine ⟨l ++ [.trans j ev.toNat r.currentState], ?_, by simp⟩
  rw [e]; simp [Fw.push]

/-- machine `j` exists: it has a runtime and a description -/
def Present (j : Nat) (s : Fw σ) : Prop := j < s.rt.length ∧ j < s.machines.length

theorem Present.ofRun {j : Nat} {s t : Fw σ} (h : Run s t) (hp : Present j s) : Present j t := by
  unfold Present
  rw [run_rtLen h, h.machines]; exact hp

theorem Present.get {j : Nat} {s : Fw σ} (hp : Present j s) :
    ∃ r m, s.rt[j]? = some r ∧ s.machines[j]? = some m :=
  ⟨s.rt[j]'hp.1, s.machines[j]'hp.2, List.getElem?_eq_getElem hp.1, List.getElem?_eq_getElem hp.2⟩

theorem wsum_le_of_le {μ ν : LogEntry → Nat} (h : ∀ e, μ e ≤ ν e) (l : List LogEntry) : wsum μ l ≤ wsum ν l := by
  induction l with
  | nil => exact Nat.le_refl _
  | cons a l ih => rw [wsum_cons, wsum_cons]; have := h a; omega

/-- what a smaller weight misses on a log, it misses at least on each single entry -/
theorem wsum_gap {μ ν : LogEntry → Nat} (h : ∀ e, μ e ≤ ν e) (e : LogEntry) (l : List LogEntry) (he : e ∈ l) :
    wsum μ l + ν e ≤ wsum ν l + μ e := by
  induction l with
  | nil => cases he
  | cons a l ih =>
    rw [wsum_cons, wsum_cons]
    rcases List.mem_cons.mp he with rfl | h'
    · have := wsum_le_of_le h l; omega
    · have := ih h'; have := h a; omega

/-- Delivering a Signal to machine `j`, weighed by any weight below `μSig mi0` (`mi0` existing, in
    state `r.currentState`): the delivery's own entry counts if `j = mi0`, and nothing else does.
    The upper bound is `sig_transition`; the own entry is in the segment. -/
theorem wsum_signal_delivery (mi0 j : Nat) (s : Fw σ) (r : Runtime) (m : Machine)
    (hr : s.rt[mi0]? = some r) (hm : s.machines[mi0]? = some m)
    (μ : LogEntry → Nat) (hμ : ∀ e, μ e ≤ μSig mi0 e) :
    wsum μ (transition ρ FUEL j .signal s).1.log =
      wsum μ s.log + (if j = mi0 then μ (.trans mi0 Event.signal.toNat r.currentState) else 0) := by
  obtain ⟨l, e⟩ := (transition_reach ρ FUEL j .signal s).logExt
  have hup := sig_transition ρ mi0 j .signal s
  unfold sigOf at hup
  simp only [and_true] at hup
  rw [e, wsum_append] at hup ⊢
  have hle := wsum_le_of_le hμ l
  by_cases hj : j = mi0
  · subst hj
    obtain ⟨l', e', hmem⟩ := transition_logs_own_entry ρ 7 j .signal s r m hr hm
    rw [← FUEL_succ] at e'
    rw [List.append_cancel_right (e'.symm.trans e)] at hmem
    have hgap := wsum_gap hμ _ l hmem
    have hown : μSig j (.trans j Event.signal.toNat r.currentState) = 1 := by
      simp [μSig, (toNat_signal _).mpr rfl]
    have := wsum_mem_le μ _ l hmem
    rw [if_pos rfl] at hup ⊢
    omega
  · rw [if_neg hj] at hup ⊢
    omega

theorem sig_transition_signal_eq (mi0 j : Nat) (s : Fw σ) (hp : Present mi0 s) :
    sigOf mi0 (transition ρ FUEL j .signal s).1 = sigOf mi0 s + (if j = mi0 then 1 else 0) := by
  obtain ⟨r, m, hr, hm⟩ := hp.get
  have h := wsum_signal_delivery ρ mi0 j s r m hr hm (μSig mi0) (fun _ => Nat.le_refl _)
  have hown : μSig mi0 (.trans mi0 Event.signal.toNat r.currentState) = 1 := by
    simp [μSig, (toNat_signal _).mpr rfl]
  rw [hown] at h
  exact h

theorem sig_transition_own (j : Nat) (s : Fw σ) (hp : Present j s) :
    sigOf j (transition ρ FUEL j .signal s).1 = sigOf j s + 1 := by
  have := sig_transition_signal_eq ρ j j s hp
  simpa using this

end Mb

namespace Mb.C09
open Mb
variable {σ : Type} (ρ : Oracle σ)

/-- the state after the first delivery round: the slot is reset and Signal is delivered to every
    machine but the excluded one -/
def afterFirst (s : Fw σ) (excluded : Option Nat) : Fw σ :=
  (firstRound s.rt.length excluded).foldl (fun s mi => (transition ρ FUEL mi .signal s).1)
    ({ s with signalPending := none } : Fw σ)

/-- the state after the reported events of a call, before the delivery round -/
def eventsDone (es : List TEvent) (t : Int) (s : Fw σ) : Fw σ :=
  es.foldl (fun s e => processEvent ρ e s) (s.callStart t)

theorem triggerEvents_eq (es : List TEvent) (t : Int) (s : Fw σ) :
    triggerEvents ρ es t s = signalRound ρ (eventsDone ρ es t s) := rfl

theorem eventsDone_run (es : List TEvent) (t : Int) (s : Fw σ) : Run s (eventsDone ρ es t s) :=
  (Run.single (Prim.callStart s t)).trans (Run.foldl _ (fun s e => processEvent_run ρ e s) _ _)

theorem present_afterFirst (s : Fw σ) (excluded : Option Nat) (j : Nat) (hp : Present j s) :
    Present j (afterFirst ρ s excluded) :=
  Present.ofRun (Run.foldl _ (fun s mi => Run.ofReach (transition_reach ρ FUEL mi .signal s)) _ _)
    (show Present j ({ s with signalPending := none } : Fw σ) from hp)

/-- `c` counts the Signals delivered to machine `j` while `live`: a delivery to machine `a` raises
    it by one exactly when `a = j` and `live` holds before the delivery; resetting the slot changes
    neither, and deliveries to other machines do not change `live`. Instances: all deliveries
    (`sigOf`, `live` constantly true) and the deliveries to a machine that has not ended
    (`liveSigOf`, the monitor's count). -/
structure DeliveryCount (j : Nat) (c : Fw σ → Nat) (live : Fw σ → Bool) : Prop where
  reset : ∀ (s : Fw σ) p, c { s with signalPending := p } = c s ∧ live { s with signalPending := p } = live s
  deliver : ∀ a s, Present j s →
    c (transition ρ FUEL a .signal s).1 = c s + (if a = j ∧ live s = true then 1 else 0)
  other : ∀ a s, a ≠ j → live (transition ρ FUEL a .signal s).1 = live s

namespace DeliveryCount
variable {ρ} {j : Nat} {c : Fw σ → Nat} {live : Fw σ → Bool} (D : DeliveryCount ρ j c live)
include D

theorem fold (l : List Nat) (hl : l.Nodup) (s : Fw σ) (hp : Present j s) :
    c (l.foldl (fun s mi => (transition ρ FUEL mi .signal s).1) s) =
      c s + (if j ∈ l ∧ live s = true then 1 else 0) ∧
    (j ∉ l → live (l.foldl (fun s mi => (transition ρ FUEL mi .signal s).1) s) = live s) := by
  induction l generalizing s with
  | nil => simp
  | cons a l ih =>
    rw [List.nodup_cons] at hl
    obtain ⟨h1, h2⟩ := ih hl.2 _ (hp.ofRun (Run.ofReach (transition_reach ρ FUEL a .signal s)))
    rw [List.foldl_cons, h1, D.deliver a s hp]
    by_cases ha : a = j
    · subst ha
      simp [hl.1]
    · have hne : ¬ j = a := fun h => ha h.symm
      rw [D.other a s ha] at h1 h2 ⊢
      simp only [List.mem_cons, hne, ha, false_or, false_and, if_false, Nat.add_zero, true_and]
      exact h2

theorem afterFirst (s : Fw σ) (excluded : Option Nat) (hp : Present j s) :
    c (afterFirst ρ s excluded) = c s + (if excluded ≠ some j ∧ live s = true then 1 else 0) ∧
    (excluded = some j → live (afterFirst ρ s excluded) = live s) := by
  obtain ⟨h1, h2⟩ := D.fold _ (sr_targets_nodup s.rt.length excluded) { s with signalPending := none } hp
  rw [(D.reset s none).1, (D.reset s none).2] at h1
  rw [(D.reset s none).2] at h2
  refine ⟨?_, fun hx => h2 (hx ▸ sr_excluded_not_visited _ _)⟩
  rw [C09.afterFirst, h1]
  by_cases hx : excluded = some j
  · subst hx
    simp [sr_excluded_not_visited]
  · simp [sr_targets_complete s.rt.length excluded j hp.1 hx, hx]

/-- The delivery round delivers exactly. For an existing machine `j`:
    nothing pending: no Signal; `all` pending: exactly one Signal; `allExcept x` pending: exactly
    one Signal for `j ≠ x`, and for `x` itself exactly one if the first round left a signal pending
    (some machine answered a delivered Signal by signalling) and none otherwise. -/
theorem round (s : Fw σ) (hp : Present j s) :
    (s.signalPending = none → c (signalRound ρ s) = c s) ∧
    (s.signalPending = some .all → c (signalRound ρ s) = c s + (if live s = true then 1 else 0)) ∧
    (∀ x, s.signalPending = some (.allExcept x) →
      (j ≠ x → c (signalRound ρ s) = c s + (if live s = true then 1 else 0)) ∧
      (j = x → c (signalRound ρ s) =
        c s + (if (C09.afterFirst ρ s (some x)).signalPending.isSome = true ∧ live s = true then 1 else 0))) := by
  refine ⟨fun h => by rw [sr_round_none ρ s h], fun h => ?_, fun x h => ?_⟩
  · have h2 := (D.afterFirst s none hp).1
    rw [sr_round_all ρ s h]
    simp only [ne_eq, reduceCtorEq, not_false_eq_true, true_and] at h2 ⊢
    rw [← C09.afterFirst]
    split
    · exact h2
    · rw [(D.reset _ none).1]; exact h2
  · obtain ⟨h2, hl2⟩ := D.afterFirst s (some x) hp
    have h3 := D.deliver x { C09.afterFirst ρ s (some x) with signalPending := none }
      (present_afterFirst ρ s (some x) j hp)
    rw [(D.reset _ none).1, (D.reset _ none).2] at h3
    rw [sr_round_lone ρ s x h]
    simp only []
    rw [← C09.afterFirst]
    refine ⟨fun hne => ?_, fun heq => ?_⟩
    · have hne' : ¬ x = j := fun h' => hne h'.symm
      simp only [ne_eq, Option.some.injEq, hne', not_false_eq_true, true_and] at h2
      simp only [hne', false_and, if_false, Nat.add_zero] at h3
      split
      · exact h2
      · rw [h3]; exact h2
    · subst heq
      simp only [ne_eq, not_true_eq_false, false_and, if_false, Nat.add_zero] at h2
      simp only [true_and, hl2 rfl] at h3
      cases hs2 : (C09.afterFirst ρ s (some j)).signalPending with
      | none => simpa using h2
      | some _ => simp only [Option.isSome_some, true_and]; rw [h3, h2]

end DeliveryCount

theorem sigCount (j : Nat) : DeliveryCount ρ j (sigOf j) (fun _ => true) where
  reset _ _ := ⟨rfl, rfl⟩
  deliver a s hp := by simpa using sig_transition_signal_eq ρ j a s hp
  other _ _ _ := rfl

theorem sig_eventsDone (es : List TEvent) (t : Int) (s : Fw σ) (j : Nat) :
    sigOf j (eventsDone ρ es t s) = sigOf j s := by
  refine Nat.le_antisymm ?_ (sigOf_mono_of_ext j (eventsDone_run ρ es t s).logExt)
  exact sig_fold0 j _ (fun s e => sig_processEvent ρ j e s) _ (s.callStart t)

end Mb.C09
