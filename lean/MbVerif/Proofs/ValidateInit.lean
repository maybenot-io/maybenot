/-
  Helper lemmas for C12: the initialisation loop of `Framework::new` (`Fw.init`).
-/
import MbVerif.Proofs.Validate
import MbVerif.Framework

namespace Mb
namespace C12
open Validate Fp

theorem machineWith_has_state {c : Checks} {m : Machine} (h : machineWith c m = true) :
    0 < m.states.length :=
  (machineWith_guards h).2.2.1

section init
variable {σ : Type} (ρ : Oracle σ)

/-- invariant of the initialisation loop of `Framework::new` -/
structure InitInv (ms : List Machine) (s : Fw σ) : Prop where
  machines : s.machines = ms
  rtLen : s.rt.length = ms.length
  noFault : s.fault = none

theorem distSample_inv {ms : List Machine} (d : Dist) {s : Fw σ} (h : InitInv ms s) :
    InitInv ms (distSample ρ d s).2 := by
  unfold distSample
  simp only [Fw.push]
  exact ⟨h.machines, h.rtLen, h.noFault⟩

theorem sampleLimit_inv {ms : List Machine} (a : Action) {s : Fw σ} (h : InitInv ms s) :
    InitInv ms (sampleLimit ρ a s).2 := by
  unfold sampleLimit
  split
  · exact h
  · exact distSample_inv ρ _ h

theorem modRt_inv {ms : List Machine} {s : Fw σ} (h : InitInv ms s) {mi : Nat} (hmi : mi < ms.length)
    (f : Runtime → Runtime) : InitInv ms (s.modRt mi f) := by
  unfold Fw.modRt
  have hlt : mi < s.rt.length := by rw [h.rtLen]; exact hmi
  rw [List.getElem?_eq_getElem hlt]
  exact ⟨h.machines, by simp [h.rtLen], h.noFault⟩

/-- one step of the loop: with state 0 present nothing can go out of range -/
theorem initLimit_inv {ms : List Machine} {s : Fw σ} (hs : InitInv ms s) {mi : Nat} (hmi : mi < ms.length)
    (hst : 0 < ms[mi].states.length) : InitInv ms (initLimit ρ s mi) := by
  have hm : s.machines[mi]? = some ms[mi] := by rw [hs.machines]; exact List.getElem?_eq_getElem hmi
  unfold initLimit
  rw [hm]
  simp only []
  rw [List.getElem?_eq_getElem hst]
  simp only []
  split
  · exact hs
  · rename_i a _
    exact modRt_inv (sampleLimit_inv ρ a hs) hmi _

/-- `Framework::new` on machines that all have a state 0 -/
theorem init_inv (ms : List Machine) (fp fb : F64) (t0 : Int) (rng : σ)
    (hms : ∀ m ∈ ms, 0 < m.states.length) : InitInv ms (Fw.init ρ ms fp fb t0 rng) := by
  unfold Fw.init
  suffices H : ∀ (l : List Nat) (s : Fw σ), (∀ mi ∈ l, mi < ms.length) → InitInv ms s →
      InitInv ms (l.foldl (initLimit ρ) s) from
    H (List.range ms.length) _ (fun mi hmi => List.mem_range.mp hmi) ⟨rfl, by simp [Fw.init0], rfl⟩
  intro l
  induction l with
  | nil => intro s _ hs; exact hs
  | cons mi l ih =>
    intro s hl hs
    have hmi : mi < ms.length := hl mi List.mem_cons_self
    exact ih _ (fun x hx => hl x (List.mem_cons_of_mem _ hx))
      (initLimit_inv ρ hs hmi (hms _ (List.getElem_mem hmi)))

end init

end C12
end Mb
