/-
  C04 invariant `Inv04`: every filled slot `i` holds an action for machine `i` that projects an
  action of one of that machine's states, with bounded times. It holds of a new instance
  (`Inv04.init`), survives every primitive step (`Inv04.run`), and gives the output contract
  (`Inv04.outOK`); also here: construction is a run of steps (`init_run`), a run never changes
  the machines (`Run.machines`).
-/
import MbVerif.Proofs.ReachMain

namespace Mb
variable {σ : Type}

structure Inv04 (s : Fw σ) : Prop where
  actLen : s.actions.length = s.machines.length
  rtLen : s.rt.length = s.machines.length
  slots : ∀ i a, s.actions[i]? = some (some a) → a.machine = i ∧ C04.actionOK s.machines a = true

theorem mkAction_machine (act : Action) (mi tmo dur : Nat) : (mkAction act mi tmo dur).machine = mi := by
  cases act <;> rfl

theorem mkAction_projects (act : Action) (mi tmo dur : Nat) : C04.projects (mkAction act mi tmo dur) act = true := by
  cases act <;> simp [mkAction, C04.projects]

theorem Inv04.step {mi : Nat} {s t : Fw σ} (hI : Inv04 s) (h : Step mi s t) : Inv04 t := by
  have hf := h.frame
  refine ⟨by rw [hf.actLen, hf.machines]; exact hI.actLen, by rw [hf.rtLen, hf.machines]; exact hI.rtLen, ?_⟩
  intro i a hia
  rw [hf.machines]
  rcases h.slot hia with hs | ⟨rfl, m, r, next, act, tmo, dur, hm, _, hg, htimes, rfl⟩
  · exact hI.slots i a hs
  · refine ⟨mkAction_machine _ _ _ _, ?_⟩
    obtain ⟨r₁, st, _, _, hst, hact, _⟩ := hg
    rw [C04.actionOK, mkAction_machine, hm, Bool.and_eq_true, List.any_eq_true]
    exact ⟨⟨st, List.mem_of_getElem? hst, by rw [hact]; exact mkAction_projects _ _ _ _⟩, htimes⟩

theorem getElem?_map_none {α β : Type} (l : List α) (i : Nat) (a : β) :
    (l.map fun _ => (none : Option β))[i]? ≠ some (some a) := by
  rw [List.getElem?_map]; cases l[i]? <;> simp

theorem Inv04.prim {s t : Fw σ} (hI : Inv04 s) (h : Prim s t) : Inv04 t := by
  cases h with
  | step mi st => exact hI.step st
  | setG g' => exact ⟨hI.actLen, hI.rtLen, hI.slots⟩
  | setAcct mi a =>
    refine ⟨by simpa using hI.actLen, by simpa using hI.rtLen, ?_⟩
    intro i a hia
    have := hI.slots i a (by simpa using hia)
    simpa using this
  | callStart t =>
    refine ⟨by simpa [Fw.callStart] using hI.actLen, by simpa [Fw.callStart] using hI.rtLen, ?_⟩
    exact fun i a hia => absurd hia (getElem?_map_none s.actions i a)

theorem Inv04.run {s t : Fw σ} (h : Run s t) (hI : Inv04 s) : Inv04 t :=
  Run.inv Inv04 (fun _ _ hI hp => hI.prim hp) h hI

theorem Run.machines {s t : Fw σ} (h : Run s t) : t.machines = s.machines :=
  Run.inv (fun u : Fw σ => u.machines = s.machines)
    (fun a b ha hp => by
      cases hp with
      | step mi st => rw [st.frame.machines]; exact ha
      | setAcct => simpa using ha
      | _ => exact ha) h rfl

theorem idsIncreasing_of_pairwise :
    ∀ l : List TAction, l.Pairwise (fun a b => a.machine < b.machine) → C04.idsIncreasing l = true
  | [], _ | [_], _ => rfl
  | a :: b :: rest, h => by
    obtain ⟨h1, h2⟩ := List.pairwise_cons.mp h
    simp only [C04.idsIncreasing, Bool.and_eq_true, decide_eq_true_eq]
    exact ⟨h1 b List.mem_cons_self, idsIncreasing_of_pairwise _ h2⟩

theorem idsIncreasing_filterMap (l : List (Option TAction))
    (h : ∀ i (a : TAction), l[i]? = some (some a) → a.machine = i) : C04.idsIncreasing (l.filterMap id) = true := by
  refine idsIncreasing_of_pairwise _ (List.Pairwise.filterMap (R := fun x y : Option TAction => ∀ a ∈ x, ∀ b ∈ y, a.machine < b.machine) id
    (fun x y hxy a ha b hb => hxy a ha b hb) (List.pairwise_iff_getElem.mpr fun i j hi hj hij a ha b hb => ?_))
  rw [h i a (by rw [List.getElem?_eq_getElem hi, ha]), h j b (by rw [List.getElem?_eq_getElem hj, hb])]
  exact hij

theorem Inv04.slot_of_mem {s : Fw σ} (hI : Inv04 s) {a : TAction} (h : a ∈ s.actionsOut) :
    s.actions[a.machine]? = some (some a) := by
  obtain ⟨x, hx, rfl⟩ := List.mem_filterMap.mp h
  obtain ⟨i, hi⟩ := List.getElem?_of_mem hx
  rw [(hI.slots i a hi).1]; exact hi

theorem Inv04.outOK {s : Fw σ} (hI : Inv04 s) : C04.outOK s.machines s.actionsOut = true := by
  unfold C04.outOK Fw.actionsOut
  simp only [Bool.and_eq_true]
  constructor
  · exact idsIncreasing_filterMap s.actions (fun i a hia => (hI.slots i a hia).1)
  · exact List.all_eq_true.mpr fun a ha => (hI.slots _ a (hI.slot_of_mem ha)).2

variable (ρ : Oracle σ)

theorem initLimit_reach (s : Fw σ) (mi : Nat) : Reach mi s (initLimit ρ s mi) := by
  unfold initLimit
  cases s.machines[mi]? with
  | none => exact Reach.single (Step.fault s _)
  | some m =>
    simp only []
    cases m.states[0]? with
    | none => exact Reach.single (Step.fault s _)
    | some st =>
      simp only []
      cases st.action with
      | none => exact Reach.refl s
      | some a => exact Reach.tail (sampleLimit_spec ρ mi a s).2 (Step.setLimit _ _)

theorem init_run (ms : List Machine) (fp fb : F64) (t0 : Int) (rng : σ) :
    Run (Fw.init0 ms fp fb t0 rng) (Fw.init ρ ms fp fb t0 rng) := by
  unfold Fw.init
  exact Run.foldl _ (fun s mi => Run.ofReach (initLimit_reach ρ s mi)) _ _

theorem Inv04.init0 (ms : List Machine) (fp fb : F64) (t0 : Int) (rng : σ) :
    Inv04 (Fw.init0 ms fp fb t0 rng) := by
  refine ⟨by simp [Fw.init0], by simp [Fw.init0], ?_⟩
  exact fun i a hia => absurd hia (getElem?_map_none ms i a)

theorem Inv04.init (ms : List Machine) (fp fb : F64) (t0 : Int) (rng : σ) :
    Inv04 (Fw.init ρ ms fp fb t0 rng) :=
  (Inv04.init0 ms fp fb t0 rng).run (init_run ρ ms fp fb t0 rng)

theorem runStates_run (s : Fw σ) (h : List Call) : ∀ s' ∈ runStates ρ s h, Run s s' := by
  induction h generalizing s with
  | nil => intro s' hs'; simp [runStates] at hs'
  | cons c h ih =>
    intro s' hs'
    simp only [runStates, List.mem_cons] at hs'
    rcases hs' with rfl | hs'
    · exact triggerEvents_run ρ c.1 c.2 s
    · exact (triggerEvents_run ρ c.1 c.2 s).trans (ih _ s' hs')

end Mb
