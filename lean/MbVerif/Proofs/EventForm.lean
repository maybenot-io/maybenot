/-
  `processEvent` in one shape for all ten reported events: a framework-wide accounting step, then
  for each machine the event is delivered to (all of them, or the one it names if that exists):
  the machine's accounting step, its transition, and for a completion event a limit decrement.
-/
import MbVerif.Proofs.Reach
import MbVerif.Proofs.LimitPred

namespace Mb
variable {σ : Type}

/-- the event that a reported event delivers to the machines -/
def TEvent.kind : TEvent → Event
  | .normalRecv => .normalRecv
  | .paddingRecv => .paddingRecv
  | .tunnelRecv => .tunnelRecv
  | .tunnelSent => .tunnelSent
  | .normalSent => .normalSent
  | .paddingSent _ => .paddingSent
  | .blockingBegin _ => .blockingBegin
  | .blockingEnd => .blockingEnd
  | .timerBegin _ => .timerBegin
  | .timerEnd _ => .timerEnd

/-- the machines a reported event is delivered to, among `n` -/
def TEvent.targets (e : TEvent) (n : Nat) : List Nat :=
  match e with
  | .paddingSent mi | .timerBegin mi | .timerEnd mi => if mi ≥ n then [] else [mi]
  | _ => List.range n

/-- the time blocking was active, which a BlockingEnd adds to the blocking clocks -/
def TEvent.blocked (e : TEvent) (g : Globals) : Nat :=
  match e with
  | .blockingEnd => if g.blockingActive then durSince g.now g.blockingStarted else 0
  | _ => 0

/-- the framework-wide accounting of a reported event -/
def evGlobal (e : TEvent) (s : Fw σ) : Fw σ :=
  match e with
  | .normalSent => { s with g := { s.g with normalSent := s.g.normalSent + 1 } }
  | .paddingSent _ => { s with g := { s.g with paddingSent := s.g.paddingSent + 1 } }
  | .blockingBegin _ =>
    if !s.g.blockingActive then { s with g := { s.g with blockingActive := true, blockingStarted := s.g.now } } else s
  | .blockingEnd =>
    if s.g.blockingActive then
      let s' := if s.g.blockingDur + e.blocked s.g > durMax then s.withFault .durOverflow else s
      { s' with g := { s'.g with blockingDur := s'.g.blockingDur + e.blocked s.g, blockingActive := false } }
    else s
  | _ => s

/-- the accounting of a reported event for machine `j`; `b` is `e.blocked` of the globals BEFORE
    `evGlobal` (which ends the blocking period, so that afterwards it would be 0) -/
def evAcct (e : TEvent) (b : Nat) (j : Nat) (s : Fw σ) : Fw σ :=
  match e with
  | .normalSent => s.modRt j (fun r => { r with acct := { r.acct with normalSent := r.acct.normalSent + 1 } })
  | .paddingSent _ => s.modRt j (fun r => { r with acct := { r.acct with paddingSent := r.acct.paddingSent + 1 } })
  | .blockingEnd =>
    if b ≠ 0 then
      match s.rt[j]? with
      | none => s.withFault .oob
      | some r =>
        let s := if r.acct.blockingDur + b > durMax then s.withFault .durOverflow else s
        s.modRt j (fun r => { r with acct := { r.acct with blockingDur := r.acct.blockingDur + b } })
    else s
  | _ => s

/-- does the event, delivered to machine `j` with result `p`, decrement the limit of `j`: it
    completes an action of `j`, and `j` neither changed state nor ended -/
def evDec (e : TEvent) (j : Nat) (p : Fw σ × Bool) : Bool :=
  match e with
  | .paddingSent _ | .timerBegin _ => !p.2 && notEnded p.1 j
  | .blockingBegin m => !p.2 && notEnded p.1 j && j == m
  | _ => false

theorem TEvent.blocked_blockingEnd (g : Globals) : TEvent.blockingEnd.blocked g = ongoing g := rfl

theorem targets_nodup (e : TEvent) (n : Nat) : (e.targets n).Nodup := by
  cases e with
  | paddingSent m | timerBegin m | timerEnd m => by_cases h : m ≥ n <;> simp [TEvent.targets, h]
  | _ => exact List.nodup_range

theorem evGlobal_frame (e : TEvent) (s : Fw σ) :
    (evGlobal e s).log = s.log ∧ (evGlobal e s).signalPending = s.signalPending ∧
    (evGlobal e s).machines = s.machines ∧ (evGlobal e s).rt = s.rt ∧ (evGlobal e s).actions = s.actions := by
  cases e with
  | blockingBegin _ => rw [evGlobal]; split <;> exact ⟨rfl, rfl, rfl, rfl, rfl⟩
  | blockingEnd =>
    rw [evGlobal]
    split
    · split <;> simp
    · exact ⟨rfl, rfl, rfl, rfl, rfl⟩
  | _ => exact ⟨rfl, rfl, rfl, rfl, rfl⟩

theorem evAcct_frame (e : TEvent) (b j : Nat) (s : Fw σ) :
    (evAcct e b j s).log = s.log ∧ (evAcct e b j s).signalPending = s.signalPending ∧
    (evAcct e b j s).machines = s.machines ∧ (evAcct e b j s).actions = s.actions ∧
    (evAcct e b j s).rt.length = s.rt.length ∧ ∀ i, i ≠ j → (evAcct e b j s).rt[i]? = s.rt[i]? := by
  cases e with
  | normalSent | paddingSent _ => simp +contextual [evAcct, Fw.modRt_rt_other]
  | blockingEnd =>
    rw [evAcct]
    split
    · split
      · simp
      · split <;> simp +contextual [Fw.modRt_rt_other]
    · simp
  | _ => simp [evAcct]

variable (ρ : Oracle σ)

/-- what a reported event does for machine `j` (`b` as in `evAcct`) -/
def evStep (e : TEvent) (b : Nat) (s : Fw σ) (j : Nat) : Fw σ :=
  let p := transition ρ FUEL j e.kind (evAcct e b j s)
  if evDec e j p then decrementLimit ρ j p.1 else p.1

theorem foldl_ite_singleton {α β : Type} (c : Prop) [Decidable c] (F : β → α → β) (a : α) (s : β) :
    (if c then [] else [a]).foldl F s = if c then s else F s a := by
  split <;> rfl

theorem processEvent_eq (e : TEvent) (s : Fw σ) :
    processEvent ρ e s =
      (e.targets (evGlobal e s).rt.length).foldl (evStep ρ e (e.blocked s.g)) (evGlobal e s) := by
  cases e with
  | paddingSent mi | timerBegin mi | timerEnd mi => rw [TEvent.targets, foldl_ite_singleton]; rfl
  | _ => rfl

end Mb
