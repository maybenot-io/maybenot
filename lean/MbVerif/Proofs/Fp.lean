/-
  Lemmas about the IEEE model `MbVerif/Fp.lean`.

  `rne` on a positive argument is an integer rounding (`roundHalfEven`) in units of `2^expo`
  (`rne_pos_eq`); negative arguments go through `rne_neg`.  From the one fact `roundHalfEven_spec`
  about the integer rounding follow monotonicity, the half-ulp error bound and that no value of the
  format (`Rep`) is closer; values of the format are fixed points.  Then `Fmt.round` (overflow to
  infinity), the IEEE comparisons and Rust's `max`/`min`, the casts, and binary64: decoded doubles
  and small integers are values of the format, relative error `2^-53` in the normal range.
-/
import MbVerif.Proofs.FpBasic
import Mathlib.Tactic.Linarith
import Mathlib.Tactic.Positivity
import Mathlib.Tactic.Ring
import Mathlib.Tactic.FieldSimp
import Mathlib.Algebra.Order.Field.Power

namespace Mb
namespace Fp

theorem pow2_eq_zpow (e : Int) : pow2 e = (2 : ℚ) ^ e := by
  unfold pow2
  split
  · rename_i h
    have he : e = ((e.toNat : Nat) : Int) := (Int.toNat_of_nonneg h).symm
    conv_rhs => rw [he]
    rw [zpow_natCast]
    push_cast
    rfl
  · rename_i h
    have h' : 0 ≤ -e := by omega
    have he : e = -(((-e).toNat : Nat) : Int) := by rw [Int.toNat_of_nonneg h']; ring
    conv_rhs => rw [he]
    rw [zpow_neg, zpow_natCast]
    push_cast
    rw [one_div]

theorem pow2_pos (e : Int) : 0 < pow2 e := by
  rw [pow2_eq_zpow]; positivity

theorem pow2_ne_zero (e : Int) : pow2 e ≠ 0 := (pow2_pos e).ne'

theorem pow2_add (a b : Int) : pow2 (a + b) = pow2 a * pow2 b := by
  simp only [pow2_eq_zpow]; exact zpow_add₀ (by norm_num) a b

theorem pow2_sub (a b : Int) : pow2 (a - b) = pow2 a / pow2 b := by
  simp only [pow2_eq_zpow]; exact zpow_sub₀ (by norm_num) a b

theorem pow2_le_pow2 {a b : Int} (h : a ≤ b) : pow2 a ≤ pow2 b := by
  simp only [pow2_eq_zpow]; exact zpow_le_zpow_right₀ (by norm_num) h

theorem pow2_lt_pow2 {a b : Int} (h : a < b) : pow2 a < pow2 b := by
  simp only [pow2_eq_zpow]; exact zpow_lt_zpow_right₀ (by norm_num) h

theorem pow2_lt_pow2_iff {a b : Int} : pow2 a < pow2 b ↔ a < b := by
  simp only [pow2_eq_zpow]; exact zpow_lt_zpow_iff_right₀ (by norm_num)

theorem pow2_le_pow2_iff {a b : Int} : pow2 a ≤ pow2 b ↔ a ≤ b := by
  simp only [pow2_eq_zpow]; exact zpow_le_zpow_iff_right₀ (by norm_num)

theorem pow2_zero : pow2 0 = 1 := by simp [pow2_eq_zpow]

theorem pow2_one : pow2 1 = 2 := by simp [pow2_eq_zpow]

theorem pow2_nat_eq (k : Nat) : pow2 (k : Int) = 2 ^ k := by
  rw [pow2_eq_zpow, zpow_natCast]

theorem pow2_neg_eq (k : Nat) : pow2 (-(k : Int)) = 1 / 2 ^ k := by
  rw [pow2_eq_zpow, zpow_neg, zpow_natCast, one_div]

theorem pow2_nonneg_eq_intCast {e : Int} (h : 0 ≤ e) : pow2 e = (((2 : Int) ^ e.toNat : Int) : ℚ) := by
  rw [pow2_eq_zpow]
  have he : e = ((e.toNat : Nat) : Int) := (Int.toNat_of_nonneg h).symm
  conv_lhs => rw [he]
  rw [zpow_natCast]; push_cast; rfl

theorem mul_pow2_div_pow2 (m : Int) {e e' : Int} (h : e ≤ e') :
    (m : ℚ) * pow2 e' / pow2 e = ((m * (2 : Int) ^ (e' - e).toNat : Int) : ℚ) := by
  rw [mul_div_assoc, ← pow2_sub, pow2_nonneg_eq_intCast (by omega : 0 ≤ e' - e)]
  push_cast; ring

theorem nat_log2_bounds {n : Nat} (h : n ≠ 0) :
    pow2 (Nat.log2 n) ≤ (n : ℚ) ∧ (n : ℚ) < pow2 ((Nat.log2 n : Int) + 1) := by
  rw [pow2_nat_eq, show (Nat.log2 n : Int) + 1 = ((Nat.log2 n + 1 : Nat) : Int) by push_cast; rfl,
    pow2_nat_eq]
  exact ⟨by exact_mod_cast Nat.log2_self_le h, by exact_mod_cast Nat.lt_log2_self⟩

theorem ilog2_spec {q : ℚ} (hq : 0 < q) : pow2 (ilog2 q) ≤ q ∧ q < pow2 (ilog2 q + 1) := by
  have hnum : 0 < q.num := Rat.num_pos.mpr hq
  obtain ⟨hn1, hn2⟩ := nat_log2_bounds (n := q.num.toNat) (by omega)
  obtain ⟨hd1, hd2⟩ := nat_log2_bounds q.den_ne_zero
  have hdpos : (0 : ℚ) < (q.den : ℚ) := by exact_mod_cast q.den_pos
  have hqnd : q = (q.num.toNat : ℚ) / (q.den : ℚ) := by
    rw [← Int.cast_natCast, Int.toNat_of_nonneg hnum.le]; exact (Rat.num_div_den q).symm
  set ln : Int := (Nat.log2 q.num.toNat : Int)
  set ld : Int := (Nat.log2 q.den : Int)
  -- from `2^ln ≤ num < 2^(ln+1)` and `2^ld ≤ den < 2^(ld+1)`: `2^(ln-ld-1) < q < 2^(ln-ld+1)`
  have hlow : pow2 (ln - ld - 1) < q := by
    rw [hqnd, lt_div_iff₀ hdpos]
    calc pow2 (ln - ld - 1) * (q.den : ℚ) < pow2 (ln - ld - 1) * pow2 (ld + 1) :=
          mul_lt_mul_of_pos_left hd2 (pow2_pos _)
      _ = pow2 ln := by rw [← pow2_add]; congr 1; ring
      _ ≤ _ := hn1
  have hhigh : q < pow2 (ln - ld + 1) := by
    rw [hqnd, div_lt_iff₀ hdpos]
    calc _ < pow2 (ln + 1) := hn2
      _ = pow2 (ln - ld + 1) * pow2 ld := by rw [← pow2_add]; congr 1; ring
      _ ≤ pow2 (ln - ld + 1) * (q.den : ℚ) := mul_le_mul_of_nonneg_left hd1 (pow2_pos _).le
  unfold ilog2
  simp only []
  split
  · rename_i h
    exact ⟨h, hhigh⟩
  · rename_i h
    exact ⟨hlow.le, by rw [sub_add_cancel]; exact not_le.mp h⟩

theorem ilog2_mono {a b : ℚ} (ha : 0 < a) (hab : a ≤ b) : ilog2 a ≤ ilog2 b := by
  have hb : 0 < b := lt_of_lt_of_le ha hab
  have h1 := (ilog2_spec ha).1
  have h2 := (ilog2_spec hb).2
  have : pow2 (ilog2 a) < pow2 (ilog2 b + 1) := lt_of_le_of_lt (le_trans h1 hab) h2
  have := pow2_lt_pow2_iff.mp this
  omega

theorem ilog2_lt_of_lt_pow2 {a : ℚ} {k : Int} (ha : 0 < a) (h : a < pow2 k) : ilog2 a < k := by
  have h1 := (ilog2_spec ha).1
  exact pow2_lt_pow2_iff.mp (lt_of_le_of_lt h1 h)

theorem le_ilog2_of_pow2_le {a : ℚ} {k : Int} (ha : 0 < a) (h : pow2 k ≤ a) : k ≤ ilog2 a := by
  have h2 := (ilog2_spec ha).2
  have := pow2_lt_pow2_iff.mp (lt_of_le_of_lt h h2)
  omega

theorem floor_eq (s : ℚ) : s.floor = ⌊s⌋ := rfl

theorem ceil_eq (q : ℚ) : q.ceil = ⌈q⌉ := by
  rw [Rat.ceil_eq_neg_floor_neg, Int.ceil, floor_eq]
  rfl

theorem floor_le_lt (s : ℚ) : (s.floor : ℚ) ≤ s ∧ s < (s.floor : ℚ) + 1 :=
  ⟨Int.floor_le s, Int.lt_floor_add_one s⟩

/-- the two outcomes of `roundHalfEven` with what each says about the fractional part; the parity
    rule only decides the tie and no proof below depends on which way -/
theorem roundHalfEven_spec (s : ℚ) :
    (roundHalfEven s = s.floor ∧ s - (s.floor : ℚ) ≤ 1 / 2) ∨
    (roundHalfEven s = s.floor + 1 ∧ 1 / 2 ≤ s - (s.floor : ℚ)) := by
  unfold roundHalfEven
  simp only []
  split
  · rename_i h; exact .inl ⟨rfl, h.le⟩
  · split
    · rename_i h; exact .inr ⟨rfl, h.le⟩
    · rename_i h3 h4
      split
      · exact .inl ⟨rfl, not_lt.mp h4⟩
      · exact .inr ⟨rfl, not_lt.mp h3⟩

theorem roundHalfEven_ge_floor (s : ℚ) : s.floor ≤ roundHalfEven s := by
  rcases roundHalfEven_spec s with ⟨h, _⟩ | ⟨h, _⟩ <;> omega

theorem roundHalfEven_le_floor_succ (s : ℚ) : roundHalfEven s ≤ s.floor + 1 := by
  rcases roundHalfEven_spec s with ⟨h, _⟩ | ⟨h, _⟩ <;> omega

theorem roundHalfEven_intCast (n : Int) : roundHalfEven (n : ℚ) = n := by
  unfold roundHalfEven
  simp only [Rat.floor_intCast, sub_self]
  norm_num

theorem roundHalfEven_mono {a b : ℚ} (h : a ≤ b) : roundHalfEven a ≤ roundHalfEven b := by
  rcases eq_or_lt_of_le h with rfl | hlt
  · exact le_refl _
  have hf : a.floor ≤ b.floor := Rat.floor_monotone h
  rcases lt_or_eq_of_le hf with hflt | heq
  · calc roundHalfEven a ≤ a.floor + 1 := roundHalfEven_le_floor_succ a
      _ ≤ b.floor := by omega
      _ ≤ roundHalfEven b := roundHalfEven_ge_floor b
  · -- same floor and `a < b`: if `a` rounds up its fractional part is at least 1/2, that of `b` more
    rcases roundHalfEven_spec a with ⟨ha, _⟩ | ⟨ha, hra⟩
    · rw [ha, heq]; exact roundHalfEven_ge_floor b
    · rcases roundHalfEven_spec b with ⟨_, hrb⟩ | ⟨hb, _⟩
      · rw [heq] at hra; linarith
      · rw [ha, hb, heq]

theorem roundHalfEven_nonneg {s : ℚ} (h : 0 ≤ s) : 0 ≤ roundHalfEven s := by
  have : (0 : Int) ≤ s.floor := Rat.le_floor_iff.mpr (by exact_mod_cast h)
  exact le_trans this (roundHalfEven_ge_floor s)

theorem roundHalfEven_le_intCast {n : Int} {s : ℚ} (h : s ≤ (n : ℚ)) : roundHalfEven s ≤ n := by
  have := roundHalfEven_mono h
  rwa [roundHalfEven_intCast] at this

/-- the ulp exponent `rne` uses for a positive `q` -/
def expo (p : Nat) (emin : Int) (q : ℚ) : Int := max (ilog2 q - ((p : Int) - 1)) emin

/-- the larger of `ilog2 q - (p - 1)` and `emin`, in the form `omega` takes -/
theorem expo_spec (p : Nat) (emin : Int) (q : ℚ) :
    emin ≤ expo p emin q ∧ ilog2 q - ((p : Int) - 1) ≤ expo p emin q ∧
      (expo p emin q = emin ∨ expo p emin q = ilog2 q - ((p : Int) - 1)) := by
  unfold expo; omega

theorem rne_zero (p : Nat) (emin : Int) : rne p emin 0 = 0 := by simp [rne]

theorem rne_pos_eq (p : Nat) (emin : Int) {q : ℚ} (hq : 0 < q) :
    rne p emin q = (roundHalfEven (q / pow2 (expo p emin q)) : ℚ) * pow2 (expo p emin q) := by
  unfold rne expo
  have h1 : q ≠ 0 := hq.ne'
  have h2 : ¬ q < 0 := not_lt.mpr hq.le
  simp only [h1, h2, if_false]

theorem rne_neg_eq (p : Nat) (emin : Int) {q : ℚ} (hq : q < 0) :
    rne p emin q = -rne p emin (-q) := by
  have hq' : 0 < -q := by linarith
  rw [rne_pos_eq p emin hq']
  unfold rne expo
  have h1 : q ≠ 0 := hq.ne
  simp only [h1, hq, if_false, if_true]

theorem rne_neg (p : Nat) (emin : Int) (q : ℚ) : rne p emin (-q) = -rne p emin q := by
  rcases lt_trichotomy q 0 with h | h | h
  · rw [rne_neg_eq p emin h]; simp
  · subst h; simp [rne_zero]
  · have : -q < 0 := by linarith
    rw [rne_neg_eq p emin this]; simp

theorem rne_nonneg (p : Nat) (emin : Int) {q : ℚ} (hq : 0 ≤ q) : 0 ≤ rne p emin q := by
  rcases eq_or_lt_of_le hq with h | h
  · subst h; simp [rne_zero]
  · rw [rne_pos_eq p emin h]
    apply mul_nonneg
    · have : 0 ≤ roundHalfEven (q / pow2 (expo p emin q)) :=
        roundHalfEven_nonneg (div_nonneg hq (pow2_pos _).le)
      exact_mod_cast this
    · exact (pow2_pos _).le

theorem rne_nonpos (p : Nat) (emin : Int) {q : ℚ} (hq : q ≤ 0) : rne p emin q ≤ 0 := by
  have h := rne_nonneg p emin (q := -q) (by linarith)
  rw [rne_neg] at h; linarith

theorem expo_mono (p : Nat) (emin : Int) {a b : ℚ} (ha : 0 < a) (hab : a ≤ b) :
    expo p emin a ≤ expo p emin b := by
  have := ilog2_mono ha hab
  have := expo_spec p emin a
  have := expo_spec p emin b
  omega

/-- rounding in units of `2^e` is monotone … -/
theorem roundAt_mono (e : Int) {a b : ℚ} (h : a ≤ b) :
    (roundHalfEven (a / pow2 e) : ℚ) * pow2 e ≤ (roundHalfEven (b / pow2 e) : ℚ) * pow2 e :=
  mul_le_mul_of_nonneg_right
    (by exact_mod_cast roundHalfEven_mono (div_le_div_of_nonneg_right h (pow2_pos e).le))
    (pow2_pos e).le

/-- … and fixes the multiples of every larger power of two -/
theorem roundAt_fix (m : Int) {e e' : Int} (h : e ≤ e') :
    (roundHalfEven ((m : ℚ) * pow2 e' / pow2 e) : ℚ) * pow2 e = (m : ℚ) * pow2 e' := by
  rw [mul_pow2_div_pow2 m h, roundHalfEven_intCast, ← mul_pow2_div_pow2 m h,
    div_mul_cancel₀ _ (pow2_ne_zero e)]

theorem rne_mono_pos (p : Nat) (hp : 1 ≤ p) (emin : Int) {a b : ℚ} (ha : 0 < a) (hab : a ≤ b) :
    rne p emin a ≤ rne p emin b := by
  have hb : 0 < b := lt_of_lt_of_le ha hab
  rw [rne_pos_eq p emin ha, rne_pos_eq p emin hb]
  rcases lt_or_eq_of_le (expo_mono p emin ha hab) with hlt | heq
  · -- different binades: `2^k`, `k = ilog2 b`, lies between `a` and `b` and on both grids
    have hk : expo p emin a ≤ ilog2 b ∧ expo p emin b ≤ ilog2 b ∧ ilog2 a + 1 ≤ ilog2 b := by
      have := expo_spec p emin a
      have := expo_spec p emin b
      omega
    have hak : a ≤ 1 * pow2 (ilog2 b) :=
      (one_mul (pow2 _)).symm ▸ le_trans (ilog2_spec ha).2.le (pow2_le_pow2 hk.2.2)
    have hkb : 1 * pow2 (ilog2 b) ≤ b := (one_mul (pow2 _)).symm ▸ (ilog2_spec hb).1
    have h1 := roundAt_mono (expo p emin a) hak
    have h2 := roundAt_mono (expo p emin b) hkb
    rw [← Int.cast_one, roundAt_fix 1 hk.1] at h1
    rw [← Int.cast_one, roundAt_fix 1 hk.2.1] at h2
    exact le_trans h1 h2
  · rw [heq]; exact roundAt_mono _ hab

theorem rne_mono (p : Nat) (hp : 1 ≤ p) (emin : Int) {a b : ℚ} (hab : a ≤ b) :
    rne p emin a ≤ rne p emin b := by
  rcases lt_or_ge 0 a with ha | ha
  · exact rne_mono_pos p hp emin ha hab
  · rcases le_or_gt 0 b with hb | hb
    · exact le_trans (rne_nonpos p emin ha) (rne_nonneg p emin hb)
    · -- both negative
      have h1 : 0 < -b := by linarith
      have h2 : -b ≤ -a := by linarith
      have := rne_mono_pos p hp emin h1 h2
      rw [rne_neg, rne_neg] at this
      linarith

/-- `q` is a value of the format: `m · 2^e` with `|m| < 2^p` and `e ≥ emin` -/
def Rep (p : Nat) (emin : Int) (q : ℚ) : Prop :=
  ∃ (m e : Int), emin ≤ e ∧ |m| < (2 : Int) ^ p ∧ q = (m : ℚ) * pow2 e

theorem Rep.neg {p : Nat} {emin : Int} {q : ℚ} (h : Rep p emin q) : Rep p emin (-q) := by
  obtain ⟨m, e, h1, h2, h3⟩ := h
  exact ⟨-m, e, h1, by simpa using h2, by rw [h3]; push_cast; ring⟩

theorem rep_zero (p : Nat) (emin : Int) : Rep p emin 0 :=
  ⟨0, emin, le_refl _, by simp, by simp⟩

theorem rne_eq_self_of_rep_pos (p : Nat) (emin : Int) {q : ℚ} (hq : 0 < q) (h : Rep p emin q) :
    rne p emin q = q := by
  obtain ⟨m, e, h1, h2, rfl⟩ := h
  have hm : (m : ℚ) < pow2 p := by
    rw [pow2_nat_eq]; exact_mod_cast lt_of_le_of_lt (le_abs_self m) h2
  have hil := ilog2_lt_of_lt_pow2 hq
    (pow2_add p e ▸ mul_lt_mul_of_pos_right hm (pow2_pos e))
  have hex : expo p emin ((m : ℚ) * pow2 e) ≤ e := by
    have := expo_spec p emin ((m : ℚ) * pow2 e); omega
  rw [rne_pos_eq p emin hq, roundAt_fix m hex]

theorem rne_eq_self_of_rep (p : Nat) (emin : Int) {q : ℚ} (h : Rep p emin q) : rne p emin q = q := by
  rcases lt_trichotomy q 0 with hq | hq | hq
  · have := rne_eq_self_of_rep_pos p emin (q := -q) (by linarith) h.neg
    rw [rne_neg] at this; linarith
  · subst hq; exact rne_zero p emin
  · exact rne_eq_self_of_rep_pos p emin hq h

theorem rne_rep_pos (p : Nat) (hp : 1 ≤ p) (emin : Int) {q : ℚ} (hq : 0 < q) : Rep p emin (rne p emin q) := by
  rw [rne_pos_eq p emin hq]
  set ex := expo p emin q with hex
  have hspec := expo_spec p emin q
  have hemin : emin ≤ ex := hspec.1
  have hil : ilog2 q + 1 - ex ≤ (p : Int) := by omega
  have hlt : q / pow2 ex ≤ (((2 : Int) ^ p : Int) : ℚ) := by
    have h1 : q < pow2 (ilog2 q + 1) := (ilog2_spec hq).2
    have h2 : pow2 (ilog2 q + 1) ≤ pow2 ((p : Int) + ex) := pow2_le_pow2 (by omega)
    have h3 : q / pow2 ex ≤ pow2 (p : Int) := by
      rw [div_le_iff₀ (pow2_pos _), ← pow2_add]; exact (lt_of_lt_of_le h1 h2).le
    rw [pow2_nonneg_eq_intCast (by omega : (0 : Int) ≤ (p : Int))] at h3
    simpa using h3
  have hM := roundHalfEven_le_intCast hlt
  have hM0 : 0 ≤ roundHalfEven (q / pow2 ex) := roundHalfEven_nonneg (div_nonneg hq.le (pow2_pos _).le)
  set M := roundHalfEven (q / pow2 ex)
  rcases lt_or_eq_of_le hM with hlt' | heq
  · exact ⟨M, ex, hemin, by rw [abs_of_nonneg hM0]; exact hlt', rfl⟩
  · refine ⟨(2 : Int) ^ (p - 1), ex + 1, by omega, ?_, ?_⟩
    · rw [abs_of_nonneg (by positivity)]
      exact pow_lt_pow_right₀ (by norm_num) (by omega)
    · rw [heq, pow2_add]
      have : ((2 : Int) ^ p : Int) = (2 : Int) ^ (p - 1) * 2 := by
        conv_lhs => rw [show p = (p - 1) + 1 by omega]
        rw [pow_succ]
      rw [this]; push_cast
      have h21 : pow2 1 = 2 := by simp [pow2_eq_zpow]
      rw [h21]; ring

theorem rne_rep (p : Nat) (hp : 1 ≤ p) (emin : Int) (q : ℚ) : Rep p emin (rne p emin q) := by
  rcases lt_trichotomy q 0 with hq | hq | hq
  · have := (rne_rep_pos p hp emin (q := -q) (by linarith)).neg
    rwa [rne_neg, neg_neg] at this
  · subst hq; rw [rne_zero]; exact rep_zero p emin
  · exact rne_rep_pos p hp emin hq

theorem rne_idem (p : Nat) (hp : 1 ≤ p) (emin : Int) (q : ℚ) :
    rne p emin (rne p emin q) = rne p emin q :=
  rne_eq_self_of_rep p emin (rne_rep p hp emin q)

theorem le_rne_of_rep_le (p : Nat) (hp : 1 ≤ p) (emin : Int) {f q : ℚ} (hf : Rep p emin f) (h : f ≤ q) :
    f ≤ rne p emin q := by
  have := rne_mono p hp emin h
  rwa [rne_eq_self_of_rep p emin hf] at this

theorem rne_le_of_le_rep (p : Nat) (hp : 1 ≤ p) (emin : Int) {f q : ℚ} (hf : Rep p emin f) (h : q ≤ f) :
    rne p emin q ≤ f := by
  have := rne_mono p hp emin h
  rwa [rne_eq_self_of_rep p emin hf] at this

/-- `roundHalfEven s` is at least as close to `s` as anything outside the open unit interval
    around `s` between the neighbouring integers, in particular as every integer -/
theorem roundHalfEven_nearest' {s t : ℚ} (ht : t ≤ (s.floor : ℚ) ∨ (s.floor : ℚ) + 1 ≤ t) :
    |(roundHalfEven s : ℚ) - s| ≤ |t - s| := by
  obtain ⟨h1, h2⟩ := floor_le_lt s
  have hl : |(roundHalfEven s : ℚ) - s| ≤ s - (s.floor : ℚ) ∧
      |(roundHalfEven s : ℚ) - s| ≤ (s.floor : ℚ) + 1 - s := by
    rcases roundHalfEven_spec s with ⟨h, hr⟩ | ⟨h, hr⟩
    · rw [h, abs_sub_comm, abs_of_nonneg (sub_nonneg.mpr h1)]
      exact ⟨le_refl _, by linarith⟩
    · rw [h, Int.cast_add, Int.cast_one, abs_of_nonneg (by linarith)]
      exact ⟨by linarith, le_refl _⟩
  rcases ht with ht | ht
  · exact le_trans hl.1 (le_trans (by linarith) (neg_le_abs (t - s)))
  · exact le_trans hl.2 (le_trans (by linarith) (le_abs_self (t - s)))

theorem roundHalfEven_err (s : ℚ) : |(roundHalfEven s : ℚ) - s| ≤ 1 / 2 := by
  obtain ⟨h1, h2⟩ := floor_le_lt s
  rw [abs_le]
  rcases roundHalfEven_spec s with ⟨h, hr⟩ | ⟨h, hr⟩
  · rw [h]; constructor <;> linarith
  · rw [h, Int.cast_add, Int.cast_one]; constructor <;> linarith

/-- distances on the grid of step `P` are `P` times the distances of the quotients -/
theorem abs_mul_sub {P : ℚ} (hP : 0 < P) (x y : ℚ) : |x * P - y| = |x - y / P| * P := by
  have h : x * P - y = (x - y / P) * P := by rw [sub_mul, div_mul_cancel₀ y hP.ne']
  rw [h, abs_mul, abs_of_pos hP]

theorem rne_err_pos (p : Nat) (emin : Int) {q : ℚ} (hq : 0 < q) :
    |rne p emin q - q| ≤ pow2 (expo p emin q) / 2 := by
  rw [rne_pos_eq p emin hq, abs_mul_sub (pow2_pos _)]
  calc _ ≤ 1 / 2 * pow2 (expo p emin q) :=
        mul_le_mul_of_nonneg_right (roundHalfEven_err _) (pow2_pos _).le
    _ = pow2 (expo p emin q) / 2 := by ring

/-- below `2^k` the ulp is at most `2^(k-p)` -/
theorem rne_err_of_lt_pow2 (p : Nat) (emin : Int) {q : ℚ} {k : Int} (hq : 0 < q) (h : q < pow2 k)
    (hk : emin ≤ k - p) : |rne p emin q - q| ≤ pow2 (k - p) / 2 := by
  have h1 : ilog2 q < k := ilog2_lt_of_lt_pow2 hq h
  have h2 : expo p emin q ≤ k - p := by have := expo_spec p emin q; omega
  exact le_trans (rne_err_pos p emin hq)
    (div_le_div_of_nonneg_right (pow2_le_pow2 h2) (by norm_num))

/-- in the normal range half an ulp is at most the relative error `2^-p` -/
theorem half_ulp_le (p : Nat) (emin : Int) {q : ℚ} (hq : 0 < q)
    (h : emin ≤ ilog2 q - ((p : Int) - 1)) : pow2 (expo p emin q) / 2 ≤ q * pow2 (-(p : Int)) := by
  have hex : expo p emin q = ilog2 q + -(p : Int) + 1 := by have := expo_spec p emin q; omega
  rw [hex, pow2_add, pow2_add, pow2_one, mul_div_cancel_right₀ _ (two_ne_zero)]
  exact mul_le_mul_of_nonneg_right (ilog2_spec hq).1 (pow2_pos _).le

/-- measured in ulps of `y`, no value of the format lies strictly between the two integers
    around `y` -/
theorem rep_not_between (p : Nat) (hp : 1 ≤ p) (emin : Int) {y f : ℚ} (hy : 0 < y)
    (hf : Rep p emin f) :
    f / pow2 (expo p emin y) ≤ ((y / pow2 (expo p emin y)).floor : ℚ) ∨
    ((y / pow2 (expo p emin y)).floor : ℚ) + 1 ≤ f / pow2 (expo p emin y) := by
  obtain ⟨m, e', he', hm, rfl⟩ := hf
  set e := expo p emin y with he
  set k := (y / pow2 e).floor with hk
  have hpe := pow2_pos e
  by_cases hle : e ≤ e'
  · -- `f` is an integer multiple of `2^e`
    rw [mul_pow2_div_pow2 m hle]
    rcases le_or_gt (m * (2 : Int) ^ (e' - e).toNat) k with h | h
    · left; exact_mod_cast h
    · right; exact_mod_cast Int.add_one_le_iff.mpr h
  · -- `f` is below the binade of `y`
    left
    rw [div_le_iff₀ hpe]
    have hee : e = ilog2 y - ((p : Int) - 1) := by have := expo_spec p emin y; omega
    have hk1 : ((2 : Int) ^ (p - 1) : Int) ≤ k := by
      rw [hk]
      apply Rat.le_floor_iff.mpr
      rw [le_div_iff₀ hpe]
      have : (((2 : Int) ^ (p - 1) : Int) : ℚ) = pow2 (((p - 1 : Nat) : Int)) := by
        rw [pow2_nat_eq]; simp
      rw [this, ← pow2_add, show ((p - 1 : Nat) : Int) + e = ilog2 y by omega]
      exact (ilog2_spec hy).1
    have hm2 : (m : ℚ) ≤ pow2 (p : Int) := by
      have : m < (2 : Int) ^ p := lt_of_le_of_lt (le_abs_self m) hm
      rw [pow2_nat_eq]; exact_mod_cast this.le
    calc (m : ℚ) * pow2 e' ≤ pow2 (p : Int) * pow2 e' :=
          mul_le_mul_of_nonneg_right hm2 (pow2_pos _).le
      _ = pow2 ((p : Int) + e') := (pow2_add _ _).symm
      _ ≤ pow2 (((p - 1 : Nat) : Int) + e) := pow2_le_pow2 (by omega)
      _ = pow2 ((p - 1 : Nat) : Int) * pow2 e := pow2_add _ _
      _ = (((2 : Int) ^ (p - 1) : Int) : ℚ) * pow2 e := by rw [pow2_nat_eq]; simp
      _ ≤ (k : ℚ) * pow2 e := mul_le_mul_of_nonneg_right (by exact_mod_cast hk1) hpe.le

theorem rne_nearest_pos (p : Nat) (hp : 1 ≤ p) (emin : Int) {y f : ℚ} (hy : 0 < y)
    (hf : Rep p emin f) : |rne p emin y - y| ≤ |f - y| := by
  have hpe := pow2_pos (expo p emin y)
  rw [rne_pos_eq p emin hy, abs_mul_sub hpe, ← div_mul_cancel₀ f hpe.ne', abs_mul_sub hpe]
  exact mul_le_mul_of_nonneg_right (roundHalfEven_nearest' (rep_not_between p hp emin hy hf)) hpe.le

theorem rne_nearest (p : Nat) (hp : 1 ≤ p) (emin : Int) {y f : ℚ} (hf : Rep p emin f) :
    |rne p emin y - y| ≤ |f - y| := by
  rcases lt_trichotomy y 0 with hy | hy | hy
  · have := rne_nearest_pos p hp emin (y := -y) (by linarith) hf.neg
    rwa [rne_neg, ← neg_sub', abs_neg, ← neg_sub', abs_neg] at this
  · subst hy; rw [rne_zero]; simp
  · exact rne_nearest_pos p hp emin hy hf

theorem rne_lt_of_lt_mid (p : Nat) (hp : 1 ≤ p) (emin : Int) {a b y : ℚ} (ha : Rep p emin a)
    (hb : Rep p emin b) (hab : a < b) (hy : y < (a + b) / 2) : rne p emin y < b := by
  have hle : rne p emin y ≤ b := rne_le_of_le_rep p hp emin hb (by linarith)
  rcases lt_or_eq_of_le hle with h | h
  · exact h
  · exfalso
    have hn := rne_nearest p hp emin (y := y) ha
    rw [h, abs_of_nonneg (by linarith)] at hn
    rcases le_or_gt a y with hay | hay
    · rw [abs_sub_comm, abs_of_nonneg (by linarith)] at hn; linarith
    · rw [abs_of_nonneg (by linarith)] at hn; linarith

theorem rep_grid {p : Nat} {emin : Int} {a : ℚ} (h : Rep p emin a) :
    ∃ N : Int, a = (N : ℚ) * pow2 emin := by
  obtain ⟨m, e, he, _, rfl⟩ := h
  exact ⟨_, (div_eq_iff (pow2_ne_zero emin)).mp (mul_pow2_div_pow2 m he)⟩

theorem Fmt.round_cases (f : Fmt) (q : ℚ) :
    f.round q = .inf false ∨ f.round q = .inf true ∨ f.round q = .fin (rne f.p f.emin q) := by
  unfold Fmt.round
  simp only []
  split
  · left; rfl
  · split
    · right; left; rfl
    · right; right; rfl

theorem Fmt.round_ne_nan (f : Fmt) (q : ℚ) : f.round q ≠ .nan := by
  rcases f.round_cases q with h | h | h <;> rw [h] <;> simp

theorem Fmt.round_fin_bound (f : Fmt) {q r : ℚ} (h : f.round q = .fin r) :
    r = rne f.p f.emin q ∧ r < pow2 f.emax ∧ -pow2 f.emax < r := by
  unfold Fmt.round at h
  simp only [] at h
  split at h
  · exact absurd h (by simp)
  · split at h
    · exact absurd h (by simp)
    · rename_i h1 h2
      injection h with h
      subst h
      exact ⟨rfl, not_le.mp h1, not_le.mp h2⟩

theorem Fmt.round_eq_fin (f : Fmt) {q : ℚ} (h1 : rne f.p f.emin q < pow2 f.emax)
    (h2 : -pow2 f.emax < rne f.p f.emin q) : f.round q = .fin (rne f.p f.emin q) := by
  unfold Fmt.round
  simp only []
  rw [if_neg (not_le.mpr h1), if_neg (not_le.mpr h2)]

theorem Fmt.round_fin_of_le (f : Fmt) (hp : 1 ≤ f.p) {q B : ℚ} (h0 : 0 ≤ q)
    (hB : Rep f.p f.emin B) (hqB : q ≤ B) (hB2 : B < pow2 f.emax) :
    f.round q = .fin (rne f.p f.emin q) :=
  f.round_eq_fin (lt_of_le_of_lt (rne_le_of_le_rep f.p hp _ hB hqB) hB2)
    (lt_of_lt_of_le (neg_lt_zero.mpr (pow2_pos _)) (rne_nonneg f.p f.emin h0))

theorem Fmt.round_of_nonneg (f : Fmt) {q : ℚ} (hq : 0 ≤ q) :
    f.round q = .inf false ∨ (f.round q = .fin (rne f.p f.emin q) ∧ 0 ≤ rne f.p f.emin q) := by
  have hr := rne_nonneg f.p f.emin hq
  unfold Fmt.round
  simp only []
  split
  · left; rfl
  · right
    have : ¬ rne f.p f.emin q ≤ -pow2 f.emax := by
      have := pow2_pos f.emax; intro h; linarith
    rw [if_neg this]; exact ⟨rfl, hr⟩

theorem Fmt.round_mono (f : Fmt) (hp : 1 ≤ f.p) {a b : ℚ} (hab : a ≤ b) :
    le (f.round a) (f.round b) = true := by
  have hr := rne_mono f.p hp f.emin hab
  have hpos := pow2_pos f.emax
  unfold Fmt.round
  simp only []
  by_cases h1 : pow2 f.emax ≤ rne f.p f.emin a
  · have h2 : pow2 f.emax ≤ rne f.p f.emin b := le_trans h1 hr
    rw [if_pos h1, if_pos h2]; rfl
  · rw [if_neg h1]
    by_cases h3 : rne f.p f.emin a ≤ -pow2 f.emax
    · rw [if_pos h3]
      split
      · rfl
      · split <;> rfl
    · rw [if_neg h3]
      by_cases h2 : pow2 f.emax ≤ rne f.p f.emin b
      · rw [if_pos h2]; rfl
      · rw [if_neg h2]
        have h4 : ¬ rne f.p f.emin b ≤ -pow2 f.emax := by intro h; linarith [not_le.mp h3]
        rw [if_neg h4]
        simp [le, hr]

theorem Fmt.round_eq_self_of_rep (f : Fmt) {q : ℚ} (h : Rep f.p f.emin q)
    (h1 : q < pow2 f.emax) (h2 : -pow2 f.emax < q) : f.round q = .fin q := by
  unfold Fmt.round
  simp only [rne_eq_self_of_rep f.p f.emin h]
  rw [if_neg (not_le.mpr h1), if_neg (not_le.mpr h2)]

theorem div_fin_fin (f : Fmt) (a : ℚ) {b : ℚ} (hb : b ≠ 0) :
    div f (.fin a) (.fin b) = f.round (a / b) := by
  simp only [div, hb, if_false]

theorem sub_fin_fin (f : Fmt) (a b : ℚ) : sub f (.fin a) (.fin b) = f.round (a - b) := by
  simp only [sub, neg, add, sub_eq_add_neg]

@[simp] theorem lt_nan_left (b : FV) : lt .nan b = false := by cases b <;> rfl
@[simp] theorem lt_nan_right (a : FV) : lt a .nan = false := by cases a <;> rfl
@[simp] theorem le_nan_left (b : FV) : le .nan b = false := by cases b <;> rfl
@[simp] theorem le_nan_right (a : FV) : le a .nan = false := by cases a <;> rfl
@[simp] theorem lt_fin_fin (a b : ℚ) : lt (.fin a) (.fin b) = decide (a < b) := rfl
@[simp] theorem le_fin_fin (a b : ℚ) : le (.fin a) (.fin b) = decide (a ≤ b) := rfl

theorem le_refl_of_ne_nan {a : FV} (h : a ≠ .nan) : le a a = true := by
  cases a with
  | nan => exact absurd rfl h
  | inf s => cases s <;> rfl
  | fin q => simp

theorem lt_irrefl (a : FV) : lt a a = false := by
  cases a with
  | nan => rfl
  | inf s => cases s <;> rfl
  | fin q => simp

theorem le_of_lt {a b : FV} (h : lt a b = true) : le a b = true := by
  rcases a with _ | ⟨_ | _⟩ | a <;> rcases b with _ | ⟨_ | _⟩ | b <;> simp_all [lt, le]
  exact h.le

theorem le_trans' {a b c : FV} (h1 : le a b = true) (h2 : le b c = true) : le a c = true := by
  rcases a with _ | ⟨_ | _⟩ | a <;> rcases b with _ | ⟨_ | _⟩ | b <;> rcases c with _ | ⟨_ | _⟩ | c <;>
    simp_all [le]
  exact _root_.le_trans h1 h2

theorem lt_of_lt_of_le' {a b c : FV} (h1 : lt a b = true) (h2 : le b c = true) : lt a c = true := by
  rcases a with _ | ⟨_ | _⟩ | a <;> rcases b with _ | ⟨_ | _⟩ | b <;> rcases c with _ | ⟨_ | _⟩ | c <;>
    simp_all [lt, le]
  exact lt_of_lt_of_le h1 h2

theorem lt_of_le_of_lt' {a b c : FV} (h1 : le a b = true) (h2 : lt b c = true) : lt a c = true := by
  rcases a with _ | ⟨_ | _⟩ | a <;> rcases b with _ | ⟨_ | _⟩ | b <;> rcases c with _ | ⟨_ | _⟩ | c <;>
    simp_all [lt, le]
  exact lt_of_le_of_lt h1 h2

theorem lt_or_ge_of_ne_nan {a b : FV} (ha : a ≠ .nan) (hb : b ≠ .nan) : lt a b = !le b a := by
  cases a with
  | nan => exact absurd rfl ha
  | inf s =>
    cases b with
    | nan => exact absurd rfl hb
    | inf t => cases s <;> cases t <;> rfl
    | fin q => cases s <;> rfl
  | fin p =>
    cases b with
    | nan => exact absurd rfl hb
    | inf t => cases t <;> rfl
    | fin q => simp only [lt_fin_fin, le_fin_fin, ← not_le, decide_not]

theorem fmax_nan_left (b : FV) : fmax .nan b = b := by cases b <;> rfl
theorem fmax_nan_right (a : FV) : fmax a .nan = a := by cases a <;> rfl
theorem fmin_nan_left (b : FV) : fmin .nan b = b := by cases b <;> rfl
theorem fmin_nan_right (a : FV) : fmin a .nan = a := by cases a <;> rfl

theorem fmax_of_ne_nan {a b : FV} (ha : a ≠ .nan) (hb : b ≠ .nan) :
    fmax a b = if lt a b then b else a := by
  cases a <;> cases b <;> first | rfl | (exfalso; simp at ha)

theorem fmin_of_ne_nan {a b : FV} (ha : a ≠ .nan) (hb : b ≠ .nan) :
    fmin a b = if lt b a then b else a := by
  cases a <;> cases b <;> first | rfl | (exfalso; simp at ha)

/-- Rust's `max` returns NaN only when both operands are NaN -/
theorem fmax_ne_nan_left {a : FV} (b : FV) (ha : a ≠ .nan) : fmax a b ≠ .nan := by
  by_cases hb : b = .nan
  · subst hb; rw [fmax_nan_right]; exact ha
  · rw [fmax_of_ne_nan ha hb]; split <;> assumption

theorem fmin_ne_nan_left {a : FV} (b : FV) (ha : a ≠ .nan) : fmin a b ≠ .nan := by
  by_cases hb : b = .nan
  · subst hb; rw [fmin_nan_right]; exact ha
  · rw [fmin_of_ne_nan ha hb]; split <;> assumption

theorem le_fmax_left {a : FV} (b : FV) (ha : a ≠ .nan) : le a (fmax a b) = true := by
  by_cases hb : b = .nan
  · subst hb; rw [fmax_nan_right]; exact le_refl_of_ne_nan ha
  · rw [fmax_of_ne_nan ha hb]
    split
    · rename_i h; exact le_of_lt h
    · exact le_refl_of_ne_nan ha

theorem fmin_le_right {b : FV} (a : FV) (ha : a ≠ .nan) (hb : b ≠ .nan) : le (fmin a b) b = true := by
  rw [fmin_of_ne_nan ha hb]
  split
  · exact le_refl_of_ne_nan hb
  · rename_i h
    have := lt_or_ge_of_ne_nan hb ha
    rw [this] at h
    simpa using h

theorem fmin_le_left {a : FV} (b : FV) (ha : a ≠ .nan) : le (fmin a b) a = true := by
  by_cases hb : b = .nan
  · subst hb; rw [fmin_nan_right]; exact le_refl_of_ne_nan ha
  · rw [fmin_of_ne_nan ha hb]
    split
    · rename_i h; exact le_of_lt h
    · exact le_refl_of_ne_nan ha

theorem le_fmin {c a b : FV} (ha : a ≠ .nan) (h1 : le c a = true) (h2 : b = .nan ∨ le c b = true) :
    le c (fmin a b) = true := by
  by_cases hb : b = .nan
  · subst hb; rw [fmin_nan_right]; exact h1
  · rw [fmin_of_ne_nan ha hb]
    rcases h2 with h2 | h2
    · exact absurd h2 hb
    · split <;> assumption

theorem toU64_lt_two_pow (v : FV) : toU64 v < 2 ^ 64 := by
  have := Mb.toU64_lt v
  unfold u64Max at this
  omega

theorem fround_fin (q : ℚ) : ∃ z : Int, fround (.fin q) = .fin (z : ℚ) := by
  simp only [fround]
  split
  · exact ⟨-((-q) + 1 / 2).floor, by push_cast; rfl⟩
  · exact ⟨(q + 1 / 2).floor, rfl⟩

theorem fround_nonneg_of_nonneg {q : ℚ} (h : 0 ≤ q) :
    ∃ r : ℚ, fround (.fin q) = .fin r ∧ 0 ≤ r := by
  simp only [fround]
  rw [if_neg (not_lt.mpr h)]
  refine ⟨_, rfl, ?_⟩
  have h0 : (0 : Int) ≤ (q + 1 / 2).floor := Rat.le_floor_iff.mpr (by push_cast; linarith)
  exact_mod_cast h0

theorem rep_nat_mul {p : Nat} {emin : Int} {m : Nat} {e k : Int} (he : emin ≤ e) (hm : m < 2 ^ p)
    (hk : e + p ≤ k) : Rep p emin ((m : ℚ) * pow2 e) ∧ |(m : ℚ) * pow2 e| < pow2 k := by
  refine ⟨⟨m, e, he, ?_, by push_cast; rfl⟩, ?_⟩
  · rw [abs_of_nonneg (by positivity)]; exact_mod_cast hm
  · rw [abs_of_nonneg (mul_nonneg (by positivity) (pow2_pos _).le)]
    calc (m : ℚ) * pow2 e < pow2 p * pow2 e := by
          apply mul_lt_mul_of_pos_right _ (pow2_pos _)
          rw [pow2_nat_eq]; exact_mod_cast hm
      _ = pow2 (p + e) := (pow2_add _ _).symm
      _ ≤ pow2 k := pow2_le_pow2 (by omega)

theorem val64_rep (b : F64) {q : ℚ} (h : val64 b = .fin q) : Rep 53 (-1074) q ∧ |q| < pow2 1024 := by
  unfold val64 decodeBits at h
  simp only [] at h
  set mant := b.toNat % 2 ^ 52 with hmant
  set ex := b.toNat / 2 ^ 52 % 2 ^ 11 with hex
  have hm : mant < 2 ^ 52 := Nat.mod_lt _ (by positivity)
  have he : ex < 2 ^ 11 := Nat.mod_lt _ (by positivity)
  split at h
  · split at h <;> exact absurd h (by simp)
  · rename_i hne
    injection h with h
    rw [show ((2 ^ (11 - 1) - 1 : Nat) : Int) = 1023 by norm_num] at h
    -- subnormal: `mant · 2^-1074`; normal: `(2^52 + mant) · 2^(ex - 1075)` with `ex ≤ 2046`
    have hmag : ∀ mag : ℚ, mag = (if ex = 0 then (mant : ℚ) * pow2 (1 - 1023 - ((52 : Nat) : Int))
          else ((2 ^ 52 + mant : Nat) : ℚ) * pow2 ((ex : Int) - 1023 - ((52 : Nat) : Int))) →
        Rep 53 (-1074) mag ∧ |mag| < pow2 1024 := by
      rintro mag rfl
      split
      · exact rep_nat_mul (by norm_num) (by omega) (by norm_num)
      · exact rep_nat_mul (by push_cast; omega) (by omega) (by push_cast; omega)
    obtain ⟨hr, hb⟩ := hmag _ rfl
    rw [← h]
    split
    · exact ⟨hr.neg, by rwa [abs_neg]⟩
    · exact ⟨hr, hb⟩

theorem val64_round_self (b : F64) {q : ℚ} (h : val64 b = .fin q) : f64.round q = .fin q := by
  obtain ⟨hr, hb⟩ := val64_rep b h
  rw [abs_lt] at hb
  exact Fmt.round_eq_self_of_rep f64 hr hb.2 hb.1

theorem rep_pow2 {k : Int} (h : -1074 ≤ k) : Rep 53 (-1074) (pow2 k) :=
  ⟨1, k, h, by norm_num, by simp⟩

theorem rep_two_pow (k : Nat) : Rep 53 (-1074) (2 ^ k) :=
  pow2_nat_eq k ▸ rep_pow2 (by omega)

theorem two_pow_lt {k : Nat} (h : k < 1024) : (2 : ℚ) ^ k < pow2 1024 :=
  pow2_nat_eq k ▸ pow2_lt_pow2 (by omega)

/-- in the normal range of binary64 one rounding has relative error at most `2^-53` -/
theorem rne_rel_err {q : ℚ} {k : Nat} (hk : k ≤ 1022) (hq : 1 / 2 ^ k ≤ q) :
    |rne 53 (-1074) q - q| ≤ q * (1 / 2 ^ 53) := by
  rw [← pow2_neg_eq] at hq
  have hq0 : 0 < q := lt_of_lt_of_le (pow2_pos _) hq
  have hil := le_ilog2_of_pow2_le hq0 hq
  have h := half_ulp_le 53 (-1074) hq0 (by push_cast; omega)
  rw [pow2_neg_eq] at h
  exact le_trans (rne_err_pos 53 (-1074) hq0) h

theorem round_zero : f64.round 0 = .fin 0 :=
  Fmt.round_eq_self_of_rep f64 (rep_zero _ _) (pow2_pos _) (neg_lt_zero.mpr (pow2_pos _))

theorem rep_one : Rep 53 (-1074) 1 := pow2_zero ▸ rep_pow2 (k := 0) (by decide)

theorem one_lt_pow2_1024 : (1 : ℚ) < pow2 1024 := by
  rw [← pow2_zero]; exact pow2_lt_pow2 (by norm_num)

theorem ofNat_exact (n : Nat) (h : n < 2 ^ 53) : ofNat f64 n = .fin (n : ℚ) := by
  obtain ⟨hr, hb⟩ := rep_nat_mul (p := 53) (emin := -1074) (m := n) (e := 0) (k := 1024)
    (by decide) h (by decide)
  rw [pow2_zero, mul_one, abs_lt] at hb
  rw [pow2_zero, mul_one] at hr
  exact Fmt.round_eq_self_of_rep f64 hr hb.2 hb.1

end Fp
end Mb
