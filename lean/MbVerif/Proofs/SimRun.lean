/-
  A whole run (`simAdvanced`): the returned trace is the kept part of the iteration stream, in
  iteration order (the final stable sort changes nothing, because recorded times are the monotone
  clock); how the stream depends on the output filters, the length cap and the iteration cap.
-/
import MbVerif.Proofs.SimCap

namespace Mb.Sim
open Mb Mb.SimSpec

section
variable {σ : Type} (ρ : Oracle σ)

theorem simAdvanced_of_init {budget : Nat} {mc ms : List Machine} {sq : SimQueue} {a : Args} {orc : σ} {st : St σ}
    (h : initState ρ mc ms sq a orc = .ok st) :
    simAdvanced ρ budget mc ms sq a orc = finish a (loop ρ a (loopFuel a budget) st 0 0) := by
  unfold simAdvanced
  rw [h]

theorem simAdvanced_stream_sorted (budget : Nat) (mc ms : List Machine) (sq : SimQueue) (a : Args) (orc : σ) :
    (∀ r ∈ (simAdvanced ρ budget mc ms sq a orc).stream, r.net = isNetwork r.ev) ∧
    (simAdvanced ρ budget mc ms sq a orc).stream.Pairwise (fun x y => x.ev.time ≤ y.ev.time) := by
  unfold simAdvanced
  cases initState ρ mc ms sq a orc with
  | error f => exact ⟨fun _ h => (nomatch h), List.Pairwise.nil⟩
  | ok st =>
    have h := loop_stream_sorted ρ a (loopFuel a budget) st 0 0
    simp only [finish_stream]
    exact ⟨fun r hr => (h.1 r hr).2, h.2⟩

theorem simAdvanced_trace (budget : Nat) (mc ms : List Machine) (sq : SimQueue) (a : Args) (orc : σ) :
    (simAdvanced ρ budget mc ms sq a orc).trace =
      if (simAdvanced ρ budget mc ms sq a orc).stop.isFault then []
      else ((simAdvanced ρ budget mc ms sq a orc).stream.filter a.keep).map (·.ev) := by
  unfold simAdvanced
  cases initState ρ mc ms sq a orc with
  | error f => rfl
  | ok st =>
    simp only [finish_stream, finish_stop]
    exact finish_trace a _ (loop_stream_sorted ρ a (loopFuel a budget) st 0 0).2

theorem simAdvanced_trace_sorted (budget : Nat) (mc ms : List Machine) (sq : SimQueue) (a : Args) (orc : σ) :
    (simAdvanced ρ budget mc ms sq a orc).trace.Pairwise (fun x y => x.time ≤ y.time) := by
  rw [simAdvanced_trace]
  split
  · exact .nil
  · rw [List.pairwise_map]
    exact (simAdvanced_stream_sorted ρ budget mc ms sq a orc).2.filter _

/-- without a length cap the output filters do not enter the loop -/
theorem simAdvanced_unfiltered (budget : Nat) (mc ms : List Machine) (sq : SimQueue) (a : Args) (orc : σ)
    (hcap : a.maxTraceLength = 0) :
    (simAdvanced ρ budget mc ms sq a.unfiltered orc).stream = (simAdvanced ρ budget mc ms sq a orc).stream ∧
    (simAdvanced ρ budget mc ms sq a.unfiltered orc).stop = (simAdvanced ρ budget mc ms sq a orc).stop := by
  unfold simAdvanced
  rw [initState_unfiltered]
  cases initState ρ mc ms sq a orc with
  | error f => exact ⟨rfl, rfl⟩
  | ok st =>
    simp only [finish_stream, finish_stop]
    rw [loop_filter_indep ρ a a.unfiltered (sameButFilters_unfiltered a) hcap (loopFuel a budget) st 0 0 0]
    exact ⟨rfl, rfl⟩

theorem simAdvanced_cap_prefix (budget : Nat) (mc ms : List Machine) (sq : SimQueue) (a : Args) (orc : σ)
    (hc : a.maxTraceLength > 0) :
    (simAdvanced ρ budget mc ms sq a orc).stream.filter a.keep =
      ((simAdvanced ρ budget mc ms sq a.uncapped orc).stream.filter a.keep).take a.maxTraceLength := by
  unfold simAdvanced
  rw [show initState ρ mc ms sq a.uncapped orc = initState ρ mc ms sq a orc from rfl]
  cases initState ρ mc ms sq a orc with
  | error f => simp
  | ok st =>
    simp only [finish_stream]
    exact loop_cap_prefix ρ a hc (loopFuel a budget) st 0 0 0 hc

/-- with an iteration cap the loop performs at most that many iterations, and the model's own
    budget is never what stops it -/
theorem simAdvanced_iters (budget : Nat) (mc ms : List Machine) (sq : SimQueue) (a : Args) (orc : σ)
    (hm : a.maxSimIterations > 0) :
    (simAdvanced ρ budget mc ms sq a orc).stream.length ≤ a.maxSimIterations ∧
    (simAdvanced ρ budget mc ms sq a orc).stop ≠ .loopFuel := by
  unfold simAdvanced
  cases initState ρ mc ms sq a orc with
  | error f => exact ⟨Nat.zero_le _, nofun⟩
  | ok st =>
    have hf : loopFuel a budget = a.maxSimIterations := if_pos hm
    have := loop_iters ρ a hm (loopFuel a budget) st 0 0 hm (by rw [hf]; omega)
    simp only [finish_stream, finish_stop]
    exact ⟨by omega, this.2⟩

end
end Mb.Sim
