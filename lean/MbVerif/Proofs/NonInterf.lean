/-
  Non-interference (C10) by simulation: what a neighbour does leaves the machine's component alone
  (`Same`, from the frame of `Reach`), and the machine's own steps read nothing but that component,
  the globals and the draws (`Rel`); lifted through events, the signal round, calls, histories and
  construction.

  `Rel m i k s s'` relates a framework `s` in which machine `m` sits at index `i` to a framework
  `s'` in which the same machine sits at index `k`: same machine, same runtime, same action slot
  up to the machine id stored in the action, same framework-wide accounting. Nothing is said
  about the other machines, the random state, the log, the fault flag or the pending signal.
  Every model function run for the machine on both sides preserves `Rel` and returns the same
  value, provided the two random sources agree on what the machine can observe of them
  (`DrawAgree`).
-/
import MbVerif.Proofs.ReachMain
import MbVerif.Proofs.RoundRel

namespace Mb

/-- an action with the machine id removed -/
def TAction.erase : TAction → TAction
  | .cancel _ t => .cancel 0 t
  | .sendPadding t b r _ => .sendPadding t b r 0
  | .blockOutgoing t d b r _ => .blockOutgoing t d b r 0
  | .updateTimer d r _ => .updateTimer d r 0

/-- the distributions of an action -/
def Action.dists : Action → List Dist
  | .cancel _ => []
  | .sendPadding _ _ tmo l => tmo :: l.toList
  | .blockOutgoing _ _ tmo du l => tmo :: du :: l.toList
  | .updateTimer _ du l => du :: l.toList

/-- `d` is one of the distributions of machine `m` -/
def DistIn (m : Machine) (d : Dist) : Prop :=
  ∃ st, st ∈ m.states ∧
    ((∃ a, st.action = some a ∧ d ∈ a.dists) ∨
     (∃ c, (st.counterA = some c ∨ st.counterB = some c) ∧ c.dist = some d))

/-- the value `distSample` works with: the oracle's raw value unless the constant fast path applies -/
def effRaw {σ : Type} (ρ : Oracle σ) (d : Dist) (a : σ) : F64 :=
  match d.constUniform with
  | some lo => lo
  | none => (ρ.d d a).1

/-- two random sources agree on everything machine `m` can observe of them, whatever their states -/
structure DrawAgree {σ σ' : Type} (ρ : Oracle σ) (ρ' : Oracle σ') (m : Machine) : Prop where
  u : ∀ (st : State) (e : Nat) (vec : List Trans), st ∈ m.states → st.transitions[e]? = some (some vec) →
        ∀ a b, sampleState vec (ρ.u a).1 = sampleState vec (ρ'.u b).1
  d : ∀ d, DistIn m d → ∀ a b, effRaw ρ d a = effRaw ρ' d b

variable {σ σ' : Type}

/-- `t` agrees with `s` on everything that belongs to machine index `i` and on the globals -/
structure Same (i : Nat) (s t : Fw σ) : Prop where
  m : t.machines[i]? = s.machines[i]?
  rt : t.rt[i]? = s.rt[i]?
  act : t.actions[i]? = s.actions[i]?
  g : t.g = s.g

theorem Same.refl (i : Nat) (s : Fw σ) : Same i s s := ⟨rfl, rfl, rfl, rfl⟩
theorem Same.trans {i : Nat} {s t u : Fw σ} (h₁ : Same i s t) (h₂ : Same i t u) : Same i s u :=
  ⟨h₂.m.trans h₁.m, h₂.rt.trans h₁.rt, h₂.act.trans h₁.act, h₂.g.trans h₁.g⟩

theorem Same.push (i : Nat) (s : Fw σ) (e) : Same i s (s.push e) := ⟨rfl, rfl, rfl, rfl⟩
theorem Same.withFault (i : Nat) (s : Fw σ) (f) : Same i s (s.withFault f) :=
  ⟨by simp, by simp, by simp, by simp⟩
theorem Same.rng (i : Nat) (s : Fw σ) (g : σ) : Same i s { s with rng := g } := ⟨rfl, rfl, rfl, rfl⟩
theorem Same.signal (i : Nat) (s : Fw σ) (p) : Same i s { s with signalPending := p } := ⟨rfl, rfl, rfl, rfl⟩

theorem Same.ofRngLog {i : Nat} {s t : Fw σ} (h : RngLogOnly s t) : Same i s t :=
  ⟨by rw [h.machines], by rw [h.rt], by rw [h.actions], h.g⟩

theorem Same.ofFrame {i j : Nat} {s t : Fw σ} (h : Frame j s t) (hij : i ≠ j) : Same i s t :=
  ⟨by rw [h.machines], h.rtOther i hij, h.actOther i hij, h.g⟩

structure Rel (m : Machine) (i k : Nat) (s : Fw σ) (s' : Fw σ') : Prop where
  mOK : ∀ m', s.machines[i]? = some m' → m' = m
  m : s.machines[i]? = s'.machines[k]?
  rt : s.rt[i]? = s'.rt[k]?
  act : (s.actions[i]?).map (Option.map TAction.erase) = (s'.actions[k]?).map (Option.map TAction.erase)
  g : s.g = s'.g

namespace Rel
variable {m : Machine} {i k : Nat} {s t : Fw σ} {s' t' : Fw σ'}

theorem both (h : Rel m i k s s') (hs : Same i s t) (hs' : Same k s' t') : Rel m i k t t' :=
  ⟨by rw [hs.m]; exact h.mOK, by rw [hs.m, hs'.m]; exact h.m, by rw [hs.rt, hs'.rt]; exact h.rt,
   by rw [hs.act, hs'.act]; exact h.act, by rw [hs.g, hs'.g]; exact h.g⟩

theorem fault (h : Rel m i k s s') (f f' : Fault) : Rel m i k (s.withFault f) (s'.withFault f') :=
  h.both (Same.withFault _ _ _) (Same.withFault _ _ _)

theorem push (h : Rel m i k s s') (e e' : LogEntry) : Rel m i k (s.push e) (s'.push e') :=
  h.both (Same.push _ _ _) (Same.push _ _ _)

theorem rng (h : Rel m i k s s') (g : σ) (g' : σ') : Rel m i k { s with rng := g } { s' with rng := g' } :=
  h.both (Same.rng _ _ _) (Same.rng _ _ _)

theorem ite (c : Bool) (h₁ : Rel m i k s s') (h₂ : Rel m i k t t') :
    Rel m i k (if c = true then s else t) (if c = true then s' else t') := by
  cases c
  · exact h₂
  · exact h₁

theorem rtCases (h : Rel m i k s s') :
    (s.rt[i]? = none ∧ s'.rt[k]? = none) ∨ ∃ r, s.rt[i]? = some r ∧ s'.rt[k]? = some r := by
  rw [← h.rt]
  cases s.rt[i]? with
  | none => exact .inl ⟨rfl, rfl⟩
  | some r => exact .inr ⟨r, rfl, rfl⟩

theorem rtLt (h : Rel m i k s s') : i < s.rt.length ↔ k < s'.rt.length := by
  rw [← Nat.not_le, ← Nat.not_le, ← List.getElem?_eq_none_iff, ← List.getElem?_eq_none_iff, h.rt]

theorem actLt (h : Rel m i k s s') : i < s.actions.length ↔ k < s'.actions.length := by
  rw [← Nat.not_le, ← Nat.not_le, ← List.getElem?_eq_none_iff, ← List.getElem?_eq_none_iff,
    ← Option.map_eq_none_iff (f := Option.map TAction.erase), h.act, Option.map_eq_none_iff]

theorem modRt (h : Rel m i k s s') (f : Runtime → Runtime) : Rel m i k (s.modRt i f) (s'.modRt k f) :=
  ⟨by rw [Fw.modRt_machines]; exact h.mOK, by rw [Fw.modRt_machines, Fw.modRt_machines]; exact h.m,
   by rw [Fw.modRt_rt_self, Fw.modRt_rt_self, h.rt], by rw [Fw.modRt_actions, Fw.modRt_actions]; exact h.act,
   by rw [Fw.modRt_g, Fw.modRt_g]; exact h.g⟩

theorem setAct (h : Rel m i k s s') (a a' : Option TAction) (ha : a.map TAction.erase = a'.map TAction.erase) :
    Rel m i k { s with actions := s.actions.set i a } { s' with actions := s'.actions.set k a' } := by
  refine ⟨h.mOK, h.m, h.rt, ?_, h.g⟩
  simp only [List.getElem?_set_self']
  by_cases hi : i < s.actions.length
  · have hk := h.actLt.mp hi
    simp [hi, hk, ha]
  · have hk : ¬ k < s'.actions.length := fun hk => hi (h.actLt.mpr hk)
    simp [hi, hk]

theorem slot (h : Rel m i k s s') :
    (s.actions[i]? = none ∧ s'.actions[k]? = none) ∨
    ∃ a b, s.actions[i]? = some a ∧ s'.actions[k]? = some b ∧ a.isNone = b.isNone := by
  have hact := h.act
  cases ha : s.actions[i]? with
  | none => rw [ha] at hact; exact Or.inl ⟨rfl, Option.map_eq_none_iff.mp hact.symm⟩
  | some a =>
    rw [ha] at hact
    obtain ⟨b, hb, hab⟩ := Option.map_eq_some_iff.mp hact.symm
    refine Or.inr ⟨a, b, rfl, hb, ?_⟩
    rw [← Option.isNone_map (f := TAction.erase), ← hab, Option.isNone_map]

theorem setG (h : Rel m i k s s') (F : Globals → Globals) :
    Rel m i k { s with g := F s.g } { s' with g := F s'.g } :=
  ⟨h.mOK, h.m, h.rt, h.act, by simp [h.g]⟩

end Rel

/- sampling: the value depends on the source only through `effRaw`, the rest is frame -/

section
variable (ρ : Oracle σ) (ρ' : Oracle σ')

theorem distSample_fst (d : Dist) (s : Fw σ) : (distSample ρ d s).1 = d.clamp (effRaw ρ d s.rng) := by
  unfold distSample effRaw
  cases ρ.d d s.rng with
  | mk raw g => rfl

/-- the two sources agree on every distribution of action `a` -/
def AgreeA (a : Action) : Prop := ∀ d ∈ a.dists, ∀ x y, effRaw ρ d x = effRaw ρ' d y

theorem distSample_val (d : Dist) (s : Fw σ) (s' : Fw σ') (h : ∀ x y, effRaw ρ d x = effRaw ρ' d y) :
    (distSample ρ d s).1 = (distSample ρ' d s').1 := by
  rw [distSample_fst, distSample_fst, h]

theorem sampleTimeout_val (a : Action) (s : Fw σ) (s' : Fw σ') (h : AgreeA ρ ρ' a) :
    (sampleTimeout ρ a s).1 = (sampleTimeout ρ' a s').1 := by
  cases a with
  | sendPadding _ _ tmo _ | blockOutgoing _ _ tmo _ _ =>
    simp only [sampleTimeout]
    rw [distSample_val ρ ρ' tmo s s' (h tmo (by simp [Action.dists]))]
  | _ => rfl

theorem sampleDuration_val (a : Action) (s : Fw σ) (s' : Fw σ') (h : AgreeA ρ ρ' a) :
    (sampleDuration ρ a s).1 = (sampleDuration ρ' a s').1 := by
  cases a with
  | updateTimer _ du _ | blockOutgoing _ _ _ du _ =>
    simp only [sampleDuration]
    rw [distSample_val ρ ρ' du s s' (h du (by simp [Action.dists]))]
  | _ => rfl

theorem sampleLimit_val (a : Action) (s : Fw σ) (s' : Fw σ') (h : AgreeA ρ ρ' a) :
    (sampleLimit ρ a s).1 = (sampleLimit ρ' a s').1 := by
  unfold sampleLimit
  cases hl : a.limit with
  | none => rfl
  | some l =>
    have hmem : l ∈ a.dists := by
      cases a <;> simp [Action.limit] at hl <;> simp [Action.dists, hl]
    simp only
    rw [distSample_val ρ ρ' l s s' (h l hmem)]

theorem counterOperand_val (c : Counter) (other : Nat) (s : Fw σ) (s' : Fw σ')
    (hc : ∀ d, c.dist = some d → ∀ x y, effRaw ρ d x = effRaw ρ' d y) :
    (counterOperand ρ c other s).1 = (counterOperand ρ' c other s').1 := by
  unfold counterOperand sampleValue
  split
  · rfl
  · cases hd : c.dist with
    | none => rfl
    | some d =>
      simp only
      rw [distSample_val ρ ρ' d s s' (hc d hd)]

end

section
variable (ρ : Oracle σ) (ρ' : Oracle σ') {m : Machine} {i k : Nat}

/-- the two sources agree on all distributions of state `st` -/
def AgreeSt (st : State) : Prop :=
  (∀ a, st.action = some a → AgreeA ρ ρ' a) ∧
  (∀ c, (st.counterA = some c ∨ st.counterB = some c) → ∀ d, c.dist = some d → ∀ x y, effRaw ρ d x = effRaw ρ' d y)

theorem DrawAgree.agreeSt (hda : DrawAgree ρ ρ' m) (st : State) (hst : st ∈ m.states) : AgreeSt ρ ρ' st :=
  ⟨fun a ha d hd => hda.d d ⟨st, hst, Or.inl ⟨a, ha, hd⟩⟩,
   fun c hc d hd => hda.d d ⟨st, hst, Or.inr ⟨c, hc, hd⟩⟩⟩

theorem erase_mk (act : Action) (a b tmo dur : Nat) :
    (mkAction act a tmo dur).erase = (mkAction act b tmo dur).erase := by
  cases act <;> rfl

theorem scheduleAction_sim (hda : DrawAgree ρ ρ' m) (state : Nat) (s : Fw σ) (s' : Fw σ') (h : Rel m i k s s') :
    Rel m i k (scheduleAction ρ i state s) (scheduleAction ρ' k state s') := by
  rw [scheduleAction_eq, scheduleAction_eq, ← h.m]
  cases hm : s.machines[i]? with
  | none => exact h.fault _ _
  | some m' =>
  have hmm := h.mOK m' hm
  subst hmm
  simp only
  cases hst : m'.states[state]? with
  | none => exact h.fault _ _
  | some st =>
  simp only [ge_iff_le, ← Nat.not_lt, h.actLt]
  split
  · exact h.fault _ _
  · cases hact : st.action with
    | none => exact h.setAct none none rfl
    | some act =>
      have hA := (hda.agreeSt ρ ρ' st (List.mem_of_getElem? hst)).1 act hact
      have h1 := (h.both (Same.ofRngLog (sampleTimeout_spec ρ i act s).1)
        (Same.ofRngLog (sampleTimeout_spec ρ' k act s').1)).both
        (Same.ofRngLog (sampleDuration_spec ρ i act _).1) (Same.ofRngLog (sampleDuration_spec ρ' k act _).1)
      refine h1.setAct _ _ ?_
      rw [sampleTimeout_val ρ ρ' act s s' hA, sampleDuration_val ρ ρ' act _ (sampleTimeout ρ' act s').2 hA]
      exact congrArg some (erase_mk act i k _ _)

theorem enterState_sim (hda : DrawAgree ρ ρ' m) (cur next : Nat) (s : Fw σ) (s' : Fw σ') (h : Rel m i k s s') :
    Rel m i k (enterState ρ i m cur next s) (enterState ρ' k m cur next s') := by
  unfold enterState
  split
  · simp only
    have h1 := h.modRt (fun r => { r with currentState := next })
    cases hst : m.states[next]? with
    | none => exact h1.fault _ _
    | some nst =>
      simp only
      cases hact : nst.action with
      | none => exact (h1.modRt _).push _ _
      | some a =>
        simp only
        rw [← sampleLimit_val ρ ρ' a _ _ ((hda.agreeSt ρ ρ' nst (List.mem_of_getElem? hst)).1 a hact)]
        exact ((h1.both (Same.ofRngLog (sampleLimit_spec ρ i a _).1)
          (Same.ofRngLog (sampleLimit_spec ρ' k a _).1)).modRt _).push _ _
  · exact h

theorem zeroedAOf_sim {s : Fw σ} {s' : Fw σ'} (h : Rel m i k s s') : zeroedAOf s i = zeroedAOf s' k := by
  unfold zeroedAOf; rw [h.rt]
theorem zeroedBOf_sim {s : Fw σ} {s' : Fw σ'} (h : Rel m i k s s') : zeroedBOf s i = zeroedBOf s' k := by
  unfold zeroedBOf; rw [h.rt]
theorem counterAOf_sim {s : Fw σ} {s' : Fw σ'} (h : Rel m i k s s') : counterAOf s i = counterAOf s' k := by
  unfold counterAOf; rw [h.rt]
theorem counterBOf_sim {s : Fw σ} {s' : Fw σ'} (h : Rel m i k s s') : counterBOf s i = counterBOf s' k := by
  unfold counterBOf; rw [h.rt]

theorem storeCounterA_sim (oldA newA : Nat) (s : Fw σ) (s' : Fw σ') (h : Rel m i k s s') :
    Rel m i k (storeCounterA i oldA newA s).1 (storeCounterA k oldA newA s').1 ∧
    (storeCounterA i oldA newA s).2 = (storeCounterA k oldA newA s').2 := by
  unfold storeCounterA
  simp only
  have h1 := h.modRt (fun r => { r with counterA := newA })
  rw [zeroedAOf_sim h1]
  split
  · exact ⟨h1.modRt _, rfl⟩
  · exact ⟨h1, rfl⟩

theorem storeCounterB_sim (oldB newB : Nat) (s : Fw σ) (s' : Fw σ') (h : Rel m i k s s') :
    Rel m i k (storeCounterB i oldB newB s).1 (storeCounterB k oldB newB s').1 ∧
    (storeCounterB i oldB newB s).2 = (storeCounterB k oldB newB s').2 := by
  unfold storeCounterB
  simp only
  have h1 := h.modRt (fun r => { r with counterB := newB })
  rw [zeroedBOf_sim h1]
  split
  · exact ⟨h1.modRt _, rfl⟩
  · exact ⟨h1, rfl⟩

theorem applyCounterA_sim (c : Option Counter) (oldA oldB : Nat) (s : Fw σ) (s' : Fw σ') (h : Rel m i k s s')
    (hc : ∀ c', c = some c' → ∀ d, c'.dist = some d → ∀ x y, effRaw ρ d x = effRaw ρ' d y) :
    Rel m i k (applyCounterA ρ i c oldA oldB s).1 (applyCounterA ρ' k c oldA oldB s').1 ∧
    (applyCounterA ρ i c oldA oldB s).2 = (applyCounterA ρ' k c oldA oldB s').2 := by
  unfold applyCounterA
  cases c with
  | none => exact ⟨h, rfl⟩
  | some c =>
    simp only
    rw [counterOperand_val ρ ρ' c oldB s s' (hc c rfl)]
    exact storeCounterA_sim _ _ _ _ (h.both (Same.ofRngLog (counterOperand_spec ρ i c oldB s).1)
      (Same.ofRngLog (counterOperand_spec ρ' k c oldB s').1))

theorem applyCounterB_sim (c : Option Counter) (oldA oldB : Nat) (s : Fw σ) (s' : Fw σ') (h : Rel m i k s s')
    (hc : ∀ c', c = some c' → ∀ d, c'.dist = some d → ∀ x y, effRaw ρ d x = effRaw ρ' d y) :
    Rel m i k (applyCounterB ρ i c oldA oldB s).1 (applyCounterB ρ' k c oldA oldB s').1 ∧
    (applyCounterB ρ i c oldA oldB s).2 = (applyCounterB ρ' k c oldA oldB s').2 := by
  unfold applyCounterB
  cases c with
  | none => exact ⟨h, rfl⟩
  | some c =>
    simp only
    rw [counterOperand_val ρ ρ' c oldA s s' (hc c rfl)]
    exact storeCounterB_sim _ _ _ _ (h.both (Same.ofRngLog (counterOperand_spec ρ i c oldA s).1)
      (Same.ofRngLog (counterOperand_spec ρ' k c oldA s').1))

theorem slot_transfer {l l' : List (Option TAction)} {i k : Nat}
    (h : (l[i]?).map (Option.map TAction.erase) = (l'[k]?).map (Option.map TAction.erase))
    (a : TAction) (ha : l[i]? = some (some a)) : ∃ a', l'[k]? = some (some a') ∧ a'.erase = a.erase := by
  rw [ha] at h
  obtain ⟨o, ho, he⟩ := Option.map_eq_some_iff.mp h.symm
  obtain ⟨a', rfl, ha'⟩ := Option.map_eq_some_iff.mp he
  exact ⟨a', ho, ha'⟩

theorem signalFrom_same (j i : Nat) (s : Fw σ) : Same i s (signalFrom j s) := ⟨rfl, rfl, rfl, rfl⟩

end

section
variable (ρ : Oracle σ) (ρ' : Oracle σ') {m : Machine} {i k : Nat}

theorem sim_main (hda : DrawAgree ρ ρ' m) (fuel : Nat) :
    (∀ ev (s : Fw σ) (s' : Fw σ'), Rel m i k s s' →
      Rel m i k (transition ρ fuel i ev s).1 (transition ρ' fuel k ev s').1 ∧
      (transition ρ fuel i ev s).2 = (transition ρ' fuel k ev s').2) ∧
    (∀ (s : Fw σ) (s' : Fw σ'), Rel m i k s s' →
      Rel m i k (updateCounter ρ fuel i s).1 (updateCounter ρ' fuel k s').1 ∧
      (updateCounter ρ fuel i s).2 = (updateCounter ρ' fuel k s').2) := by
  induction fuel with
  | zero =>
    refine ⟨fun ev s s' h => ?_, fun s s' h => ?_⟩
    · rw [transition, transition]; exact ⟨h.fault _ _, rfl⟩
    · rw [updateCounter, updateCounter]; exact ⟨h.fault _ _, rfl⟩
  | succ n ih =>
    obtain ⟨ihT, ihU⟩ := ih
    refine ⟨fun ev s s' h => ?_, fun s s' h => ?_⟩
    · rw [transition, transition, ← h.rt, ← h.m]
      cases hr : s.rt[i]? with
      | none => exact ⟨h.fault _ _, rfl⟩
      | some r =>
      cases hm : s.machines[i]? with
      | none => exact ⟨h.fault _ _, rfl⟩
      | some m' =>
      cases h.mOK m' hm
      simp only []
      have h0 := h.push (.trans i ev.toNat r.currentState) (.trans k ev.toNat r.currentState)
      generalize s.push (.trans i ev.toNat r.currentState) = s0 at h0 ⊢
      generalize s'.push (.trans k ev.toNat r.currentState) = s0' at h0 ⊢
      by_cases hend : r.currentState = STATE_END
      · rw [if_pos hend, if_pos hend]; exact ⟨h0, rfl⟩
      · rw [if_neg hend, if_neg hend]
        cases hst : m.states[r.currentState]? with
        | none => exact ⟨h0.fault _ _, rfl⟩
        | some st =>
        simp only []
        cases htr : st.transitions[ev.toNat]? with
        | none => exact ⟨h0.fault _ _, rfl⟩
        | some ov =>
        cases ov with
        | none => exact ⟨h0, rfl⟩
        | some vec =>
        simp only []
        rw [← hda.u st ev.toNat vec (List.mem_of_getElem? hst) htr s0.rng s0'.rng]
        have h1 := (h0.rng (ρ.u s0.rng).2 (ρ'.u s0'.rng).2).push (.draw (ρ.u s0.rng).1) (.draw (ρ'.u s0'.rng).1)
        cases hss : sampleState vec (ρ.u s0.rng).1 with
        | none => exact ⟨h1, rfl⟩
        | some next =>
        simp only []
        have h2 := h1.push (.sampled i ev.toNat next) (.sampled k ev.toNat next)
        by_cases hne : next = STATE_END
        · rw [if_pos hne, if_pos hne]; exact ⟨h2.modRt _, rfl⟩
        · rw [if_neg hne, if_neg hne]
          by_cases hns : next = STATE_SIGNAL
          · rw [if_pos hns, if_pos hns]
            exact ⟨h2.both (signalFrom_same _ _ _) (signalFrom_same _ _ _), rfl⟩
          · rw [if_neg hns, if_neg hns]
            have h3 := enterState_sim ρ ρ' hda r.currentState next _ _ h2
            generalize enterState ρ i m r.currentState next _ = sa at h3 ⊢
            generalize enterState ρ' k m r.currentState next _ = sb at h3 ⊢
            rcases h3.rtCases with ⟨e1, e2⟩ | ⟨r1, e1, e2⟩
            · rw [e1, e2]; exact ⟨h3.fault _ _, rfl⟩
            rw [e1, e2, ← h3.g]
            simp only []
            cases belowActionLimits sa.g r1 m with
            | none => exact ⟨h3.fault _ _, rfl⟩
            | some below =>
            simp only []
            obtain ⟨h4, hv4⟩ := ihU sa sb h3
            rw [← hv4]
            generalize updateCounter ρ n i sa = ra at h4 ⊢
            generalize updateCounter ρ' n k sb = rb at h4 ⊢
            have h5 := Rel.ite (ra.2.1 && below) (scheduleAction_sim ρ ρ' hda next _ _ h4) h4
            rcases h5.rtCases with ⟨e3, e4⟩ | ⟨r2, e3, e4⟩
            · rw [e3, e4]; exact ⟨h5.fault _ _, rfl⟩
            · rw [e3, e4]; exact ⟨h5, rfl⟩
    · rw [updateCounter, updateCounter, ← h.rt, ← h.m]
      cases hr : s.rt[i]? with
      | none => exact ⟨h.fault _ _, rfl⟩
      | some r =>
      cases hm : s.machines[i]? with
      | none => exact ⟨h.fault _ _, rfl⟩
      | some m' =>
      cases h.mOK m' hm
      simp only []
      cases hst : m.states[r.currentState]? with
      | none => exact ⟨h.fault _ _, rfl⟩
      | some st =>
      simp only []
      have hag := (hda.agreeSt ρ ρ' st (List.mem_of_getElem? hst)).2
      obtain ⟨ha, hva⟩ := applyCounterA_sim ρ ρ' st.counterA r.counterA r.counterB s s' h
        (fun c' hc' => hag c' (Or.inl hc'))
      obtain ⟨hb, hvb⟩ := applyCounterB_sim ρ ρ' st.counterB r.counterA r.counterB _ _ ha
        (fun c' hc' => hag c' (Or.inr hc'))
      rw [← hva, ← hvb]
      generalize applyCounterB ρ i _ _ _ _ = rb at hb ⊢
      generalize applyCounterB ρ' k _ _ _ _ = rb' at hb ⊢
      have hs2 := hb.push (.counter i r.counterA (counterAOf rb.1 i) r.counterB (counterBOf rb.1 i))
        (.counter k r.counterA (counterAOf rb'.1 k) r.counterB (counterBOf rb'.1 k))
      generalize (_ || rb.2) = z
      cases z with
      | false => exact ⟨hs2, rfl⟩
      | true =>
        obtain ⟨h6, hv6⟩ := ihT .counterZero _ _ hs2
        rw [if_pos rfl, if_pos rfl, ← hv6]
        rcases h6.slot with ⟨e1, e2⟩ | ⟨a, b, e1, e2, hab⟩
        · rw [e1, e2]; exact ⟨h6.fault _ _, rfl⟩
        · rw [e1, e2]; simp only []; rw [hab]; exact ⟨h6, rfl⟩

theorem transition_sim (hda : DrawAgree ρ ρ' m) (fuel : Nat) (ev : Event) (s : Fw σ) (s' : Fw σ')
    (h : Rel m i k s s') :
    Rel m i k (transition ρ fuel i ev s).1 (transition ρ' fuel k ev s').1 ∧
    (transition ρ fuel i ev s).2 = (transition ρ' fuel k ev s').2 :=
  (sim_main ρ ρ' hda fuel).1 ev s s' h

end

section
variable (ρ : Oracle σ) (ρ' : Oracle σ') {m : Machine} {i k : Nat}

theorem decrementLimit_sim (hda : DrawAgree ρ ρ' m) (s : Fw σ) (s' : Fw σ') (h : Rel m i k s s') :
    Rel m i k (decrementLimit ρ i s) (decrementLimit ρ' k s') := by
  unfold decrementLimit
  rw [← h.rt, ← h.m]
  cases hr : s.rt[i]? with
  | none => exact h.fault _ _
  | some r =>
  cases hm : s.machines[i]? with
  | none => exact h.fault _ _
  | some m' =>
  cases h.mOK m' hm
  simp only []
  generalize (if r.stateLimit > 0 then r.stateLimit - 1 else r.stateLimit) = lim
  have h1 := (h.modRt (fun r' => { r' with stateLimit := lim })).push (.limit i lim true) (.limit k lim true)
  cases hst : m.states[r.currentState]? with
  | none => exact h1.fault _ _
  | some st =>
  simp only []
  cases hact : st.action with
  | none => exact h1
  | some a =>
  simp only [ge_iff_le, ← Nat.not_lt, h1.actLt]
  split
  · split
    · exact h1.fault _ _
    · exact (transition_sim ρ ρ' hda FUEL .limitReached _ _ (h1.setAct none none rfl)).1
  · exact h1

theorem notEnded_sim {s : Fw σ} {s' : Fw σ'} (h : Rel m i k s s') : notEnded s i = notEnded s' k := by
  unfold notEnded; rw [h.rt]

theorem transition_other (fuel j : Nat) (ev : Event) (s : Fw σ) (hij : i ≠ j) :
    Same i s (transition ρ fuel j ev s).1 :=
  Same.ofFrame (transition_reach ρ fuel j ev s).frame hij

theorem decrementLimit_other (j : Nat) (s : Fw σ) (hij : i ≠ j) : Same i s (decrementLimit ρ j s) :=
  Same.ofFrame (decrementLimit_reach ρ j s).frame hij

theorem modRt_other (j : Nat) (f : Runtime → Runtime) (s : Fw σ) (hij : i ≠ j) : Same i s (s.modRt j f) :=
  ⟨by simp, Fw.modRt_rt_other s j i f hij, by simp, by simp⟩

end

theorem fold_same {i : Nat} (F : Fw σ → Nat → Fw σ) (hF : ∀ s j, j ≠ i → Same i s (F s j))
    (l : List Nat) (hl : i ∉ l) (s : Fw σ) : Same i s (l.foldl F s) := by
  induction l generalizing s with
  | nil => exact Same.refl _ _
  | cons j t ih =>
    simp only [List.mem_cons, not_or] at hl
    exact (hF s j (Ne.symm hl.1)).trans (ih hl.2 _)

theorem fold_split {i : Nat} (F : Fw σ → Nat → Fw σ) (hF : ∀ s j, j ≠ i → Same i s (F s j))
    (l : List Nat) (hnd : l.Nodup) (hl : i ∈ l) (s : Fw σ) :
    ∃ a, Same i s a ∧ Same i (F a i) (l.foldl F s) := by
  induction l generalizing s with
  | nil => cases hl
  | cons j t ih =>
    rw [List.nodup_cons] at hnd
    by_cases hj : j = i
    · subst hj
      exact ⟨s, Same.refl _ _, fold_same F hF t hnd.1 _⟩
    · have hit : i ∈ t := by
        rcases List.mem_cons.mp hl with h | h
        · exact absurd h.symm hj
        · exact h
      obtain ⟨a, h1, h2⟩ := ih hnd.2 hit (F s j)
      exact ⟨a, (hF s j hj).trans h1, h2⟩

theorem fold_sim {m : Machine} {i k : Nat} (F : Fw σ → Nat → Fw σ) (F' : Fw σ' → Nat → Fw σ')
    (hF : ∀ s j, j ≠ i → Same i s (F s j)) (hF' : ∀ s j, j ≠ k → Same k s (F' s j))
    (hFF : ∀ s s', Rel m i k s s' → Rel m i k (F s i) (F' s' k))
    (l l' : List Nat) (hl : l.Nodup) (hl' : l'.Nodup) (hn : i ∈ l ↔ k ∈ l')
    (s : Fw σ) (s' : Fw σ') (h : Rel m i k s s') :
    Rel m i k (l.foldl F s) (l'.foldl F' s') := by
  by_cases hi : i ∈ l
  · obtain ⟨a, h1, h2⟩ := fold_split F hF l hl hi s
    obtain ⟨a', h1', h2'⟩ := fold_split F' hF' l' hl' (hn.mp hi) s'
    exact (hFF a a' (h.both h1 h1')).both h2 h2'
  · exact h.both (fold_same F hF _ hi s) (fold_same F' hF' _ (fun hk => hi (hn.mpr hk)) s')

/-- rename the machine ids carried by events -/
def mapEv (f : Nat → Nat) : TEvent → TEvent
  | .paddingSent x => .paddingSent (f x)
  | .blockingBegin x => .blockingBegin (f x)
  | .timerBegin x => .timerBegin (f x)
  | .timerEnd x => .timerEnd (f x)
  | .normalRecv => .normalRecv
  | .paddingRecv => .paddingRecv
  | .tunnelRecv => .tunnelRecv
  | .normalSent => .normalSent
  | .tunnelSent => .tunnelSent
  | .blockingEnd => .blockingEnd

section
variable (ρ : Oracle σ) (ρ' : Oracle σ') {m : Machine} {i k : Nat}

variable (f : Nat → Nat) (hf : ∀ x, x = i ↔ f x = k)

theorem evGlobal_sim (e : TEvent) (s : Fw σ) (s' : Fw σ') (h : Rel m i k s s') :
    Rel m i k (evGlobal e s) (evGlobal (mapEv f e) s') ∧ (mapEv f e).blocked s'.g = e.blocked s.g := by
  have hb : s'.g.blockingActive = s.g.blockingActive := by rw [h.g]
  cases e with
  | normalSent => exact ⟨h.setG (fun g => { g with normalSent := g.normalSent + 1 }), rfl⟩
  | paddingSent x => exact ⟨h.setG (fun g => { g with paddingSent := g.paddingSent + 1 }), rfl⟩
  | blockingBegin x =>
    refine ⟨?_, rfl⟩
    simp only [evGlobal, mapEv, hb]
    split
    · exact h.setG (fun g => { g with blockingActive := true, blockingStarted := g.now })
    · exact h
  | blockingEnd =>
    have hbl : TEvent.blockingEnd.blocked s'.g = TEvent.blockingEnd.blocked s.g := by rw [h.g]
    refine ⟨?_, hbl⟩
    simp only [evGlobal, mapEv, ← h.g]
    split
    · have h2 : Rel m i k
          (if s.g.blockingDur + TEvent.blockingEnd.blocked s.g > durMax then s.withFault .durOverflow else s)
          (if s.g.blockingDur + TEvent.blockingEnd.blocked s.g > durMax then s'.withFault .durOverflow else s') := by
        split
        · exact h.fault _ _
        · exact h
      exact h2.setG (fun g => { g with blockingDur := g.blockingDur + TEvent.blockingEnd.blocked s.g, blockingActive := false })
    · exact h
  | _ => exact ⟨h, rfl⟩

theorem evAcct_sim (e : TEvent) (b : Nat) (s : Fw σ) (s' : Fw σ') (h : Rel m i k s s') :
    Rel m i k (evAcct e b i s) (evAcct (mapEv f e) b k s') := by
  cases e with
  | normalSent => exact h.modRt _
  | paddingSent x => exact h.modRt _
  | blockingEnd =>
    simp only [evAcct, mapEv]
    split
    · rcases h.rtCases with ⟨e1, e2⟩ | ⟨r, e1, e2⟩
      · rw [e1, e2]; exact h.fault _ _
      · rw [e1, e2]
        refine Rel.modRt ?_ _
        split
        · exact h.fault _ _
        · exact h
    · exact h
  | _ => exact h

theorem evAcct_other (e : TEvent) (b j : Nat) (s : Fw σ) (hij : i ≠ j) : Same i s (evAcct e b j s) := by
  cases e with
  | normalSent => exact modRt_other j _ s hij
  | paddingSent x => exact modRt_other j _ s hij
  | blockingEnd =>
    simp only [evAcct]
    split
    · split
      · exact Same.withFault _ _ _
      · refine Same.trans ?_ (modRt_other j _ _ hij)
        split
        · exact Same.withFault _ _ _
        · exact Same.refl _ _
    · exact Same.refl _ _
  | _ => exact Same.refl _ _

include hf in
theorem evDec_sim (e : TEvent) (p : Fw σ × Bool) (p' : Fw σ' × Bool) (h : Rel m i k p.1 p'.1) (hv : p.2 = p'.2) :
    evDec e i p = evDec (mapEv f e) k p' := by
  cases e with
  | paddingSent x => simp only [evDec, mapEv, notEnded_sim h, hv]
  | timerBegin x => simp only [evDec, mapEv, notEnded_sim h, hv]
  | blockingBegin x =>
    have he : (i == x) = (k == f x) := by
      by_cases hx : x = i
      · have := (hf x).mp hx; subst hx; simp [this]
      · have hx' : f x ≠ k := fun hfx => hx ((hf x).mpr hfx)
        simp [Ne.symm hx, Ne.symm hx']
    simp only [evDec, mapEv, notEnded_sim h, hv, he]
  | _ => rfl

theorem evStep_other (e : TEvent) (b j : Nat) (s : Fw σ) (hij : i ≠ j) : Same i s (evStep ρ e b s j) := by
  refine (evAcct_other e b j s hij).trans ?_
  unfold evStep
  simp only []
  split
  · exact (transition_other ρ FUEL j _ _ hij).trans (decrementLimit_other ρ j _ hij)
  · exact transition_other ρ FUEL j _ _ hij

include hf in
theorem evStep_sim (hda : DrawAgree ρ ρ' m) (e : TEvent) (b : Nat) (s : Fw σ) (s' : Fw σ') (h : Rel m i k s s') :
    Rel m i k (evStep ρ e b s i) (evStep ρ' (mapEv f e) b s' k) := by
  obtain ⟨h1, hv⟩ := transition_sim ρ ρ' hda FUEL e.kind _ _ (evAcct_sim f e b s s' h)
  unfold evStep
  simp only []
  rw [show (mapEv f e).kind = e.kind by cases e <;> rfl, ← evDec_sim f hf e _ _ h1 hv]
  split
  · exact decrementLimit_sim ρ ρ' hda _ _ h1
  · exact h1

include hf in
theorem mem_targets (e : TEvent) (n n' : Nat) (hn : i < n ↔ k < n') :
    i ∈ e.targets n ↔ k ∈ (mapEv f e).targets n' := by
  have aimed : ∀ x, i ∈ (if x ≥ n then [] else [x]) ↔ k ∈ (if f x ≥ n' then [] else [f x]) := by
    intro x
    by_cases hx : x = i
    · have hk := (hf x).mp hx
      subst hx
      rw [hk]
      by_cases hi : x < n
      · simp [hi, hn.mp hi]
      · have hk' : ¬ k < n' := fun h => hi (hn.mpr h)
        simp [hi, hk']
    · have hx' : f x ≠ k := fun hfx => hx ((hf x).mpr hfx)
      split <;> split <;> simp [Ne.symm hx, Ne.symm hx']
  cases e with
  | paddingSent x | timerBegin x | timerEnd x => exact aimed x
  | _ => simpa [TEvent.targets, mapEv] using hn

include hf in
theorem processEvent_sim (hda : DrawAgree ρ ρ' m)
    (e : TEvent) (s : Fw σ) (s' : Fw σ') (h : Rel m i k s s') :
    Rel m i k (processEvent ρ e s) (processEvent ρ' (mapEv f e) s') := by
  obtain ⟨h1, hb⟩ := evGlobal_sim f e s s' h
  rw [processEvent_eq, processEvent_eq, hb]
  exact fold_sim _ _ (fun a j hj => evStep_other ρ e _ j a (Ne.symm hj))
    (fun a j hj => evStep_other ρ' _ _ j a (Ne.symm hj)) (fun a a' ha => evStep_sim ρ ρ' f hf hda e _ a a' ha)
    _ _ (targets_nodup e _) (targets_nodup _ _) (mem_targets f hf e _ _ h1.rtLt) _ _ h1

end

/-- no state of `m` has a transition on the Signal event -/
def NoSigTrans (m : Machine) : Prop :=
  ∀ st ∈ m.states, ∀ vec, st.transitions[Event.signal.toNat]? ≠ some (some vec)

section
variable (ρ : Oracle σ) {i : Nat}

theorem transition_signal_same (M : Option Machine) (hM : ∀ m', M = some m' → NoSigTrans m')
    (fuel : Nat) (s : Fw σ) (hs : s.machines[i]? = M) : Same i s (transition ρ fuel i .signal s).1 := by
  cases fuel with
  | zero => rw [transition]; exact Same.withFault _ _ _
  | succ n =>
    cases hr : s.rt[i]? with
    | none => rw [transition_oob ρ n i .signal s (.inl hr)]; exact Same.withFault _ _ _
    | some r =>
    cases hm : s.machines[i]? with
    | none => rw [transition_oob ρ n i .signal s (.inr hm)]; exact Same.withFault _ _ _
    | some m' =>
      rcases transition_noVec ρ n i .signal s r m' hr hm
        (fun st vec hst => hM m' (by rw [← hs, hm]) st (List.mem_of_getElem? hst) vec) with h | h <;> rw [h]
      · exact Same.push _ _ _
      · exact (Same.push _ _ _).trans (Same.withFault _ _ _)

theorem deliver_same (M : Option Machine) (hM : ∀ m', M = some m' → NoSigTrans m')
    (j : Nat) (s : Fw σ) (hs : s.machines[i]? = M) : Same i s (transition ρ FUEL j .signal s).1 := by
  by_cases hj : j = i
  · subst hj; exact transition_signal_same ρ M hM FUEL s hs
  · exact Same.ofFrame (transition_reach ρ FUEL j .signal s).frame (Ne.symm hj)

theorem signalRound_same (M : Option Machine) (hM : ∀ m', M = some m' → NoSigTrans m')
    (s : Fw σ) (hs : s.machines[i]? = M) : Same i s (signalRound ρ s) :=
  signalRound_rel ρ (R := fun s t => s.machines[i]? = M → Same i s t) (fun s _ => Same.refl i s)
    (fun h₁ h₂ hs => (h₁ hs).trans (h₂ (by rw [(h₁ hs).m]; exact hs))) (fun s p _ => Same.signal i s p)
    (fun s j hs => deliver_same ρ M hM j s hs) s hs

end

section
variable (ρ : Oracle σ) (ρ' : Oracle σ') {m : Machine} {i k : Nat}

theorem callStart_sim (t : Int) (s : Fw σ) (s' : Fw σ') (h : Rel m i k s s') :
    Rel m i k (s.callStart t) (s'.callStart t) := by
  refine ⟨h.mOK, h.m, ?_, ?_, ?_⟩
  · simp only [Fw.callStart, List.getElem?_map, h.rt]
  · simp only [Fw.callStart, List.getElem?_map]
    rcases h.slot with ⟨e1, e2⟩ | ⟨a, b, e1, e2, _⟩
    · rw [e1, e2]
    · rw [e1, e2]; rfl
  · simp only [Fw.callStart, h.g]

theorem foldl_map_sim {α β : Type} (F : Fw σ → α → Fw σ) (F' : Fw σ' → β → Fw σ') (g : α → β)
    (hF : ∀ s s' x, Rel m i k s s' → Rel m i k (F s x) (F' s' (g x)))
    (l : List α) (s : Fw σ) (s' : Fw σ') (h : Rel m i k s s') :
    Rel m i k (l.foldl F s) ((l.map g).foldl F' s') := by
  induction l generalizing s s' with
  | nil => exact h
  | cons x l ih => exact ih _ _ (hF s s' x h)

theorem triggerEvents_sim (hda : DrawAgree ρ ρ' m) (hns : NoSigTrans m) (f : Nat → Nat) (hf : ∀ x, x = i ↔ f x = k)
    (es : List TEvent) (t : Int) (s : Fw σ) (s' : Fw σ') (h : Rel m i k s s') :
    Rel m i k (triggerEvents ρ es t s) (triggerEvents ρ' (es.map (mapEv f)) t s') := by
  unfold triggerEvents
  have h1 := foldl_map_sim (fun s e => processEvent ρ e s) (fun s e => processEvent ρ' e s) (mapEv f)
    (fun a a' e ha => processEvent_sim ρ ρ' f hf hda e a a' ha) es _ _ (callStart_sim t s s' h)
  refine h1.both (signalRound_same ρ _ (fun m' hm' => ?_) _ rfl) (signalRound_same ρ' _ (fun m' hm' => ?_) _ rfl)
  · rw [h1.mOK m' hm']; exact hns
  · rw [h1.mOK m' (by rw [h1.m]; exact hm')]; exact hns

/-- rename the machine ids in a history -/
def mapHist (f : Nat → Nat) (h : List Call) : List Call := h.map (fun c => (c.1.map (mapEv f), c.2))

theorem runCalls_sim (hda : DrawAgree ρ ρ' m) (hns : NoSigTrans m) (f : Nat → Nat) (hf : ∀ x, x = i ↔ f x = k)
    (hist : List Call) (s : Fw σ) (s' : Fw σ') (h : Rel m i k s s') :
    Rel m i k (runCalls ρ s hist) (runCalls ρ' s' (mapHist f hist)) :=
  foldl_map_sim (fun s (c : Call) => triggerEvents ρ c.1 c.2 s) (fun s (c : Call) => triggerEvents ρ' c.1 c.2 s) _
    (fun a a' c ha => triggerEvents_sim ρ ρ' hda hns f hf c.1 c.2 a a' ha) hist s s' h

theorem initLimit_other (j : Nat) (s : Fw σ) (hij : i ≠ j) : Same i s (initLimit ρ s j) := by
  unfold initLimit
  split
  · exact Same.withFault _ _ _
  · split
    · exact Same.withFault _ _ _
    · split
      · exact Same.refl _ _
      · next a _ => exact (Same.ofRngLog (sampleLimit_spec ρ i a s).1).trans (modRt_other j _ _ hij)

theorem initLimit_sim (hda : DrawAgree ρ ρ' m) (s : Fw σ) (s' : Fw σ') (h : Rel m i k s s') :
    Rel m i k (initLimit ρ s i) (initLimit ρ' s' k) := by
  unfold initLimit
  rw [← h.m]
  cases hm : s.machines[i]? with
  | none => exact h.fault _ _
  | some m' =>
  cases h.mOK m' hm
  simp only []
  cases hst : m.states[0]? with
  | none => exact h.fault _ _
  | some st =>
  simp only []
  cases hact : st.action with
  | none => exact h
  | some a =>
    simp only []
    rw [← sampleLimit_val ρ ρ' a s s' ((hda.agreeSt ρ ρ' st (List.mem_of_getElem? hst)).1 a hact)]
    exact (h.both (Same.ofRngLog (sampleLimit_spec ρ i a s).1) (Same.ofRngLog (sampleLimit_spec ρ' k a s').1)).modRt _

theorem init_sim (hda : DrawAgree ρ ρ' m) (ms ms' : List Machine) (hm : ms[i]? = some m) (hm' : ms'[k]? = some m)
    (fp fb : F64) (t0 : Int) (rng : σ) (rng' : σ') :
    Rel m i k (Fw.init ρ ms fp fb t0 rng) (Fw.init ρ' ms' fp fb t0 rng') := by
  have h0 : Rel m i k (Fw.init0 ms fp fb t0 rng) (Fw.init0 ms' fp fb t0 rng') := by
    refine ⟨fun m'' h => ?_, ?_, ?_, ?_, rfl⟩
    · simp only [Fw.init0] at h; rw [hm] at h; exact (Option.some.inj h).symm
    · simp only [Fw.init0, hm, hm']
    · simp only [Fw.init0, List.getElem?_map, hm, hm']
    · simp only [Fw.init0, List.getElem?_map, hm, hm']
  refine fold_sim (initLimit ρ) (initLimit ρ') (fun s j hj => initLimit_other ρ j s (Ne.symm hj))
    (fun s j hj => initLimit_other ρ' j s (Ne.symm hj)) (fun a a' ha => initLimit_sim ρ ρ' hda a a' ha)
    _ _ List.nodup_range List.nodup_range ?_ _ _ h0
  have h1 := (List.getElem?_eq_some_iff.mp hm).1
  have h2 := (List.getElem?_eq_some_iff.mp hm').1
  simp [h1, h2]

end

end Mb
