/-
  What the limit predicates can return: the verdict is `false`, or the test `stateLimit > 0`, or
  (for blocking only, and only when one of the two checked sums exceeds a `Duration`) a panic.
-/
import MbVerif.Framework

namespace Mb

/-- a property of both branches holds of the conditional (a term, where `split` would rewrite
    the whole goal at every level of a chain of conditionals) -/
theorem ite_ind {α : Sort _} (P : α → Prop) {c : Prop} [Decidable c] {a b : α} (ha : c → P a) (hb : ¬c → P b) :
    P (if c then a else b) := by
  split
  · exact ha ‹_›
  · exact hb ‹_›

/-- time blocked in the ongoing blocking period -/
def ongoing (g : Globals) : Nat := if g.blockingActive then durSince g.now g.blockingStarted else 0

theorem belowLimitPadding_cases (g : Globals) (r : Runtime) (m : Machine) :
    belowLimitPadding g r m = false ∨ belowLimitPadding g r m = decide (r.stateLimit > 0) :=
  let P : Bool → Prop := fun x => x = false ∨ x = decide (r.stateLimit > 0)
  ite_ind P (fun _ => Or.inr rfl) fun _ =>
    ite_ind P (fun _ => Or.inl rfl) fun _ => ite_ind P (fun _ => Or.inl rfl) fun _ => Or.inr rfl

theorem belowLimitBlocking_cases (g : Globals) (r : Runtime) (m : Machine) (rp : Bool) :
    (belowLimitBlocking g r m rp = none ∧
      (durMax < r.acct.blockingDur + ongoing g ∨ durMax < g.blockingDur + ongoing g)) ∨
    belowLimitBlocking g r m rp = some false ∨
    belowLimitBlocking g r m rp = some (decide (r.stateLimit > 0)) :=
  let P : Option Bool → Prop := fun x =>
    (x = none ∧ (durMax < r.acct.blockingDur + ongoing g ∨ durMax < g.blockingDur + ongoing g)) ∨
    x = some false ∨ x = some (decide (r.stateLimit > 0))
  have hL : P (some (decide (r.stateLimit > 0))) := Or.inr (Or.inr rfl)
  have hF : P (some false) := Or.inr (Or.inl rfl)
  ite_ind P (fun _ => hL) fun _ =>
    ite_ind P
      (fun h => by
        simp only [Bool.and_eq_true, Bool.or_eq_true, decide_eq_true_eq] at h
        exact Or.inl ⟨rfl, h.2⟩)
      fun _ => ite_ind P (fun _ => hL) fun _ => ite_ind P (fun _ => hF) fun _ => ite_ind P (fun _ => hF) fun _ => hL

theorem belowActionLimits_true_pos {g : Globals} {r : Runtime} {m : Machine} {st : State} {act : Action}
    (hst : m.states[r.currentState]? = some st) (hact : st.action = some act) (hnc : ∀ t, act ≠ .cancel t)
    (h : belowActionLimits g r m = some true) : r.stateLimit > 0 := by
  unfold belowActionLimits at h
  rw [hst] at h
  cases act with
  | cancel t => exact absurd rfl (hnc t)
  | sendPadding b rp tmo lim =>
    simp only [hact] at h
    rcases belowLimitPadding_cases g r m with hp | hp <;> rw [hp] at h
    · cases h
    · exact of_decide_eq_true (Option.some.inj h)
  | blockOutgoing b rp tmo du lim =>
    simp only [hact] at h
    rcases belowLimitBlocking_cases g r m rp with hp | hp | hp
    · rw [hp.1] at h; cases h
    · rw [hp] at h; cases h
    · rw [hp] at h; exact of_decide_eq_true (Option.some.inj h)
  | updateTimer rp du lim =>
    simp only [hact] at h
    exact of_decide_eq_true (Option.some.inj h)

theorem belowActionLimits_none {g : Globals} {r : Runtime} {m : Machine} (h : belowActionLimits g r m = none) :
    m.states[r.currentState]? = none ∨
    durMax < r.acct.blockingDur + ongoing g ∨ durMax < g.blockingDur + ongoing g := by
  unfold belowActionLimits at h
  split at h
  · next hs => exact Or.inl hs
  · split at h
    · cases h
    · next rp _ _ _ _ =>
      rcases belowLimitBlocking_cases g r m rp with hp | hp | hp
      · exact Or.inr hp.2
      · rw [hp] at h; cases h
      · rw [hp] at h; cases h
    · cases h
    · cases h
    · cases h

end Mb
