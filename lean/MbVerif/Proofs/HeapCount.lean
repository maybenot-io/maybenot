/-
  The heap model neither loses nor invents elements: for every predicate `p`, `push` adds the
  pushed element to the count and `pop` removes exactly the returned one; `pop` returns what
  `peek` shows.  In particular `pop` shortens the heap by one and fails only on the empty heap.
-/
import MbVerif.Sim.Heap

namespace Mb.Sim
open Mb

/-- `Bool.toNat`: what one element contributes to a `List.countP` -/
def b2n (b : Bool) : Nat := if b then 1 else 0

section
variable {α : Type} (p : α → Bool)

theorem countP_set_add (l : List α) (i : Nat) (a : α) (h : i < l.length) :
    (l.set i a).countP p + b2n (p l[i]) = l.countP p + b2n (p a) := by
  rw [List.countP_set h]
  have := List.boole_getElem_le_countP (p := p) h
  unfold b2n
  split <;> split <;> simp_all <;> omega

/-- replacing the hole's content by `v = d[c]` and moving the hole to `c` keeps the multiset of
    "list with the hole filled by x" -/
theorem countP_move_hole (d : List α) (hole c : Nat) (x v : α) (hh : hole < d.length) (hc : c < d.length)
    (hne : c ≠ hole) (hv : d[c]? = some v) :
    ((d.set hole v).set c x).countP p = (d.set hole x).countP p := by
  have hv' : d[c] = v := by
    have := List.getElem?_eq_getElem hc
    rw [this] at hv; exact Option.some.inj hv
  have h1 := countP_set_add p (d.set hole v) c x (by simpa using hc)
  have h2 := countP_set_add p d hole v hh
  have h3 := countP_set_add p d hole x hh
  have h4 : (d.set hole v)[c]'(by simpa using hc) = v := by
    rw [List.getElem_set_ne (by omega)]; exact hv'
  rw [h4] at h1
  omega

variable (le : α → α → Bool)

theorem siftUp_countP (x : α) : ∀ (fuel : Nat) (d : List α) (start pos : Nat), pos < d.length →
    (Heap.siftUp le x fuel d start pos).countP p = (d.set pos x).countP p := by
  intro fuel
  induction fuel with
  | zero => intro d start pos h; simp [Heap.siftUp]
  | succ n ih =>
    intro d start pos hpos
    unfold Heap.siftUp
    split
    · rename_i hgt
      simp only []
      have hpar : (pos - 1) / 2 < pos := by omega
      cases hd : d[(pos - 1) / 2]? with
      | none => simp
      | some pp =>
        simp only []
        split
        · rfl
        · rw [ih (d.set pos pp) start ((pos - 1) / 2) (by simp; omega)]
          exact countP_move_hole p d pos ((pos - 1) / 2) x pp hpos (by omega) (by omega) hd
    · rfl

theorem siftDownLoop_countP (x : α) : ∀ (fuel : Nat) (d : List α) (endd hole : Nat), hole < d.length →
    (Heap.siftDownLoop le fuel d endd hole).2 < (Heap.siftDownLoop le fuel d endd hole).1.length ∧
    ((Heap.siftDownLoop le fuel d endd hole).1.set (Heap.siftDownLoop le fuel d endd hole).2 x).countP p =
      (d.set hole x).countP p := by
  intro fuel
  induction fuel with
  | zero => intro d endd hole h; simp [Heap.siftDownLoop, h]
  | succ n ih =>
    intro d endd hole hh
    unfold Heap.siftDownLoop
    simp only []
    split
    · cases ha : d[2 * hole + 1]? with
      | none => simp [hh]
      | some a =>
        cases hb : d[2 * hole + 1 + 1]? with
        | none => simp [hh]
        | some b =>
          simp only []
          have hca : 2 * hole + 1 < d.length := by
            have := List.getElem?_eq_some_iff.1 ha; exact this.1
          have hcb : 2 * hole + 1 + 1 < d.length := by
            have := List.getElem?_eq_some_iff.1 hb; exact this.1
          by_cases hle : le a b = true
          · simp only [hle, if_true]
            have := ih (d.set hole b) endd (2 * hole + 1 + 1) (by simpa using hcb)
            refine ⟨this.1, ?_⟩
            rw [this.2]
            exact countP_move_hole p d hole (2 * hole + 1 + 1) x b hh hcb (by omega) hb
          · simp only [hle, Bool.false_eq_true, if_false]
            have := ih (d.set hole a) endd (2 * hole + 1) (by simpa using hca)
            refine ⟨this.1, ?_⟩
            rw [this.2]
            exact countP_move_hole p d hole (2 * hole + 1) x a hh hca (by omega) ha
    · split
      · cases ha : d[2 * hole + 1]? with
        | none => simp [hh]
        | some a =>
          simp only []
          have hca : 2 * hole + 1 < d.length := by
            have := List.getElem?_eq_some_iff.1 ha; exact this.1
          refine ⟨by simpa using hca, ?_⟩
          exact countP_move_hole p d hole (2 * hole + 1) x a hh hca (by omega) ha
      · simp [hh]

theorem siftDownToBottom_countP (x : α) (d : List α) (h : 0 < d.length) :
    (Heap.siftDownToBottom le x d).countP p = (d.set 0 x).countP p := by
  unfold Heap.siftDownToBottom
  simp only []
  have h1 := siftDownLoop_countP p le x d.length d d.length 0 h
  rw [siftUp_countP p le x _ _ 0 _ h1.1]
  exact h1.2

theorem heap_push_countP (h : Heap α) (x : α) :
    (Heap.push le h x).data.countP p = h.data.countP p + b2n (p x) := by
  unfold Heap.push
  simp only []
  rw [siftUp_countP p le x _ _ 0 _ (by simp)]
  have h1 := countP_set_add p (h.data ++ [x]) h.data.length x (by simp)
  have h2 : (h.data ++ [x])[h.data.length]'(by simp) = x := by simp
  rw [h2] at h1
  have h3 : (h.data ++ [x]).countP p = h.data.countP p + b2n (p x) := by
    simp [List.countP_append, List.countP_cons, b2n]
  omega

theorem heap_pop_countP {h h' : Heap α} {x : α} (hp : Heap.pop le h = some (x, h')) :
    h.data.countP p = h'.data.countP p + b2n (p x) ∧ h.peek = some x := by
  unfold Heap.pop at hp
  cases hl : h.data.getLast? with
  | none => simp [hl] at hp
  | some last =>
    simp only [hl] at hp
    obtain ⟨ys, hys⟩ := List.getLast?_eq_some_iff.1 hl
    have hdl : h.data.dropLast = ys := by rw [hys]; simp
    rw [hdl] at hp
    cases ys with
    | nil =>
      simp only [] at hp
      cases hp
      simp [hys, Heap.peek, List.countP_cons, b2n]
    | cons root rest =>
      simp only [Option.some.injEq, Prod.mk.injEq] at hp
      obtain ⟨hx, hh⟩ := hp
      subst hx; subst hh
      constructor
      · simp only []
        rw [siftDownToBottom_countP p le last (root :: rest) (by simp)]
        have h1 := countP_set_add p (root :: rest) 0 last (by simp)
        simp only [List.getElem_cons_zero] at h1
        rw [hys, List.countP_append]
        have : List.countP p [last] = b2n (p last) := by simp [List.countP_cons, b2n]
        omega
      · simp [Heap.peek, hys]

theorem heap_empty_countP : (Heap.empty : Heap α).data.countP p = 0 := rfl

end

section
variable {α : Type} (le : α → α → Bool)

theorem heap_pop_len {h h' : Heap α} {x : α} (hp : Heap.pop le h = some (x, h')) : h'.len + 1 = h.len := by
  have := (heap_pop_countP (fun _ => true) le hp).1
  simpa [Heap.len, b2n] using this.symm

theorem heap_pop_none {h : Heap α} (hp : Heap.pop le h = none) : h.len = 0 := by
  unfold Heap.pop at hp
  cases hl : h.data.getLast? with
  | none =>
    have : h.data = [] := by simpa using hl
    simp [Heap.len, this]
  | some last =>
    simp only [hl] at hp
    cases hr : h.data.dropLast <;> simp [hr] at hp

theorem heap_peek_none {h : Heap α} (hp : h.peek = none) : h.len = 0 := by
  unfold Heap.peek at hp
  cases hd : h.data with
  | nil => simp [Heap.len, hd]
  | cons a r => simp [hd] at hp

end

theorem Heap.peek_mem {α : Type} {h : Heap α} {x : α} (hp : h.peek = some x) : x ∈ h.data := by
  unfold Heap.peek at hp
  cases hd : h.data with
  | nil => simp [hd] at hp
  | cons a r => simp [hd] at hp; simp [hp]

theorem heap_push_mem {α : Type} {le : α → α → Bool} {h : Heap α} {x y : α} (hy : y ∈ (Heap.push le h x).data) :
    y ∈ h.data ∨ y = x := by
  classical
  have h1 := heap_push_countP (fun z => decide (z = y)) le h x
  have h2 : 0 < (Heap.push le h x).data.countP (fun z => decide (z = y)) :=
    List.countP_pos_iff.2 ⟨y, hy, by simp⟩
  by_cases hxy : x = y
  · exact Or.inr hxy.symm
  · have : b2n (decide (x = y)) = 0 := by simp [b2n, hxy]
    have h3 : 0 < h.data.countP (fun z => decide (z = y)) := by omega
    obtain ⟨z, hz, hzy⟩ := List.countP_pos_iff.1 h3
    have : z = y := by simpa using hzy
    exact Or.inl (this ▸ hz)

end Mb.Sim
