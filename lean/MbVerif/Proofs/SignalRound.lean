/-
  Signal slot algebra and the unfolding of the delivery round (helper lemmas for C09).
-/
import MbVerif.Proofs.SafeCall
import Mathlib.Data.List.Nodup
import Mathlib.Data.List.Range

namespace Mb.C09
open Mb

variable {σ : Type} (ρ : Oracle σ)

/-- the pending-signal slot as a function of the previous slot and the signalling machine -/
def sigStep (p : Option SignalTarget) (mi : Nat) : Option SignalTarget :=
  match p with
  | none => some (.allExcept mi)
  | some (.allExcept other) => if other = mi then some (.allExcept mi) else some .all
  | some .all => some .all

theorem signalFrom_pending (mi : Nat) (s : Fw σ) : (signalFrom mi s).signalPending = sigStep s.signalPending mi := by
  unfold signalFrom sigStep
  cases s.signalPending with
  | none => rfl
  | some p => cases p <;> rfl

theorem sigStep_all (ids : List Nat) : ids.foldl sigStep (some .all) = some .all := by
  induction ids with
  | nil => rfl
  | cons i ids ih => simpa [sigStep] using ih

/-- a lone signaller stays excluded however often it signals; a second machine widens to all -/
theorem sr_pending_spec (x : Nat) (ids : List Nat) :
    ids.foldl sigStep (some (.allExcept x)) =
      if ids.all (· == x) then some (.allExcept x) else some .all := by
  induction ids with
  | nil => rfl
  | cons i ids ih =>
    simp only [List.foldl_cons, List.all_cons]
    by_cases hi : i = x
    · subst hi
      simp only [sigStep, if_true, beq_self_eq_true, Bool.true_and]
      exact ih
    · have : (i == x) = false := by simpa using hi
      have hx : ¬ x = i := fun h => hi h.symm
      simp only [sigStep, hx, if_false, this, Bool.false_and]
      simpa using sigStep_all ids

/-- the first signal of a call excludes its sender -/
theorem sr_first (x : Nat) (ids : List Nat) :
    (x :: ids).foldl sigStep none = if ids.all (· == x) then some (.allExcept x) else some .all :=
  sr_pending_spec x ids

/-- the machines visited by the first delivery round -/
def firstRound (n : Nat) (excluded : Option Nat) : List Nat :=
  (List.range n).filter (fun mi => !(excluded == some mi))

theorem sr_targets_nodup (n : Nat) (excluded : Option Nat) : (firstRound n excluded).Nodup :=
  (List.nodup_range (n := n)).filter _

theorem sr_targets_complete (n : Nat) (excluded : Option Nat) (mi : Nat) (h : mi < n) (hne : excluded ≠ some mi) :
    mi ∈ firstRound n excluded := by
  unfold firstRound
  rw [List.mem_filter]
  refine ⟨List.mem_range.mpr h, ?_⟩
  cases excluded with
  | none => rfl
  | some x =>
    have : ¬ x = mi := fun hx => hne (by rw [hx])
    simp [this]

theorem sr_excluded_not_visited (n x : Nat) : x ∉ firstRound n (some x) := by
  unfold firstRound
  simp [List.mem_filter]

theorem sr_round_none (s : Fw σ) (h : s.signalPending = none) : signalRound ρ s = s := by
  rw [signalRound_eq, h]

/-- several signallers: every machine is visited once, nobody twice -/
theorem sr_round_all (s : Fw σ) (h : s.signalPending = some .all) :
    signalRound ρ s =
      let s2 := (firstRound s.rt.length none).foldl (fun s mi => (transition ρ FUEL mi .signal s).1)
        ({ s with signalPending := none } : Fw σ)
      match s2.signalPending with
      | none => s2
      | some _ => { s2 with signalPending := none } := by
  rw [signalRound_eq, h]
  rfl

/-- a lone signaller `x`: every other machine is visited once; `x` is visited (once, afterwards)
    iff one of them answered by signalling -/
theorem sr_round_lone (s : Fw σ) (x : Nat) (h : s.signalPending = some (.allExcept x)) :
    signalRound ρ s =
      let s2 := (firstRound s.rt.length (some x)).foldl (fun s mi => (transition ρ FUEL mi .signal s).1)
        ({ s with signalPending := none } : Fw σ)
      match s2.signalPending with
      | none => s2
      | some _ => (transition ρ FUEL x .signal ({ s2 with signalPending := none } : Fw σ)).1 := by
  rw [signalRound_eq, h]
  rfl

/-- Non-vacuity: machine 2 signalling three times keeps excluding machine 2; machines 2 and 0 give `all`. -/
example : [2, 2, 2].foldl sigStep none = some (.allExcept 2) := by decide
example : [2, 0, 2].foldl sigStep none = some .all := by decide
example : firstRound 4 (some 2) = [0, 1, 3] := by decide

end Mb.C09
