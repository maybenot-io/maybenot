/-
  Lemmas about one iteration (`step`) of the simulator model: the clock is monotone, the recorded
  event is stamped with the clock, the network-activity flag is a function of the event.
-/
import MbVerif.Proofs.SimWalk
import MbVerif.Spec.SimCommon

namespace Mb.Sim
open Mb Mb.SimSpec

section
variable {σ : Type} (ρ : Oracle σ)

theorem simNetworkStack_flag {next : SimEvent} {sq sq' : SimQueue} {byp : Bool} {net net' : Bottleneck}
    {now : Int} {na : Bool} (h : simNetworkStack next sq byp net now = .ok (na, sq', net')) :
    na = isNetwork next := by
  unfold simNetworkStack at h
  unfold isNetwork
  split at h
  · rename_i he; cases h; simp [he]
  · rename_i m he
    rw [map_ok_iff] at h
    obtain ⟨a, _, h2⟩ := h
    cases h2; simp [he]
  · rename_i he
    rw [map_ok_iff] at h
    obtain ⟨a, _, h2⟩ := h
    cases h2; simp [he]
  · rename_i he
    split at h <;> (cases h; simp [he])
  · rename_i h1 h2 h3 h4
    cases h
    cases hev : next.event <;> simp_all

theorem triggerUpdate_now {st st' : St σ} {next : SimEvent} {acts : List TAction}
    (h : triggerUpdate ρ st next = .ok (acts, st')) : st'.now = st.now := by
  obtain ⟨_, _, sd, sq, _, rfl⟩ := (triggerUpdate_ok_iff ρ).1 h
  exact setSide_now _ _ _

theorem step_spec {st st' : St σ} {r : StepRec} (h : step ρ st = .ok (some (r, st'))) :
    st'.now = r.ev.time ∧ st.now ≤ st'.now ∧ r.net = isNetwork r.ev := by
  obtain ⟨st1, sq, net, hp, hge, hs, ht⟩ := (step_some_iff ρ).1 h
  have h5 : st'.now = r.ev.time := triggerUpdate_now ρ ht
  exact ⟨h5, by rw [h5, ← pickNext_now _ _ _ _ hp]; exact hge, simNetworkStack_flag hs⟩

end
section
variable {σ : Type} (ρ : Oracle σ)

theorem loop_succ_some (args : Args) (fuel : Nat) (st st' : St σ) (iters cnt : Nat) (r : StepRec)
    (h : step ρ st = .ok (some (r, st'))) :
    loop ρ args (fuel + 1) st iters cnt =
      (match stopCheck args st' iters (bump args r cnt) with
       | some s => ⟨[r], s, some st'⟩
       | none =>
         let o := loop ρ args fuel st' (iters + 1) (bump args r cnt)
         { o with stream := r :: o.stream }) := by
  simp only [loop, h]
  rfl

end
end Mb.Sim
