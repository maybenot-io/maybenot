/-
  Safety at the level of whole calls: from a valid state, `trigger_events` reaches a valid state
  and raises no fault other than a duration overflow.
-/
import MbVerif.Proofs.Safe

namespace Mb
variable {σ : Type} (ρ : Oracle σ)

/-- from a valid state with a well-formed pending signal we reach such a state again, with the
    same number of machines and no new fault except possibly a duration overflow -/
def OkS (s t : Fw σ) : Prop :=
  Valid s → SigOK s → (Valid t ∧ SigOK t ∧ NoNewBad s t ∧ t.rt.length = s.rt.length)

theorem OkS.refl (s : Fw σ) : OkS s s := fun hV hS => ⟨hV, hS, NoNewBad.refl s, rfl⟩

theorem OkS.trans {s t u : Fw σ} (h₁ : OkS s t) (h₂ : OkS t u) : OkS s u := by
  intro hV hS
  obtain ⟨hV1, hS1, hN1, hL1⟩ := h₁ hV hS
  obtain ⟨hV2, hS2, hN2, hL2⟩ := h₂ hV1 hS1
  exact ⟨hV2, hS2, hN1.trans hN2, hL2.trans hL1⟩

theorem unset_le_two (s : Fw σ) (mi : Nat) : unset s mi ≤ 2 := by
  unfold unset; cases zeroedAOf s mi <;> cases zeroedBOf s mi <;> simp

theorem okS_transition (mi : Nat) (ev : Event) (s : Fw σ) (hmi : mi < s.rt.length) :
    OkS s (transition ρ FUEL mi ev s).1 := by
  intro hV hS
  have h := (safe_main ρ FUEL).1 mi ev s hV hmi (by have := unset_le_two s mi; unfold FUEL; omega)
  have hre := transition_reach ρ FUEL mi ev s
  exact ⟨hV.reach hre, h.2 hS, h.1, hre.frame.rtLen⟩

theorem okS_of_keep {s t : Fw σ} (h : Keep s t) (hV : Valid s → Valid t) : OkS s t :=
  fun hV' hS => ⟨hV hV', h.sigOK hS, h.noNewBad, h.rtLen⟩

theorem okS_decrement (mi : Nat) (s : Fw σ) (hmi : mi < s.rt.length) (hne : notEnded s mi = true) :
    OkS s (decrementLimit ρ mi s) := by
  intro hV hS
  obtain ⟨r, hr⟩ : ∃ r, s.rt[mi]? = some r := ⟨_, List.getElem?_eq_getElem hmi⟩
  obtain ⟨m, hm⟩ : ∃ m, s.machines[mi]? = some m := ⟨_, List.getElem?_eq_getElem (hV.lenRt ▸ hmi)⟩
  have hnend : r.currentState ≠ STATE_END := by
    unfold notEnded at hne; rw [hr] at hne; simpa using hne
  obtain ⟨st, hst, _⟩ := hV.states_some hm hr hnend
  have k1 : OkS s ((s.modRt mi (fun r' => { r' with stateLimit := r.stateLimit - 1 })).push
      (.limit mi (r.stateLimit - 1) true)) :=
    okS_of_keep ((keep_modRt s mi _ hmi).trans ⟨rfl, rfl, rfl⟩)
      (fun hV => hV.reach ((Reach.single (.setLimit (mi := mi) s _)).tail (.push _ _)))
  rw [decrementLimit_some ρ mi s r m hr hm, hst]
  simp only []
  generalize (s.modRt mi _).push _ = s1 at k1 ⊢
  obtain ⟨hV1, _, _, hL1⟩ := k1 hV hS
  have hlen : mi < s1.actions.length := by rw [hV1.lenAct, ← hV1.lenRt, hL1]; exact hmi
  cases st.action with
  | none => exact k1 hV hS
  | some a =>
    simp only []
    split
    · rw [if_neg (Nat.not_le.mpr hlen)]
      exact (k1.trans ((okS_of_keep (s := s1) (t := { s1 with actions := s1.actions.set mi none }) ⟨rfl, rfl, rfl⟩
        (fun hV => hV.reach (Reach.single (.clear (mi := mi) s1 hlen)))).trans
        (okS_transition ρ mi .limitReached _ (by rw [← hL1] at hmi; exact hmi)))) hV hS
    · exact k1 hV hS

theorem okS_foldl (F : Fw σ → Nat → Fw σ) (n : Nat)
    (hF : ∀ s j, j < n → s.rt.length = n → OkS s (F s j)) (l : List Nat) (hl : ∀ j ∈ l, j < n)
    (s : Fw σ) (hn : s.rt.length = n) : OkS s (l.foldl F s) :=
  foldl_rel (R := fun s t : Fw σ => s.rt.length = n → OkS s t) (fun s _ => OkS.refl s)
    (fun h₁ h₂ hn hV hS => by
      obtain ⟨hV1, hS1, hN1, hL1⟩ := h₁ hn hV hS
      obtain ⟨hV2, hS2, hN2, hL2⟩ := h₂ (hL1.trans hn) hV1 hS1
      exact ⟨hV2, hS2, hN1.trans hN2, hL2.trans hL1⟩)
    F l (fun s j hj hn => hF s j (hl j hj) hn) s hn

theorem okS_foldAll (F : Fw σ → Nat → Fw σ) (s : Fw σ)
    (hF : ∀ s' j, j < s.rt.length → s'.rt.length = s.rt.length → OkS s' (F s' j)) :
    OkS s ((List.range s.rt.length).foldl F s) :=
  okS_foldl F s.rt.length hF _ (fun _ hj => List.mem_range.mp hj) s rfl

theorem okS_setG (s : Fw σ) (g' : Globals) : OkS s { s with g := g' } :=
  okS_of_keep ⟨rfl, rfl, rfl⟩ (fun hV => ⟨hV.lenRt, hV.lenAct, hV.ok, hV.cur⟩)

theorem okS_acct (s : Fw σ) (mi : Nat) (f : Runtime → Runtime) (hmi : mi < s.rt.length)
    (hf : ∀ r, (f r).currentState = r.currentState) : OkS s (s.modRt mi f) :=
  okS_of_keep (keep_modRt s mi f hmi)
    (fun hV => hV.modRt mi f (fun m r hm hr => by rw [hf r]; exact hV.cur mi m r hm hr))

theorem okS_durOverflow (s : Fw σ) : OkS s (s.withFault .durOverflow) := by
  intro hV hS
  refine ⟨⟨by simpa using hV.lenRt, by simpa using hV.lenAct, by simpa using hV.ok,
    fun i m r hm hr => hV.cur i m r (by simpa using hm) (by simpa using hr)⟩, ?_, NoNewBad.durOverflow s, by simp⟩
  intro x hx
  have := hS x (by simpa using hx)
  simpa using this

theorem okS_processEvent (e : TEvent) (s : Fw σ) : OkS s (processEvent ρ e s) :=
  processEvent_walkIn ρ OkS.refl OkS.trans (fun j e s h => okS_transition ρ j e.kind s h)
    (okS_decrement ρ) okS_durOverflow okS_setG
    (fun s j f h hf => okS_acct s j f h (fun r => by rw [hf r])) e s

theorem okS_sigReset (s : Fw σ) : OkS s { s with signalPending := none } :=
  fun hV _ => ⟨⟨hV.lenRt, hV.lenAct, hV.ok, hV.cur⟩, fun x hx => by simp at hx, NoNewBad.refl s, rfl⟩

theorem okS_signalRound (s : Fw σ) : OkS s (signalRound ρ s) := by
  rcases signalRound_cases ρ s with h | ⟨ex, hex, h⟩
  · rw [h]; exact OkS.refl s
  have h2 := (okS_sigReset s).trans (okS_foldl (fun s j => (transition ρ FUEL j .signal s).1) s.rt.length
    (fun s' j hj hl => okS_transition ρ j .signal s' (by rw [hl]; exact hj))
    ((List.range s.rt.length).filter (fun j => !(ex == some j)))
    (fun j hj => List.mem_range.mp (List.mem_filter.mp hj).1) { s with signalPending := none } rfl)
  rcases h _ rfl with h | ⟨_, h⟩ | ⟨x, hx, h⟩
  · rw [h]; exact h2
  · rw [h]; exact h2.trans (okS_sigReset _)
  · rw [h]
    intro hV hS
    obtain ⟨hV2, hS2, hN2, hL2⟩ := h2.trans (okS_sigReset _) hV hS
    obtain ⟨hV4, hS4, hN4, hL4⟩ := okS_transition ρ x .signal _ (by rw [hL2]; exact hS x (hex x hx)) hV2 hS2
    exact ⟨hV4, hS4, hN2.trans hN4, hL4.trans hL2⟩

theorem okS_callStart (s : Fw σ) (t : Int) : OkS s (s.callStart t) := by
  intro hV hS
  have hlen : (s.callStart t).rt.length = s.rt.length := by simp [Fw.callStart]
  refine ⟨⟨by rw [hlen]; exact hV.lenRt, by simpa [Fw.callStart] using hV.lenAct, hV.ok, ?_⟩, ?_, NoNewBad.refl s, hlen⟩
  · intro i m r hm hr
    simp only [Fw.callStart, List.getElem?_map] at hm hr
    cases hr0 : s.rt[i]? with
    | none => rw [hr0] at hr; simp at hr
    | some r0 =>
      rw [hr0] at hr
      simp only [Option.map_some, Option.some.injEq] at hr
      subst hr
      exact hV.cur i m r0 hm hr0
  · intro x hx
    rw [hlen]; exact hS x hx

theorem okS_triggerEvents (es : List TEvent) (t : Int) (s : Fw σ) : OkS s (triggerEvents ρ es t s) := by
  unfold triggerEvents
  refine ((okS_callStart s t).trans ?_).trans (okS_signalRound ρ _)
  generalize s.callStart t = s'
  induction es generalizing s' with
  | nil => exact OkS.refl s'
  | cons e es ih => exact (okS_processEvent ρ e s').trans (ih _)

theorem okS_runCalls (s : Fw σ) (h : List Call) : OkS s (runCalls ρ s h) := by
  unfold runCalls
  induction h generalizing s with
  | nil => exact OkS.refl s
  | cons c h ih => exact (okS_triggerEvents ρ c.1 c.2 s).trans (ih _)

theorem valid_init0 (ms : List Machine) (fp fb : F64) (t0 : Int) (rng : σ) (hok : ∀ m ∈ ms, MachineOK m) :
    Valid (Fw.init0 ms fp fb t0 rng) := by
  refine ⟨by simp [Fw.init0], by simp [Fw.init0], hok, ?_⟩
  intro i m r hm hr
  simp only [Fw.init0, List.getElem?_map] at hm hr
  rw [hm] at hr
  simp only [Option.map_some, Option.some.injEq] at hr
  subst hr
  exact Or.inl (hok m (List.mem_of_getElem? hm)).nonempty

theorem okS_initLimit (s : Fw σ) (mi : Nat) (hmi : mi < s.rt.length) : OkS s (initLimit ρ s mi) := by
  intro hV hS
  unfold initLimit
  have hmi' : mi < s.machines.length := by rw [← hV.lenRt]; exact hmi
  have hm' : ∃ m, s.machines[mi]? = some m := ⟨s.machines[mi], List.getElem?_eq_getElem hmi'⟩
  obtain ⟨m, hm⟩ := hm'
  rw [hm]
  simp only []
  have hne := (hV.ok m (List.mem_of_getElem? hm)).nonempty
  have : ∃ st, m.states[0]? = some st := ⟨_, List.getElem?_eq_getElem hne⟩
  obtain ⟨st, hst⟩ := this
  rw [hst]
  simp only []
  cases hact : st.action with
  | none => exact ⟨hV, hS, NoNewBad.refl s, rfl⟩
  | some a =>
    simp only []
    obtain ⟨hrl, hre⟩ := sampleLimit_spec ρ mi a s
    have k := (keep_rngLog hrl).trans (keep_modRt (sampleLimit ρ a s).2 mi
      (fun r => { r with stateLimit := (sampleLimit ρ a s).1 }) (by rw [hrl.rt]; exact hmi))
    exact ⟨hV.reach (Reach.tail hre (Step.setLimit _ _)), k.sigOK hS, k.noNewBad, k.rtLen⟩

theorem okS_init (ms : List Machine) (fp fb : F64) (t0 : Int) (rng : σ) :
    OkS (Fw.init0 ms fp fb t0 rng) (Fw.init ρ ms fp fb t0 rng) := by
  unfold Fw.init
  have hl : (Fw.init0 ms fp fb t0 rng).rt.length = ms.length := by simp [Fw.init0]
  rw [← hl]
  exact okS_foldAll _ _ (fun s' j hj hl' => okS_initLimit ρ s' j (by rw [hl']; exact hj))

end Mb
