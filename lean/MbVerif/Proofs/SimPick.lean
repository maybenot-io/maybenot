/-
  What `pick_next` and its pieces compute, branch by branch: `peek_queue_earliest_side`,
  `peek_queue`, the decision among the five candidate offsets, the five branches, and an
  induction principle for `pick_next`.  Later files reason from these statements and do not unfold
  the definitions again.
-/
import MbVerif.Sim.Main

namespace Mb.Sim
open Mb

theorem bind_ok_iff {ε α β : Type} (x : Except ε α) (f : α → Except ε β) (b : β) :
    (x >>= f) = .ok b ↔ ∃ a, x = .ok a ∧ f a = .ok b := by
  cases x with
  | error e => simp [bind, Except.bind]
  | ok a => simp [bind, Except.bind]

theorem bind_error_iff {ε α β : Type} (x : Except ε α) (f : α → Except ε β) (e : ε) :
    (x >>= f) = .error e ↔ x = .error e ∨ ∃ a, x = .ok a ∧ f a = .error e := by
  cases x with
  | error e' => simp [bind, Except.bind]
  | ok a => simp [bind, Except.bind]

theorem map_ok_iff {ε α β : Type} (x : Except ε α) (f : α → β) (b : β) :
    x.map f = .ok b ↔ ∃ a, x = .ok a ∧ f a = b := by
  cases x with
  | error e => simp [Except.map]
  | ok a => simp [Except.map]

theorem map_error_iff {ε α β : Type} (x : Except ε α) (f : α → β) (e : ε) :
    x.map f = .error e ↔ x = .error e := by
  cases x with
  | error e' => simp [Except.map]
  | ok a => simp [Except.map]

theorem dsince_le' (a b : Int) : dsince a b ≤ durMax := by
  unfold dsince; exact Nat.min_le_right _ _

theorem dsince_mono {a b : Int} (now : Int) (h : a ≤ b) : dsince a now ≤ dsince b now := by
  unfold dsince durSince
  have : (a - now).toNat ≤ (b - now).toNat := Int.toNat_le_toNat (by omega)
  omega

theorem dsince_in_range {t now : Int} (hge : now ≤ t) (hle : t - now ≤ durMax) : (dsince t now : Int) = t - now := by
  unfold dsince durSince
  have h1 : ((t - now).toNat : Int) = t - now := Int.toNat_of_nonneg (by omega)
  have h2 : (t - now).toNat ≤ durMax := by omega
  rw [Nat.min_eq_left h2]; exact h1

theorem dsince_le_of_le {u now : Int} {w : Nat} (h : u ≤ now + w) : dsince u now ≤ w := by
  unfold dsince durSince
  have : (u - now).toNat ≤ w := by omega
  omega

theorem dsince_zero {a now : Int} (h : a ≤ now) : dsince a now = 0 :=
  Nat.le_zero.1 (dsince_le_of_le (w := 0) (by omega))

theorem dsince_add_le {x now M : Int} (hx : x ≤ M) (hn : now ≤ M) : now + (dsince x now : Int) ≤ M := by
  unfold dsince durSince
  have h1 : (min (x - now).toNat durMax : Nat) ≤ (x - now).toNat := Nat.min_le_left _ _
  omega

theorem dsince_anti {a b c : Int} (h : b ≤ c) : dsince a c ≤ dsince a b := by
  unfold dsince durSince
  have : (a - c).toNat ≤ (a - b).toNat := Int.toNat_le_toNat (by omega)
  omega

theorem dsince_exact {t now : Int} (hge : t ≥ now) (hlt : dsince t now < durMax) : now + (dsince t now : Int) = t := by
  unfold dsince durSince at hlt ⊢
  have h1 : ((t - now).toNat : Int) = t - now := Int.toNat_of_nonneg (by omega)
  have h2 : (t - now).toNat < durMax := by
    by_cases h : (t - now).toNat ≤ durMax
    · rw [Nat.min_eq_left h] at hlt; exact hlt
    · rw [Nat.min_eq_right (by omega)] at hlt; omega
  rw [Nat.min_eq_left (by omega)]
  omega

/-- The three exits of `peek_queue_earliest_side`: nothing queued on the side; the blocked head,
    served at the blocking expiry at the earliest; the non-blocked head (shifted by the
    aggregate delay if it is a base event), which is then not after the blocked one. -/
theorem peekQueueEarliestSide_cases (sq : SimQueue) (bu : Option Int) (byp : Bool) (now : Int) (ds : Nat) (c : Bool) :
    ((sq.peekBlocking byp c).1 = none ∧ (sq.peekNonBlocking byp c ds).1 = none ∧
      peekQueueEarliestSide sq bu byp now ds c = (durMax, .blocking, c)) ∨
    (∃ b, (sq.peekBlocking byp c).1 = some b ∧
      peekQueueEarliestSide sq bu byp now ds c =
        (dsince (max b.time (bu.getD now)) now, (sq.peekBlocking byp c).2, c)) ∨
    (∃ n t, (sq.peekNonBlocking byp c ds).1 = some n ∧
      t = (if (sq.peekNonBlocking byp c ds).2 = .base then n.time + (ds : Int) else n.time) ∧
      (∀ b, (sq.peekBlocking byp c).1 = some b → t ≤ max b.time (bu.getD now)) ∧
      peekQueueEarliestSide sq bu byp now ds c = (dsince t now, (sq.peekNonBlocking byp c ds).2, c)) := by
  unfold peekQueueEarliestSide
  rcases sq.peekBlocking byp c with ⟨pb, bq⟩
  rcases sq.peekNonBlocking byp c ds with ⟨pn, nq⟩
  cases pb with
  | none =>
    cases pn with
    | none => exact Or.inl ⟨rfl, rfl, rfl⟩
    | some n => exact Or.inr (Or.inr ⟨n, _, rfl, rfl, fun b hb => (by cases hb), rfl⟩)
  | some b =>
    cases pn with
    | none => exact Or.inr (Or.inl ⟨b, rfl, rfl⟩)
    | some n =>
      simp only []
      generalize hnt : (if nq = Queue.base then n.time + (ds : Int) else n.time) = nt
      by_cases h1 : max b.time (bu.getD now) < nt
      · simp only [h1, if_true]
        exact Or.inr (Or.inl ⟨b, rfl, rfl⟩)
      · by_cases h2 : nt < max b.time (bu.getD now)
        · simp only [h1, h2, if_true, if_false, Bool.false_eq_true]
          exact Or.inr (Or.inr ⟨n, nt, rfl, hnt.symm, fun b' hb => (by cases hb; omega), rfl⟩)
        · simp only [h1, h2, if_false]
          cases hq : (nq != Queue.base)
          · exact Or.inr (Or.inr ⟨n, nt, rfl, hnt.symm, fun b' hb => (by cases hb; omega), by simp⟩)
          · exact Or.inr (Or.inl ⟨b, rfl, by simp⟩)

theorem peekQueueEarliestSide_client (sq : SimQueue) (bu : Option Int) (byp : Bool) (now : Int) (ds : Nat) (c : Bool) :
    (peekQueueEarliestSide sq bu byp now ds c).2.2 = c := by
  rcases peekQueueEarliestSide_cases sq bu byp now ds c with ⟨_, _, h⟩ | ⟨_, _, h⟩ | ⟨_, _, _, _, _, h⟩ <;> rw [h]

theorem peekQueueEarliestSide_le (sq : SimQueue) (bu : Option Int) (byp : Bool) (now : Int) (ds : Nat) (cl : Bool) :
    (peekQueueEarliestSide sq bu byp now ds cl).1 ≤ durMax := by
  rcases peekQueueEarliestSide_cases sq bu byp now ds cl with ⟨_, _, h⟩ | ⟨_, _, h⟩ | ⟨_, _, _, _, _, h⟩ <;> rw [h]
  · exact Nat.le_refl _
  · exact dsince_le' _ _
  · exact dsince_le' _ _

theorem peekBlockedExp_le (c s : Option Int) (now : Int) : (peekBlockedExp c s now).1 ≤ durMax := by
  unfold peekBlockedExp
  cases c with
  | none =>
    cases s with
    | none => exact Nat.le_refl _
    | some x => exact dsince_le' _ _
  | some y =>
    cases s with
    | none => exact dsince_le' _ _
    | some x => simp only []; split <;> exact dsince_le' _ _

section
variable {σ : Type}

/-- `peek_queue` hands the head of the queue through as it is: it is not a TunnelSent, or its
    side is not blocking, or the blocking is bypassable and so is the packet -/
def St.passes (st : St σ) (pk : SimEvent) : Bool :=
  pk.event != .tunnelSent || !(st.side pk.client).blockingUntil.isSome ||
    ((st.side pk.client).blockingBypassable && pk.bypass)

theorem St.passes_eq_false {st : St σ} {pk : SimEvent} : st.passes pk = false ↔
    pk.event = .tunnelSent ∧ (st.side pk.client).blockingUntil.isSome = true ∧
      ((st.side pk.client).blockingBypassable = true → pk.bypass = false) := by
  unfold St.passes
  cases (st.side pk.client).blockingUntil.isSome <;> cases (st.side pk.client).blockingBypassable <;>
    cases pk.bypass <;> simp

/-- `peek_queue_earliest_side` with the blocking and aggregate delay of one side of the state -/
def St.earliestSide (st : St σ) (c : Bool) : Nat × Queue × Bool :=
  peekQueueEarliestSide st.sq (st.side c).blockingUntil (st.side c).blockingBypassable st.now (st.net.agg c) c

/-- the earlier of the two sides' `peek_queue_earliest_side`, the client's on a tie -/
def St.earliest (st : St σ) : Nat × Queue × Bool :=
  if (st.earliestSide true).1 ≤ (st.earliestSide false).1 then st.earliestSide true else st.earliestSide false

theorem St.earliest_cases (st : St σ) :
    ∃ c, st.earliest = st.earliestSide c ∧ ∀ c', (st.earliestSide c).1 ≤ (st.earliestSide c').1 := by
  unfold St.earliest
  split
  · exact ⟨true, rfl, fun c' => by cases c'; assumption; exact Nat.le_refl _⟩
  · exact ⟨false, rfl, fun c' => by cases c'; exact Nat.le_refl _; omega⟩

theorem St.earliest_le (st : St σ) : st.earliest.1 ≤ durMax := by
  obtain ⟨c, hc, _⟩ := st.earliest_cases
  rw [hc]
  exact peekQueueEarliestSide_le _ _ _ _ _ _

theorem SimQueue.isEmpty_of_peek {s : SimQueue} {cs sv : Nat} {now : Int} {pk : SimEvent} {qu : Queue} {dur : Nat}
    (h : s.peek cs sv now = .ok (some pk, qu, dur)) : s.isEmpty = false := by
  unfold SimQueue.peek at h
  split at h
  · cases h
  · unfold SimQueue.isEmpty; simpa using ‹¬ s.len = 0›

/-- The exits of `peek_queue st e`: the queue is empty; its head is later than `e`; the head
    passes; the head is held back by its side's blocking. -/
inductive PeekQ (st : St σ) (e : Nat) (r : Nat × Queue × Bool) : Prop where
  | empty : st.sq.isEmpty = true → r = (durMax, .blocking, false) → PeekQ st e r
  | late (pk : SimEvent) (qu : Queue) (dur : Nat) :
      st.sq.peek st.net.clientAgg st.net.serverAgg st.now = .ok (some pk, qu, dur) → e < dur →
      r = (durMax, .blocking, false) → PeekQ st e r
  | head (pk : SimEvent) (qu : Queue) (dur : Nat) :
      st.sq.peek st.net.clientAgg st.net.serverAgg st.now = .ok (some pk, qu, dur) → dur ≤ e →
      st.passes pk = true → r = (dur, qu, pk.client) → PeekQ st e r
  | blocked (pk : SimEvent) (qu : Queue) (dur : Nat) :
      st.sq.peek st.net.clientAgg st.net.serverAgg st.now = .ok (some pk, qu, dur) → dur ≤ e →
      st.passes pk = false → r = st.earliest → PeekQ st e r

/-- the four tests of `peek_queue` that let the head pass, as one condition -/
theorem passes_cascade {α : Type} (X Y : α) (t pc bp cb sb cy sy : Bool) :
    (if t then X else if (!cb && !sb) then X
      else if ((pc && !cb) || (!pc && !sb)) then X
      else if ((pc && cb && cy && bp) || (!pc && sb && sy && bp)) then X else Y) =
    if (t || !(if pc then cb else sb) || ((if pc then cy else sy) && bp)) then X else Y := by
  cases t <;> cases pc <;> cases cb <;> cases sb <;> simp

theorem peekQueue_eq (st : St σ) (e : Nat) : peekQueue st e =
    if st.sq.isEmpty then .ok (durMax, .blocking, false) else
    match st.sq.peek st.net.clientAgg st.net.serverAgg st.now with
    | .error f => .error f
    | .ok (none, _, _) => .error (.unwrapNone 5)
    | .ok (some pk, qu, dur) =>
      .ok (if e < dur then (durMax, .blocking, false) else if st.passes pk then (dur, qu, pk.client)
        else st.earliest) := by
  unfold peekQueue
  by_cases h0 : st.sq.isEmpty = true
  · rw [if_pos h0, if_pos h0]
  · rw [if_neg h0, if_neg h0]
    cases st.sq.peek st.net.clientAgg st.net.serverAgg st.now with
    | error f => rfl
    | ok r =>
      obtain ⟨pk, qu, dur⟩ := r
      cases pk with
      | none => rfl
      | some pk =>
        simp only [bind, Except.bind, pure, Except.pure, gt_iff_lt]
        by_cases h1 : e < dur
        · rw [if_pos h1, if_pos h1]
        · rw [if_neg h1, if_neg h1, passes_cascade, St.passes, St.earliest, St.side, apply_ite Side.blockingUntil,
            apply_ite Side.blockingBypassable, apply_ite Option.isSome, apply_ite Except.ok, apply_ite Except.ok]
          rfl

theorem peekQueue_ok_iff {st : St σ} {e : Nat} {r : Nat × Queue × Bool} :
    peekQueue st e = .ok r ↔ PeekQ st e r := by
  rw [peekQueue_eq]
  constructor
  · intro h
    by_cases h0 : st.sq.isEmpty = true
    · rw [if_pos h0] at h
      cases h; exact .empty h0 rfl
    · rw [if_neg h0] at h
      split at h
      · cases h
      · cases h
      · rename_i pk qu dur hpk
        simp only [Except.ok.injEq] at h
        by_cases h1 : e < dur
        · rw [if_pos h1] at h
          exact .late pk qu dur hpk h1 h.symm
        · rw [if_neg h1] at h
          by_cases h2 : st.passes pk = true
          · rw [if_pos h2] at h
            exact .head pk qu dur hpk (by omega) h2 h.symm
          · rw [if_neg h2] at h
            exact .blocked pk qu dur hpk (by omega) (by simpa using h2) h.symm
  · intro h
    cases h with
    | empty h0 hr => rw [if_pos h0, hr]
    | late pk qu dur hpk hlt hr => simp [SimQueue.isEmpty_of_peek hpk, hpk, hlt, hr]
    | head pk qu dur hpk hle hp hr => simp [SimQueue.isEmpty_of_peek hpk, hpk, hp, Nat.not_lt.2 hle, hr]
    | blocked pk qu dur hpk hle hp hr => simp [SimQueue.isEmpty_of_peek hpk, hpk, hp, Nat.not_lt.2 hle, hr]

theorem peekQueue_error_iff {st : St σ} {e : Nat} {f : SimFault} : peekQueue st e = .error f ↔
    st.sq.isEmpty = false ∧ (st.sq.peek st.net.clientAgg st.net.serverAgg st.now = .error f ∨
      ∃ qu dur, st.sq.peek st.net.clientAgg st.net.serverAgg st.now = .ok (none, qu, dur) ∧ f = .unwrapNone 5) := by
  rw [peekQueue_eq]
  by_cases h0 : st.sq.isEmpty = true
  · simp [h0]
  · rw [if_neg h0]
    cases st.sq.peek st.net.clientAgg st.net.serverAgg st.now with
    | error f' => simp [h0]
    | ok r =>
      obtain ⟨pk, qu, dur⟩ := r
      cases pk with
      | none =>
        constructor
        · intro h; cases h; exact ⟨by simpa using h0, Or.inr ⟨qu, dur, rfl, rfl⟩⟩
        · rintro ⟨_, h | ⟨_, _, _, rfl⟩⟩
          · cases h
          · rfl
      | some pk =>
        constructor
        · intro h; cases h
        · rintro ⟨_, h | ⟨_, _, h, _⟩⟩ <;> cases h

/-- the candidate offsets of `pick_next` besides the queue's: scheduled actions, internal timers,
    blocking expiry (with its side), aggregate delay -/
abbrev St.actOff (st : St σ) : Nat := peekScheduledAction st.client.schedAction st.server.schedAction st.now
abbrev St.timOff (st : St σ) : Nat := peekScheduledInternalTimer st.client.schedTimer st.server.schedTimer st.now
abbrev St.blkExp (st : St σ) : Nat × Bool := peekBlockedExp st.client.blockingUntil st.server.blockingUntil st.now
abbrev St.aggOff (st : St σ) : Nat := st.net.peekAggregateDelay st.now

/-- the bound `pick_next` hands to `peek_queue` -/
abbrev St.bound (st : St σ) : Nat := min (min (min st.actOff st.timOff) st.blkExp.1) st.aggOff

/-- the priority `n, b, q, i, s` of `pick_next` among the five candidate offsets -/
def Pick.choose (s i n : Nat) (b : Nat × Bool) (r : Nat × Queue × Bool) : Pick :=
  if s = durMax ∧ i = durMax ∧ b.1 = durMax ∧ n = durMax ∧ r.1 = durMax then .nothing
  else if n ≤ s ∧ n ≤ i ∧ n ≤ b.1 ∧ n ≤ r.1 then .agg
  else if b.1 ≤ s ∧ b.1 ≤ i ∧ b.1 ≤ r.1 then .blockExp b.1 b.2
  else if r.1 ≤ s ∧ r.1 ≤ i then .queue r.1 r.2.1 r.2.2
  else if i ≤ s then .timer i
  else .action s

section
variable {s i n x : Nat} {b : Nat × Bool} {r : Nat × Queue × Bool}

/-- the served candidate is strictly earlier than those of higher priority and not later than
    those of lower priority -/
theorem Pick.choose_spec (s i n : Nat) (b : Nat × Bool) (r : Nat × Queue × Bool) :
    match Pick.choose s i n b r with
    | .nothing => s = durMax ∧ i = durMax ∧ b.1 = durMax ∧ n = durMax ∧ r.1 = durMax
    | .agg => n ≤ s ∧ n ≤ i ∧ n ≤ b.1 ∧ n ≤ r.1 ∧
        ¬ (s = durMax ∧ i = durMax ∧ b.1 = durMax ∧ n = durMax ∧ r.1 = durMax)
    | .blockExp x c => (x, c) = b ∧ x < n ∧ x ≤ r.1 ∧ x ≤ i ∧ x ≤ s
    | .queue x qid c => (x, qid, c) = r ∧ x < n ∧ x < b.1 ∧ x ≤ i ∧ x ≤ s
    | .timer x => x = i ∧ x < n ∧ x < b.1 ∧ x < r.1 ∧ x ≤ s
    | .action x => x = s ∧ x < n ∧ x < b.1 ∧ x < r.1 ∧ x < i := by
  unfold Pick.choose
  by_cases h1 : s = durMax ∧ i = durMax ∧ b.1 = durMax ∧ n = durMax ∧ r.1 = durMax
  · rw [if_pos h1]; exact h1
  rw [if_neg h1]
  by_cases h2 : n ≤ s ∧ n ≤ i ∧ n ≤ b.1 ∧ n ≤ r.1
  · rw [if_pos h2]; exact ⟨h2.1, h2.2.1, h2.2.2.1, h2.2.2.2, h1⟩
  rw [if_neg h2]
  by_cases h3 : b.1 ≤ s ∧ b.1 ≤ i ∧ b.1 ≤ r.1
  · rw [if_pos h3]
    exact ⟨rfl, Nat.lt_of_not_le fun hn => h2 ⟨Nat.le_trans hn h3.1, Nat.le_trans hn h3.2.1, hn,
      Nat.le_trans hn h3.2.2⟩, h3.2.2, h3.2.1, h3.1⟩
  rw [if_neg h3]
  by_cases h4 : r.1 ≤ s ∧ r.1 ≤ i
  · rw [if_pos h4]
    have hb : r.1 < b.1 := Nat.lt_of_not_le fun hb => h3 ⟨Nat.le_trans hb h4.1, Nat.le_trans hb h4.2, hb⟩
    exact ⟨rfl, Nat.lt_of_not_le fun hn => h2 ⟨Nat.le_trans hn h4.1, Nat.le_trans hn h4.2,
      Nat.le_trans hn (Nat.le_of_lt hb), hn⟩, hb, h4.2, h4.1⟩
  rw [if_neg h4]
  by_cases h5 : i ≤ s
  · rw [if_pos h5]
    have hq : i < r.1 := Nat.lt_of_not_le fun hq => h4 ⟨Nat.le_trans hq h5, hq⟩
    have hb : i < b.1 := Nat.lt_of_not_le fun hb => h3 ⟨Nat.le_trans hb h5, hb, Nat.le_trans hb (Nat.le_of_lt hq)⟩
    exact ⟨rfl, Nat.lt_of_not_le fun hn => h2 ⟨Nat.le_trans hn h5, hn, Nat.le_trans hn (Nat.le_of_lt hb),
      Nat.le_trans hn (Nat.le_of_lt hq)⟩, hb, hq, h5⟩
  · rw [if_neg h5]
    have hi : s < i := Nat.lt_of_not_le h5
    have hq : s < r.1 := Nat.lt_of_not_le fun hq => h4 ⟨hq, Nat.le_trans hq (Nat.le_of_lt hi)⟩
    have hb : s < b.1 := Nat.lt_of_not_le fun hb =>
      h3 ⟨hb, Nat.le_trans hb (Nat.le_of_lt hi), Nat.le_trans hb (Nat.le_of_lt hq)⟩
    exact ⟨rfl, Nat.lt_of_not_le fun hn => h2 ⟨hn, Nat.le_trans hn (Nat.le_of_lt hi),
      Nat.le_trans hn (Nat.le_of_lt hb), Nat.le_trans hn (Nat.le_of_lt hq)⟩, hb, hq, hi⟩

theorem Pick.choose_nothing (h : Pick.choose s i n b r = .nothing) :
    s = durMax ∧ i = durMax ∧ b.1 = durMax ∧ n = durMax ∧ r.1 = durMax := by
  have := Pick.choose_spec s i n b r
  rw [h] at this
  exact this

theorem Pick.choose_agg (h : Pick.choose s i n b r = .agg) :
    n ≤ s ∧ n ≤ i ∧ n ≤ b.1 ∧ n ≤ r.1 ∧ ¬ (s = durMax ∧ i = durMax ∧ b.1 = durMax ∧ n = durMax ∧ r.1 = durMax) := by
  have := Pick.choose_spec s i n b r
  rw [h] at this
  exact this

theorem Pick.choose_blockExp {c : Bool} (h : Pick.choose s i n b r = .blockExp x c) :
    (x, c) = b ∧ x < n ∧ x ≤ r.1 ∧ x ≤ i ∧ x ≤ s := by
  have := Pick.choose_spec s i n b r
  rw [h] at this
  exact this

theorem Pick.choose_queue {qid : Queue} {c : Bool} (h : Pick.choose s i n b r = .queue x qid c) :
    (x, qid, c) = r ∧ x < n ∧ x < b.1 ∧ x ≤ i ∧ x ≤ s := by
  have := Pick.choose_spec s i n b r
  rw [h] at this
  exact this

theorem Pick.choose_timer (h : Pick.choose s i n b r = .timer x) :
    x = i ∧ x < n ∧ x < b.1 ∧ x < r.1 ∧ x ≤ s := by
  have := Pick.choose_spec s i n b r
  rw [h] at this
  exact this

theorem Pick.choose_action (h : Pick.choose s i n b r = .action x) :
    x = s ∧ x < n ∧ x < b.1 ∧ x < r.1 ∧ x < i := by
  have := Pick.choose_spec s i n b r
  rw [h] at this
  exact this

theorem Pick.choose_eq_queue (hn : r.1 < n) (hb : r.1 < b.1) (hi : r.1 ≤ i) (hs : r.1 ≤ s) :
    Pick.choose s i n b r = .queue r.1 r.2.1 r.2.2 := by
  unfold Pick.choose
  rw [if_neg (by omega), if_neg (by omega), if_neg (by omega), if_pos ⟨hs, hi⟩]

end

theorem pickDecide_eq (st : St σ) :
    pickDecide st = (peekQueue st st.bound).map (Pick.choose st.actOff st.timOff st.aggOff st.blkExp) := by
  unfold pickDecide Pick.choose
  simp only []
  cases peekQueue st st.bound with
  | error f => rfl
  | ok r =>
    simp only [bind, Except.bind, pure, Except.pure, Except.map, Bool.and_eq_true, decide_eq_true_eq, and_assoc,
      apply_ite (Except.ok (ε := SimFault))]

theorem pickDecide_ok_iff {st : St σ} {p : Pick} : pickDecide st = .ok p ↔
    ∃ r, peekQueue st st.bound = .ok r ∧ Pick.choose st.actOff st.timOff st.aggOff st.blkExp r = p := by
  rw [pickDecide_eq, map_ok_iff]

theorem pickDecide_error_iff {st : St σ} {f : SimFault} :
    pickDecide st = .error f ↔ peekQueue st st.bound = .error f := by
  rw [pickDecide_eq, map_error_iff]

theorem pickAgg_ok_iff {st st' : St σ} : pickAgg st = .ok st' ↔
    st.net.aggQueue.len ≠ 0 ∧ ∃ net, st.net.popAggregateDelay = .ok net ∧ st' = { st with net := net } := by
  unfold pickAgg
  split
  · simp [*]
  · rw [bind_ok_iff]
    simp only [pure, Except.pure, Except.ok.injEq, ne_eq, not_false_eq_true, true_and, *]
    exact exists_congr fun net => and_congr_right fun _ => eq_comm

theorem pickAgg_error_iff {st : St σ} {f : SimFault} : pickAgg st = .error f ↔
    (st.net.aggQueue.len = 0 ∧ f = .diverge) ∨ (st.net.aggQueue.len ≠ 0 ∧ st.net.popAggregateDelay = .error f) := by
  unfold pickAgg
  split
  · simp [*, eq_comm]
  · rw [bind_error_iff]
    simp [*, pure, Except.pure]

theorem pickBlockExp_ok_iff {st st' : St σ} {b : Nat} {c : Bool} {e : SimEvent} :
    pickBlockExp st b c = .ok (e, st') ↔
    ∃ net, blockExpNet st.sq st.net c (st.now + b) = .ok net ∧
      e = ⟨.blockingEnd, st.now + b, c, false, false, false⟩ ∧
      st' = { (st.setSide c { (st.side c) with blockingUntil := none }) with net := net } := by
  unfold pickBlockExp
  rw [bind_ok_iff]
  simp [pure, Except.pure, eq_comm]

theorem pickBlockExp_error_iff {st : St σ} {b : Nat} {c : Bool} {f : SimFault} :
    pickBlockExp st b c = .error f ↔ blockExpNet st.sq st.net c (st.now + b) = .error f := by
  unfold pickBlockExp
  rw [bind_error_iff]
  simp [pure, Except.pure]

/-- the queue branch pops the named queue; the event is moved forward to the decided offset if
    that is later (blocking delayed it), which the ghost counter records -/
theorem pickQueue_ok_iff {st st' : St σ} {q : Nat} {qid : Queue} {c : Bool} {e : SimEvent} :
    pickQueue st q qid c = .ok (e, st') ↔
    ∃ tmp sq, st.sq.pop qid c (st.net.agg c) = .ok (some (tmp, sq)) ∧
      e = { tmp with time := max tmp.time (st.now + q) } ∧
      st' = { st with sq := sq, net := { st.net with ghost := { st.net.ghost with
        movedByBlocking := st.net.ghost.movedByBlocking + if st.now + q > tmp.time then 1 else 0 } } } := by
  unfold pickQueue
  rw [bind_ok_iff]
  constructor
  · rintro ⟨_ | ⟨tmp, sq⟩, hp, h⟩
    · cases h
    · refine ⟨tmp, sq, hp, ?_⟩
      simp only [pure, Except.pure, Except.ok.injEq, Prod.mk.injEq] at h
      rw [← h.1, ← h.2]
      split
      · rw [Int.max_eq_right (by omega)]; exact ⟨rfl, rfl⟩
      · rw [Int.max_eq_left (by omega)]; exact ⟨rfl, rfl⟩
  · rintro ⟨tmp, sq, hp, rfl, rfl⟩
    refine ⟨_, hp, ?_⟩
    simp only [pure, Except.pure, Except.ok.injEq, Prod.mk.injEq]
    split
    · rw [Int.max_eq_right (by omega)]; exact ⟨rfl, rfl⟩
    · rw [Int.max_eq_left (by omega)]; exact ⟨rfl, rfl⟩

theorem pickQueue_error_iff {st : St σ} {q : Nat} {qid : Queue} {c : Bool} {f : SimFault} :
    pickQueue st q qid c = .error f ↔
    st.sq.pop qid c (st.net.agg c) = .error f ∨ (st.sq.pop qid c (st.net.agg c) = .ok none ∧ f = .unwrapNone 6) := by
  unfold pickQueue
  rw [bind_error_iff]
  constructor
  · rintro (h | ⟨_ | ⟨tmp, sq⟩, hp, h⟩)
    · exact Or.inl h
    · cases h; exact Or.inr ⟨hp, rfl⟩
    · cases h
  · rintro (h | ⟨hp, rfl⟩)
    · exact Or.inl h
    · exact Or.inr ⟨none, hp, rfl⟩

theorem doInternalTimer_ok {st st' : St σ} {t : Int} {e : SimEvent} (h : doInternalTimer st t = .ok (e, st')) :
    ∃ c i t', findSlot (fun x => x == t) (st.side c).schedTimer 0 = some (i, t') ∧
      e = ⟨.timerEnd i, t, c, false, false, false⟩ ∧
      st' = st.setSide c { st.side c with schedTimer := (st.side c).schedTimer.set i none } := by
  unfold doInternalTimer at h
  cases hc : findSlot (fun x => x == t) st.client.schedTimer 0 with
  | some p =>
    rw [hc] at h
    cases h
    exact ⟨true, p.1, p.2, hc, rfl, rfl⟩
  | none =>
    rw [hc] at h
    cases hs : findSlot (fun x => x == t) st.server.schedTimer 0 with
    | some p =>
      rw [hs] at h
      cases h
      exact ⟨false, p.1, p.2, hs, rfl, rfl⟩
    | none => rw [hs] at h; cases h

theorem doScheduledAction_ok {st st' : St σ} {t : Int} {e : SimEvent} (h : doScheduledAction st t = .ok (e, st')) :
    ∃ c i a sd, findAction st t = some (c, i, a) ∧ st' = st.setSide c sd ∧
      sd.schedAction = (st.side c).schedAction.set i none ∧ sd.schedTimer = (st.side c).schedTimer ∧
      sd.fw = (st.side c).fw ∧ e.time = a.time ∧ e.client = c ∧
      ((∃ to b r m, a.action = .sendPadding to b r m ∧ e.event = .paddingSent m ∧ e.bypass = b ∧ e.replace = r) ∨
       (∃ to d b r m, a.action = .blockOutgoing to d b r m ∧ e.event = .blockingBegin m)) := by
  unfold doScheduledAction at h
  cases hf : findAction st t with
  | none => rw [hf] at h; cases h
  | some p =>
    obtain ⟨c, i, a⟩ := p
    rw [hf] at h
    simp only [] at h
    split at h
    · cases h
    · cases h
    · cases h; exact ⟨c, i, a, _, rfl, rfl, rfl, rfl, rfl, rfl, rfl, Or.inl ⟨_, _, _, _, ‹_›, rfl, rfl, rfl⟩⟩
    · cases h; exact ⟨c, i, a, _, rfl, rfl, rfl, rfl, rfl, rfl, rfl, Or.inr ⟨_, _, _, _, _, ‹_›, rfl⟩⟩

theorem pickTimer_ok_iff {st st' : St σ} {i : Nat} : pickTimer st i = .ok st' ↔
    ∃ ev st1, doInternalTimer st (st.now + i) = .ok (ev, st1) ∧ st' = { st1 with sq := st1.sq.pushSim ev } := by
  unfold pickTimer
  rw [bind_ok_iff]
  simp [pure, Except.pure, eq_comm]

theorem pickTimer_error_iff {st : St σ} {i : Nat} {f : SimFault} :
    pickTimer st i = .error f ↔ doInternalTimer st (st.now + i) = .error f := by
  unfold pickTimer
  rw [bind_error_iff]
  simp [pure, Except.pure]

theorem pickAction_ok_iff {st st' : St σ} {s : Nat} : pickAction st s = .ok st' ↔
    ∃ ev st1, doScheduledAction st (st.now + s) = .ok (ev, st1) ∧ st' = { st1 with sq := st1.sq.pushSim ev } := by
  unfold pickAction
  rw [bind_ok_iff]
  simp [pure, Except.pure, eq_comm]

theorem pickAction_error_iff {st : St σ} {s : Nat} {f : SimFault} :
    pickAction st s = .error f ↔ doScheduledAction st (st.now + s) = .error f := by
  unfold pickAction
  rw [bind_error_iff]
  simp [pure, Except.pure]

/-- Induction along the recursion of `pick_next`: a relation between the state and the result
    holds if every exit establishes it and the three recursive branches carry it back. -/
theorem pickNext_induct {motive : St σ → Except SimFault (Option SimEvent × St σ) → Prop}
    (decideErr : ∀ st f, pickDecide st = .error f → motive st (.error f))
    (nothing : ∀ st, pickDecide st = .ok .nothing → motive st (.ok (none, st)))
    (aggErr : ∀ st f, pickDecide st = .ok .agg → pickAgg st = .error f → motive st (.error f))
    (agg : ∀ st st1 r, pickDecide st = .ok .agg → pickAgg st = .ok st1 → motive st1 r → motive st r)
    (blockErr : ∀ st b c f, pickDecide st = .ok (.blockExp b c) → pickBlockExp st b c = .error f →
      motive st (.error f))
    (blockExp : ∀ st b c e st', pickDecide st = .ok (.blockExp b c) → pickBlockExp st b c = .ok (e, st') →
      motive st (.ok (some e, st')))
    (queueErr : ∀ st q qid c f, pickDecide st = .ok (.queue q qid c) → pickQueue st q qid c = .error f →
      motive st (.error f))
    (queue : ∀ st q qid c e st', pickDecide st = .ok (.queue q qid c) → pickQueue st q qid c = .ok (e, st') →
      motive st (.ok (some e, st')))
    (timerErr : ∀ st i f, pickDecide st = .ok (.timer i) → pickTimer st i = .error f → motive st (.error f))
    (timer : ∀ st st1 i r, pickDecide st = .ok (.timer i) → pickTimer st i = .ok st1 → motive st1 r → motive st r)
    (actionErr : ∀ st s f, pickDecide st = .ok (.action s) → pickAction st s = .error f → motive st (.error f))
    (action : ∀ st st1 s r, pickDecide st = .ok (.action s) → pickAction st s = .ok st1 → motive st1 r →
      motive st r) :
    ∀ (fuel : Nat) (st : St σ) r, pickNext fuel st = some r → motive st r := by
  intro fuel
  induction fuel with
  | zero => intro st r h; cases h
  | succ n ih =>
    intro st r h
    unfold pickNext at h
    split at h
    · cases h; exact decideErr _ _ ‹_›
    · cases h; exact nothing _ ‹_›
    · split at h
      · cases h; exact aggErr _ _ ‹_› ‹_›
      · exact agg _ _ _ ‹_› ‹_› (ih _ _ h)
    · split at h
      · cases h; exact blockErr _ _ _ _ ‹_› ‹_›
      · cases h; exact blockExp _ _ _ _ _ ‹_› ‹_›
    · split at h
      · cases h; exact queueErr _ _ _ _ _ ‹_› ‹_›
      · cases h; exact queue _ _ _ _ _ _ ‹_› ‹_›
    · split at h
      · cases h; exact timerErr _ _ _ ‹_› ‹_›
      · exact timer _ _ _ _ ‹_› ‹_› (ih _ _ h)
    · split at h
      · cases h; exact actionErr _ _ _ ‹_› ‹_›
      · exact action _ _ _ _ ‹_› ‹_› (ih _ _ h)

/-- the same for the successful results only -/
theorem pickNext_ok_induct {motive : St σ → Option SimEvent → St σ → Prop}
    (nothing : ∀ st, pickDecide st = .ok .nothing → motive st none st)
    (agg : ∀ st st1 e st', pickDecide st = .ok .agg → pickAgg st = .ok st1 → motive st1 e st' → motive st e st')
    (blockExp : ∀ st b c e st', pickDecide st = .ok (.blockExp b c) → pickBlockExp st b c = .ok (e, st') →
      motive st (some e) st')
    (queue : ∀ st q qid c e st', pickDecide st = .ok (.queue q qid c) → pickQueue st q qid c = .ok (e, st') →
      motive st (some e) st')
    (timer : ∀ st st1 i e st', pickDecide st = .ok (.timer i) → pickTimer st i = .ok st1 → motive st1 e st' →
      motive st e st')
    (action : ∀ st st1 s e st', pickDecide st = .ok (.action s) → pickAction st s = .ok st1 → motive st1 e st' →
      motive st e st') :
    ∀ (fuel : Nat) (st st' : St σ) (e : Option SimEvent), pickNext fuel st = some (.ok (e, st')) → motive st e st' := by
  intro fuel st st' e h
  refine pickNext_induct (motive := fun st r => ∀ e st', r = .ok (e, st') → motive st e st')
    ?_ ?_ ?_ ?_ ?_ ?_ ?_ ?_ ?_ ?_ ?_ ?_ fuel st _ h e st' rfl
  · intro st f _ e st' h; cases h
  · intro st hd e st' h; cases h; exact nothing st hd
  · intro st f _ _ e st' h; cases h
  · intro st st1 r hd ha ih e st' h; exact agg st st1 e st' hd ha (ih e st' h)
  · intro st b c f _ _ e st' h; cases h
  · intro st b c e0 st0 hd hb e st' h; cases h; exact blockExp st b c e0 st0 hd hb
  · intro st q qid c f _ _ e st' h; cases h
  · intro st q qid c e0 st0 hd hq e st' h; cases h; exact queue st q qid c e0 st0 hd hq
  · intro st i f _ _ e st' h; cases h
  · intro st st1 i r hd ht ih e st' h; exact timer st st1 i e st' hd ht (ih e st' h)
  · intro st s f _ _ e st' h; cases h
  · intro st st1 s r hd ha ih e st' h; exact action st st1 s e st' hd ha (ih e st' h)

end
end Mb.Sim
