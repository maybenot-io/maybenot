/-
  The ghost log only grows: every primitive step, and hence every transition, event and call,
  extends it by a segment.
-/
import MbVerif.Proofs.ReachMain

namespace Mb
variable {σ : Type}

def LogExt (s t : Fw σ) : Prop := ∃ l, t.log = l ++ s.log

theorem LogExt.refl (s : Fw σ) : LogExt s s := ⟨[], rfl⟩

theorem LogExt.trans {s t u : Fw σ} (h₁ : LogExt s t) (h₂ : LogExt t u) : LogExt s u := by
  obtain ⟨l1, e1⟩ := h₁
  obtain ⟨l2, e2⟩ := h₂
  exact ⟨l2 ++ l1, by rw [e2, e1, List.append_assoc]⟩

theorem LogExt.same {s t : Fw σ} (h : t.log = s.log) : LogExt s t := ⟨[], by simp [h]⟩

theorem Step.logExt {k : Nat} {s t : Fw σ} (h : Step k s t) : ∃ l, t.log = l ++ s.log := by
  cases h with
  | push e => exact ⟨[e], rfl⟩
  | fault => exact ⟨[], by simp⟩
  | rng => exact ⟨[], rfl⟩
  | setState => exact ⟨[], by simp⟩
  | setLimit => exact ⟨[], by simp⟩
  | setCtrA => exact ⟨[], by simp⟩
  | setCtrB => exact ⟨[], by simp⟩
  | signal => exact ⟨[], rfl⟩
  | zeroA => exact ⟨[], by simp⟩
  | zeroB => exact ⟨[], by simp⟩
  | clear => exact ⟨[], rfl⟩
  | sched => exact ⟨[], rfl⟩

theorem Reach.logExt {k : Nat} {s t : Fw σ} (h : Reach k s t) : ∃ l, t.log = l ++ s.log := by
  induction h with
  | refl => exact LogExt.refl _
  | tail _ st ih => exact LogExt.trans ih st.logExt

theorem LogExt.ofReach {mi : Nat} {s t : Fw σ} (h : Reach mi s t) : LogExt s t := h.logExt

theorem Prim.logExt {s t : Fw σ} (h : Prim s t) : LogExt s t := by
  cases h with
  | step mi st => exact st.logExt
  | setG => exact LogExt.same rfl
  | setAcct => exact LogExt.same (by simp)
  | callStart => exact LogExt.same rfl

theorem Run.logExt {s t : Fw σ} (h : Run s t) : LogExt s t := by
  induction h with
  | refl => exact LogExt.refl _
  | tail _ hp ih => exact ih.trans hp.logExt

theorem FUEL_succ : FUEL = 7 + 1 := rfl

end Mb
