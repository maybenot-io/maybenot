/-
  Round trip and soundness of the string form.
-/
import MbVerif.MachineStr
import MbVerif.Proofs.CodecRoundtrip
import MbVerif.Proofs.CodecBase64

namespace Mb
namespace MStr
open Codec (Bytes)

theorem versionStr_length : versionStr.length = 2 := by decide

theorem versionStr_ascii : isAscii versionStr = true := by decide

theorem isAscii_append (a b : Bytes) : isAscii (a ++ b) = (isAscii a && isAscii b) := by
  simp [isAscii, List.all_append]

theorem isAscii_b64 (b : Bytes) : isAscii (B64.enc b) = true := by
  simp only [isAscii, List.all_eq_true, decide_eq_true_eq]
  exact B64.enc_ascii b

theorem b64_len_ge (b : Bytes) (h : b ≠ []) : 1 ≤ (B64.enc b).length := by
  match b with
  | [] => exact absurd rfl h
  | [_] => simp [B64.enc]
  | [_, _] => simp [B64.enc]
  | _ :: _ :: _ :: _ => simp [B64.enc]

theorem isBoundary_of_ascii {s : Bytes} (h : isAscii s = true) (i : Nat) (hi : i ≤ s.length) :
    isBoundary s i = true := by
  simp only [isBoundary, Bool.or_eq_true, beq_iff_eq]
  by_cases he : i = s.length
  · exact Or.inl he
  · right
    have hlt : i < s.length := by omega
    simp only [isAscii, List.all_eq_true, decide_eq_true_eq] at h
    have := h s[i] (List.getElem_mem hlt)
    simp [List.getElem?_eq_getElem hlt, this]

theorem strSlice_of_ascii {s : Bytes} (h : isAscii s = true) (lo hi : Nat) (h1 : lo ≤ hi) (h2 : hi ≤ s.length) :
    strSlice s lo hi = some ((s.drop lo).take (hi - lo)) := by
  simp [strSlice, h1, h2, isBoundary_of_ascii h lo (by omega), isBoundary_of_ascii h hi h2]

theorem fromStr_eq_pure (Z : Zlib) (s : Bytes) : fromStr Z s = fromStrPure Z s := by
  unfold fromStr fromStrPure
  split
  · rfl
  · rename_i hl
    split
    · rfl
    · rename_i ha
      have ha : isAscii s = true := by
        cases hx : isAscii s with
        | true => rfl
        | false => simp [hx] at ha
      rw [strSlice_of_ascii ha 0 2 (by omega) (by omega), strSlice_of_ascii ha 2 s.length (by omega) (by omega)]
      have : List.take (s.length - 2) (List.drop 2 s) = List.drop 2 s :=
        List.take_of_length_le (by simp)
      simp [this]

theorem fromStr_nopanic (Z : Zlib) (s : Bytes) : fromStr Z s ≠ .error .panic := by
  rw [fromStr_eq_pure]
  unfold fromStrPure fromBody
  repeat' split
  all_goals nofun

theorem fromStr_serialize (Z : Zlib) (hZ : Z.Contract) (m : Machine)
    (hv : Validate.machine m = true) (hwf : Codec.WFm m = true)
    (hlen : (Codec.encMachine m).length ≤ MAX) :
    fromStr Z (serialize Z m) = .ok m := by
  have h1 := b64_len_ge _ (hZ.deflate_ne_nil (Codec.encMachine m))
  have hl : ¬ (serialize Z m).length < 3 := by
    simp [serialize, versionStr_length]; omega
  have ha : isAscii (serialize Z m) = true := by
    simp [serialize, isAscii_append, versionStr_ascii, isAscii_b64]
  have ht : (serialize Z m).take 2 = versionStr := by
    simp [serialize, versionStr_length]
  have hd : (serialize Z m).drop 2 = B64.enc (Z.deflate (Codec.encMachine m)) := by
    simp [serialize, versionStr_length]
  rw [fromStr_eq_pure]
  simp [fromStrPure, fromBody, hl, ha, ht, hd, B64.dec_enc, hZ.read_deflate _ hlen,
    Codec.decodeMachine_encMachine m hwf, hv]

theorem fromStr_ok {Z : Zlib} {s : Bytes} {m : Machine} (h : fromStr Z s = .ok m) :
    ∃ compressed raw, 3 ≤ s.length ∧ isAscii s = true ∧ s.take 2 = versionStr ∧
      B64.dec (s.drop 2) = some compressed ∧ Z.readOnce compressed = some raw ∧
      Codec.decodeMachine raw = some m ∧ Validate.machine m = true := by
  rw [fromStr_eq_pure] at h
  simp only [fromStrPure, fromBody] at h
  repeat' split at h
  all_goals cases h
  rename_i h1 h2 h3 _ c hc _ raw hr _ hm hv
  exact ⟨c, raw, by omega, by simpa using h2, by simpa using h3, hc, hr, hm, hv⟩

end MStr
end Mb
