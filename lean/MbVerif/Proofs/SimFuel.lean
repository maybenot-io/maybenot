/-
  `pick_next` terminates: every recursive call removes one pending aggregate delay, internal
  timer or scheduled action, so fuel `pickMeasure st + 1` is never exhausted.
-/
import MbVerif.Proofs.SimBasic
import MbVerif.Proofs.HeapCount

namespace Mb.Sim
open Mb

/-- where `findSlot` finds: at offset `k` from the start index, in a slot holding `a` -/
theorem findSlot_spec {α : Type} (p : α → Bool) : ∀ (l : List (Option α)) (i j : Nat) (a : α),
    findSlot p l i = some (j, a) → ∃ k, j = i + k ∧ l[k]? = some (some a) := by
  intro l
  induction l with
  | nil => intro i j a h; simp [findSlot] at h
  | cons x xs ih =>
    intro i j a h
    cases x with
    | none =>
      simp only [findSlot] at h
      obtain ⟨k, hk, hl⟩ := ih _ _ _ h
      exact ⟨k + 1, by omega, by simpa using hl⟩
    | some b =>
      simp only [findSlot] at h
      split at h
      · cases h; exact ⟨0, by omega, by simp⟩
      · obtain ⟨k, hk, hl⟩ := ih _ _ _ h
        exact ⟨k + 1, by omega, by simpa using hl⟩

theorem findSlot_sat {α : Type} (p : α → Bool) : ∀ (l : List (Option α)) (i j : Nat) (a : α),
    findSlot p l i = some (j, a) → p a = true := by
  intro l
  induction l with
  | nil => intro i j a h; simp [findSlot] at h
  | cons x xs ih =>
    intro i j a h
    cases x with
    | none => simp only [findSlot] at h; exact ih _ _ _ h
    | some b =>
      simp only [findSlot] at h
      split at h
      · rename_i hp; cases h; exact hp
      · exact ih _ _ _ h

theorem count_set_none {α : Type} : ∀ (l : List (Option α)) (k : Nat) (a : α), l[k]? = some (some a) →
    ((l.set k none).filter Option.isSome).length + 1 = (l.filter Option.isSome).length := by
  intro l
  induction l with
  | nil => intro k a h; simp at h
  | cons x xs ih =>
    intro k a h
    cases k with
    | zero =>
      simp at h
      subst h
      simp
    | succ k =>
      simp at h
      have := ih k a h
      cases x <;> simp [List.set, List.filter] <;> omega

section
variable {σ : Type}

theorem pickAgg_measure {st st' : St σ} (h : pickAgg st = .ok st') :
    pickMeasure st' + 1 = pickMeasure st := by
  obtain ⟨hd, net, h1, rfl⟩ := pickAgg_ok_iff.1 h
  have : net.aggQueue.len + 1 = st.net.aggQueue.len := by
    unfold Bottleneck.popAggregateDelay at h1
    cases hp : Heap.pop PendingAgg.le st.net.aggQueue with
    | none => exact absurd (heap_pop_none _ hp) hd
    | some p =>
      have hl := heap_pop_len _ hp
      rw [hp] at h1
      simp only [] at h1
      split at h1 <;>
      · rw [bind_ok_iff] at h1
        obtain ⟨v, _, h4⟩ := h1
        cases h4
        exact hl
  simp only [pickMeasure]
  omega

theorem findAction_spec {st : St σ} {t : Int} {c : Bool} {i : Nat} {a : SchedAction}
    (h : findAction st t = some (c, i, a)) : (st.side c).schedAction[i]? = some (some a) ∧ a.time = t := by
  unfold findAction at h
  cases hc : findSlot (fun (a : SchedAction) => a.time == t) st.client.schedAction 0 with
  | some p =>
    rw [hc] at h
    cases h
    obtain ⟨k, hk, hl⟩ := findSlot_spec _ _ _ _ _ hc
    rw [Nat.zero_add] at hk
    exact ⟨hk ▸ hl, by simpa using findSlot_sat _ _ _ _ _ hc⟩
  | none =>
    rw [hc] at h
    cases hs : findSlot (fun (a : SchedAction) => a.time == t) st.server.schedAction 0 with
    | some p =>
      rw [hs] at h
      cases h
      obtain ⟨k, hk, hl⟩ := findSlot_spec _ _ _ _ _ hs
      rw [Nat.zero_add] at hk
      exact ⟨hk ▸ hl, by simpa using findSlot_sat _ _ _ _ _ hs⟩
    | none => rw [hs] at h; cases h

theorem setSide_measure (st : St σ) (c : Bool) (sd : Side σ)
    (h : (sd.schedTimer.filter Option.isSome).length + (sd.schedAction.filter Option.isSome).length + 1 =
      ((st.side c).schedTimer.filter Option.isSome).length + ((st.side c).schedAction.filter Option.isSome).length) :
    pickMeasure (st.setSide c sd) + 1 = pickMeasure st := by
  cases c
  · simp only [St.setSide, St.side, pickMeasure, Bool.false_eq_true, if_false] at *
    omega
  · simp only [St.setSide, St.side, pickMeasure, if_true] at *
    omega

theorem pickTimer_measure {st st' : St σ} {i : Nat} (h : pickTimer st i = .ok st') :
    pickMeasure st' + 1 = pickMeasure st := by
  obtain ⟨ev, st1, h1, rfl⟩ := pickTimer_ok_iff.1 h
  obtain ⟨c, j, t', hf, _, rfl⟩ := doInternalTimer_ok h1
  obtain ⟨k, hk, hl⟩ := findSlot_spec _ _ _ _ _ hf
  rw [Nat.zero_add] at hk
  subst hk
  have := count_set_none _ _ _ hl
  exact setSide_measure st c _ (by
    show (((st.side c).schedTimer.set j none).filter _).length + ((st.side c).schedAction.filter _).length + 1 = _
    omega)

theorem pickAction_measure {st st' : St σ} {s : Nat} (h : pickAction st s = .ok st') :
    pickMeasure st' + 1 = pickMeasure st := by
  obtain ⟨ev, st1, h1, rfl⟩ := pickAction_ok_iff.1 h
  obtain ⟨c, i, a, sd, hf, rfl, hsa, hst, _⟩ := doScheduledAction_ok h1
  have := count_set_none _ _ _ (findAction_spec hf).1
  exact setSide_measure st c sd (by rw [hsa, hst]; omega)

/-- Fuel sufficiency: with more fuel than pending items `pick_next` is defined. -/
theorem pickNext_fuel_ok : ∀ (fuel : Nat) (st : St σ), pickMeasure st < fuel → (pickNext fuel st).isSome = true := by
  intro fuel
  induction fuel with
  | zero => intro st h; omega
  | succ n ih =>
    intro st hm
    have step : ∀ st1, pickMeasure st1 + 1 = pickMeasure st → (pickNext n st1).isSome = true :=
      fun st1 h => ih st1 (by omega)
    unfold pickNext
    split
    · rfl
    · rfl
    · split
      · rfl
      · exact step _ (pickAgg_measure ‹_›)
    · split <;> rfl
    · split <;> rfl
    · split
      · rfl
      · exact step _ (pickTimer_measure ‹_›)
    · split
      · rfl
      · exact step _ (pickAction_measure ‹_›)

end
end Mb.Sim
