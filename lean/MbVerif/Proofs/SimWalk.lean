/-
  The pieces of a run as equivalences, so that no later proof unfolds them: `initState` is four
  constructions in a row; `step` is `pick_next`, then the network stack at the event's time, then
  `trigger_update`; `trigger_update` is one framework call followed by `applyActions`;
  `applyAction` does one thing per kind of action and can only fail on a machine id out of range.
-/
import MbVerif.Proofs.SimBasic

namespace Mb.Sim
open Mb

section
variable {σ : Type} (ρ : Oracle σ)

theorem initState_ok_iff {mc ms : List Machine} {sq : SimQueue} {a : Args} {orc : σ} {st : St σ} :
    initState ρ mc ms sq a orc = .ok st ↔
    ∃ t0 c o1 s o2 net, firstTimeE sq = .ok t0 ∧ Side.new ρ mc t0 a.fpClient a.fbClient orc = .ok (c, o1) ∧
      Side.new ρ ms t0 a.fpServer a.fbServer o1 = .ok (s, o2) ∧
      Bottleneck.new a.network Gen.SIM_BOTTLENECK_WINDOW_NS sq.maxPps = .ok net ∧
      st = { sq := sq, client := c, server := s, net := net, now := t0, orc := o2 } := by
  simp only [initState, bind_ok_iff, pure, Except.pure, Except.ok.injEq, Prod.exists, @eq_comm _ st]
  constructor
  · rintro ⟨t0, h0, c, o1, h1, s, o2, h2, net, h3, rfl⟩
    exact ⟨t0, c, o1, s, o2, net, h0, h1, h2, h3, rfl⟩
  · rintro ⟨t0, c, o1, s, o2, net, h0, h1, h2, h3, rfl⟩
    exact ⟨t0, h0, c, o1, h1, s, o2, h2, net, h3, rfl⟩

/-- the framework of the event's side after the call `trigger_update` makes -/
abbrev trigFw (st : St σ) (next : SimEvent) : Fw σ :=
  triggerEvents ρ [next.event] st.now { (st.side next.client).fw with rng := st.orc, log := [] }

theorem triggerUpdate_ok_iff {st st' : St σ} {next : SimEvent} {acts : List TAction} :
    triggerUpdate ρ st next = .ok (acts, st') ↔
    (trigFw ρ st next).fault = none ∧ acts = (trigFw ρ st next).actionsOut ∧
    ∃ sd sq, applyActions { st.side next.client with fw := trigFw ρ st next } st.sq st.now next.client acts
        = .ok (sd, sq) ∧
      st' = { st.setSide next.client sd with sq := sq, orc := (trigFw ρ st next).rng } := by
  unfold triggerUpdate
  simp only []
  split
  · rename_i f hf
    simp [hf]
  · rename_i hf
    rw [bind_ok_iff]
    constructor
    · rintro ⟨⟨sd, sq⟩, h1, h2⟩
      cases h2
      exact ⟨hf, rfl, sd, sq, h1, rfl⟩
    · rintro ⟨_, rfl, sd, sq, h1, rfl⟩
      exact ⟨(sd, sq), h1, rfl⟩

theorem triggerUpdate_error_iff {st : St σ} {next : SimEvent} {f : SimFault} :
    triggerUpdate ρ st next = .error f ↔
    (∃ x, (trigFw ρ st next).fault = some x ∧ f = .fw x) ∨
    ((trigFw ρ st next).fault = none ∧
      applyActions { st.side next.client with fw := trigFw ρ st next } st.sq st.now next.client
        (trigFw ρ st next).actionsOut = .error f) := by
  unfold triggerUpdate
  simp only []
  split
  · rename_i x hx
    simp [hx, eq_comm]
  · rename_i hf
    rw [bind_error_iff]
    simp [hf, pure, Except.pure]

theorem step_of_pick {st st1 : St σ} {next : SimEvent}
    (hp : pickNext (pickMeasure st + 1) st = some (.ok (some next, st1))) (hge : st1.now ≤ next.time) :
    step ρ st = (do
      let (na, sq, net) ← simNetworkStack next st1.sq (st1.side next.client).blockingBypassable st1.net next.time
      let (acts, st') ← triggerUpdate ρ { st1 with now := next.time, sq := sq, net := net } next
      pure (some (⟨next, na, acts⟩, st'))) := by
  have hnow : (if next.time > st1.now then next.time else st1.now) = next.time := by
    split <;> omega
  unfold step
  simp only [hp, Option.getD_some, bind, Except.bind, Int.not_lt.2 hge, if_false, hnow]
  rfl

theorem step_some_iff {st st' : St σ} {r : StepRec} :
    step ρ st = .ok (some (r, st')) ↔
    ∃ st1 sq net, pickNext (pickMeasure st + 1) st = some (.ok (some r.ev, st1)) ∧ st1.now ≤ r.ev.time ∧
      simNetworkStack r.ev st1.sq (st1.side r.ev.client).blockingBypassable st1.net r.ev.time = .ok (r.net, sq, net) ∧
      triggerUpdate ρ { st1 with now := r.ev.time, sq := sq, net := net } r.ev = .ok (r.acts, st') := by
  constructor
  · intro h
    cases hp : pickNext (pickMeasure st + 1) st with
    | none => simp [step, hp, bind, Except.bind] at h
    | some res =>
      cases res with
      | error f => simp [step, hp, bind, Except.bind] at h
      | ok pr =>
        obtain ⟨next, st1⟩ := pr
        cases next with
        | none => simp [step, hp, bind, Except.bind, pure, Except.pure] at h
        | some next =>
          by_cases hge : st1.now ≤ next.time
          · rw [step_of_pick ρ hp hge, bind_ok_iff] at h
            obtain ⟨⟨na, sq, net⟩, hs, h⟩ := h
            rw [bind_ok_iff] at h
            obtain ⟨⟨acts, st2⟩, ht, h⟩ := h
            cases h
            exact ⟨st1, sq, net, rfl, hge, hs, ht⟩
          · simp [step, hp, bind, Except.bind, Int.not_le.1 hge] at h
  · rintro ⟨st1, sq, net, hp, hge, hs, ht⟩
    rw [step_of_pick ρ hp hge]
    simp only [hs, ht, bind, Except.bind, pure, Except.pure]

theorem step_none_iff {st : St σ} :
    step ρ st = .ok none ↔ ∃ st1, pickNext (pickMeasure st + 1) st = some (.ok (none, st1)) := by
  constructor
  · intro h
    cases hp : pickNext (pickMeasure st + 1) st with
    | none => simp [step, hp, bind, Except.bind] at h
    | some res =>
      cases res with
      | error f => simp [step, hp, bind, Except.bind] at h
      | ok pr =>
        obtain ⟨next, st1⟩ := pr
        cases next with
        | none => exact ⟨st1, rfl⟩
        | some next =>
          by_cases hge : st1.now ≤ next.time
          · rw [step_of_pick ρ hp hge, bind_ok_iff] at h
            obtain ⟨⟨na, sq, net⟩, _, h⟩ := h
            rw [bind_ok_iff] at h
            obtain ⟨⟨acts, st2⟩, _, h⟩ := h
            cases h
          · simp [step, hp, bind, Except.bind, Int.not_le.1 hge] at h
  · rintro ⟨st1, hp⟩
    simp [step, hp, bind, Except.bind, pure, Except.pure]

theorem step_error_iff {st : St σ} {f : SimFault} :
    step ρ st = .error f ↔
    (pickNext (pickMeasure st + 1) st = none ∧ f = .fuel) ∨ pickNext (pickMeasure st + 1) st = some (.error f) ∨
    ∃ next st1, pickNext (pickMeasure st + 1) st = some (.ok (some next, st1)) ∧
      ((next.time < st1.now ∧ f = .timeBackwards) ∨
       (st1.now ≤ next.time ∧
        (simNetworkStack next st1.sq (st1.side next.client).blockingBypassable st1.net next.time = .error f ∨
         ∃ na sq net, simNetworkStack next st1.sq (st1.side next.client).blockingBypassable st1.net next.time
             = .ok (na, sq, net) ∧
           triggerUpdate ρ { st1 with now := next.time, sq := sq, net := net } next = .error f))) := by
  constructor
  · intro h
    cases hp : pickNext (pickMeasure st + 1) st with
    | none => exact Or.inl ⟨rfl, by simpa [step, hp, bind, Except.bind, eq_comm] using h⟩
    | some res =>
      obtain _ | ⟨_ | next, st1⟩ := res
      · exact Or.inr (Or.inl (by simpa [step, hp, bind, Except.bind, eq_comm] using h))
      · simp [step, hp, bind, Except.bind, pure, Except.pure] at h
      · refine Or.inr (Or.inr ⟨next, st1, rfl, ?_⟩)
        by_cases hge : st1.now ≤ next.time
        · rw [step_of_pick ρ hp hge, bind_error_iff] at h
          refine Or.inr ⟨hge, h.imp_right ?_⟩
          rintro ⟨⟨na, sq, net⟩, hs, h⟩
          rw [bind_error_iff] at h
          obtain h | ⟨_, -, h⟩ := h
          · exact ⟨na, sq, net, hs, h⟩
          · cases h
        · exact Or.inl ⟨Int.not_le.1 hge, by simpa [step, hp, bind, Except.bind, Int.not_le.1 hge, eq_comm] using h⟩
  · rintro (⟨hp, rfl⟩ | hp | ⟨next, st1, hp, ⟨hlt, rfl⟩ | ⟨hge, h⟩⟩)
    · simp [step, hp, bind, Except.bind]
    · simp [step, hp, bind, Except.bind]
    · simp [step, hp, bind, Except.bind, hlt]
    · rw [step_of_pick ρ hp hge]
      obtain h | ⟨na, sq, net, hs, ht⟩ := h
      · simp [h, bind, Except.bind]
      · simp [hs, ht, bind, Except.bind]

end

section
variable {σ : Type} {sd sd' : Side σ} {sq sq' : SimQueue} {now : Int} {cl : Bool}

theorem applyAction_cancel_iff {m : Nat} {t : Timer} :
    applyAction sd sq now cl (.cancel m t) = .ok (sd', sq') ↔
    (t = .internal ∨ m < sd.schedAction.length) ∧ (t = .action ∨ m < sd.schedTimer.length) ∧
    sd' = { sd with schedAction := if t = .internal then sd.schedAction else sd.schedAction.set m none,
                    schedTimer := if t = .action then sd.schedTimer else sd.schedTimer.set m none } ∧ sq' = sq := by
  rw [@eq_comm _ (applyAction _ _ _ _ _)]
  by_cases h1 : m < sd.schedAction.length <;> by_cases h2 : m < sd.schedTimer.length <;>
    cases t <;> simp [applyAction, h1, h2, Nat.not_le.2, Nat.not_lt.1]

theorem applyAction_sendPadding_iff {to : Nat} {b r : Bool} {m : Nat} :
    applyAction sd sq now cl (.sendPadding to b r m) = .ok (sd', sq') ↔
    m < sd.schedAction.length ∧
    sd' = { sd with schedAction := sd.schedAction.set m (some ⟨.sendPadding to b r m, now + to * 1000⟩) } ∧ sq' = sq := by
  rw [@eq_comm _ (applyAction _ _ _ _ _)]
  by_cases h1 : m < sd.schedAction.length <;> simp [applyAction, h1, Nat.not_le.2, Nat.not_lt.1]

theorem applyAction_blockOutgoing_iff {to d : Nat} {b r : Bool} {m : Nat} :
    applyAction sd sq now cl (.blockOutgoing to d b r m) = .ok (sd', sq') ↔
    m < sd.schedAction.length ∧
    sd' = { sd with schedAction := sd.schedAction.set m (some ⟨.blockOutgoing to d b r m, now + to * 1000⟩) } ∧ sq' = sq := by
  rw [@eq_comm _ (applyAction _ _ _ _ _)]
  by_cases h1 : m < sd.schedAction.length <;> simp [applyAction, h1, Nat.not_le.2, Nat.not_lt.1]

theorem applyAction_updateTimer_iff {d : Nat} {r : Bool} {m : Nat} :
    applyAction sd sq now cl (.updateTimer d r m) = .ok (sd', sq') ↔
    ∃ cur, sd.schedTimer[m]? = some cur ∧
      if (timerUpdate cur now (d * 1000) r).2 then
        sd' = { sd with schedTimer := sd.schedTimer.set m (timerUpdate cur now (d * 1000) r).1 } ∧
        sq' = sq.pushSim ⟨.timerBegin m, now, cl, false, false, false⟩
      else sd' = sd ∧ sq' = sq := by
  rw [@eq_comm _ (applyAction _ _ _ _ _)]
  simp only [applyAction]
  cases sd.schedTimer[m]? with
  | none => simp
  | some cur =>
    simp only [Option.some.injEq, exists_eq_left']
    split <;> simp

theorem applyAction_error {a : TAction} {f : SimFault} (h : applyAction sd sq now cl a = .error f) : f = .slotOob := by
  cases a <;> simp only [applyAction] at h
  · split at h
    · cases h; rfl
    · split at h
      · cases h; rfl
      · split at h <;> cases h
  · split at h <;> cases h; rfl
  · split at h <;> cases h; rfl
  · split at h
    · cases h; rfl
    · split at h <;> cases h

/-- what every `applyAction` keeps, `applyActions` keeps -/
theorem applyActions_inv {R : Side σ → SimQueue → Prop}
    (step : ∀ a sd sq sd' sq', R sd sq → applyAction sd sq now cl a = .ok (sd', sq') → R sd' sq') :
    ∀ (acts : List TAction) {sd sd' : Side σ} {sq sq' : SimQueue}, R sd sq →
      applyActions sd sq now cl acts = .ok (sd', sq') → R sd' sq'
  | [], _, _, _, _, h, he => by cases he; exact h
  | a :: r, _, _, _, _, h, he => by
    simp only [applyActions] at he
    rw [bind_ok_iff] at he
    obtain ⟨⟨sd1, sq1⟩, h1, h2⟩ := he
    exact applyActions_inv step r (step a _ _ _ _ h h1) h2

end
end Mb.Sim
