/-
  Single-event calls: whatever sits in a slot after the call was scheduled under the limit
  predicates evaluated with the accounting state *after* that event was accounted for.
  Generic in the consequence `Q` drawn from the gate (`QPad` for the padding budgets of C02,
  `QBlock` for the blocking budgets of C03).
-/
import MbVerif.Proofs.Walk
import MbVerif.Proofs.EventForm
import MbVerif.Proofs.C04

namespace Mb
variable {σ : Type} (ρ : Oracle σ)

/-- a consequence of the limit predicates: whenever `belowActionLimits g r₁ m = some true` for a
    runtime in state `next` whose action is `act`, `Q` holds of the scheduled action -/
def GateConseq (Q : Globals → RtAcct → Machine → TAction → Prop) : Prop :=
  ∀ (g : Globals) (m : Machine) (r₁ : Runtime) (st : State) (act : Action) (mi tmo dur : Nat),
    m.states[r₁.currentState]? = some st → st.action = some act → belowActionLimits g r₁ m = some true →
    Q g r₁.acct m (mkAction act mi tmo dur)

/-- every filled slot satisfies `Q` w.r.t. the current accounting state -/
def SlotInv (Q : Globals → RtAcct → Machine → TAction → Prop) (s : Fw σ) : Prop :=
  ∀ (mi : Nat) (a : TAction), s.actions[mi]? = some (some a) →
    ∃ (m : Machine) (r : Runtime), s.machines[mi]? = some m ∧ s.rt[mi]? = some r ∧ Q s.g r.acct m a

def NoneFrom (k : Nat) (s : Fw σ) : Prop := ∀ (j : Nat) (a : TAction), k ≤ j → s.actions[j]? ≠ some (some a)

variable {Q : Globals → RtAcct → Machine → TAction → Prop}

/-- what makes slot `i` good carries over when machines, globals and the accounting of runtime `i` stay -/
theorem slot_keep {s t : Fw σ} {i : Nat} {a : TAction}
    (h : ∃ m r, s.machines[i]? = some m ∧ s.rt[i]? = some r ∧ Q s.g r.acct m a)
    (hm : t.machines = s.machines) (hg : t.g = s.g) (hr : (t.rt[i]?).map (·.acct) = (s.rt[i]?).map (·.acct)) :
    ∃ m r, t.machines[i]? = some m ∧ t.rt[i]? = some r ∧ Q t.g r.acct m a := by
  obtain ⟨m, r, hm', hr', hq⟩ := h
  rw [hr'] at hr
  cases ht : t.rt[i]? with
  | none => rw [ht] at hr; cases hr
  | some r' =>
    have hra : r'.acct = r.acct := by rw [ht] at hr; exact Option.some.inj hr
    exact ⟨m, r', by rw [hm]; exact hm', rfl, by rw [hg, hra]; exact hq⟩

theorem SlotInv.step (hQ : GateConseq Q) {mi : Nat} {s t : Fw σ} (hI : SlotInv Q s) (h : Step mi s t) :
    SlotInv Q t := by
  have hf := h.frame
  intro i a hia
  refine slot_keep ?_ hf.machines hf.g ?_
  · rcases h.slot hia with hs | ⟨rfl, m, r, next, act, tmo, dur, hm, hr, hg, _, rfl⟩
    · exact hI i a hs
    · obtain ⟨r₁, st, hacct, hcur, hst, hact, hb⟩ := hg
      exact ⟨m, r, hm, hr, hacct ▸ hQ s.g m r₁ st act i tmo dur (by rw [hcur]; exact hst) hact hb⟩
  · by_cases hi : i = mi
    · rw [hi]; exact hf.acct
    · rw [hf.rtOther i hi]

theorem SlotInv.reach (hQ : GateConseq Q) {mi : Nat} {s t : Fw σ} (h : Reach mi s t) (hI : SlotInv Q s) :
    SlotInv Q t := Reach.inv (SlotInv Q) (fun _ _ hI st => hI.step hQ st) h hI

theorem NoneFrom.reach {k mi : Nat} {s t : Fw σ} (hmi : mi < k) (h : Reach mi s t) (hN : NoneFrom k s) :
    NoneFrom k t := by
  unfold NoneFrom
  intro j a hj
  rw [h.frame.actOther j (by omega)]
  exact hN j a hj

theorem walkSlot (hQ : GateConseq Q) : WalkCore ρ (fun (s t : Fw σ) => SlotInv Q s → SlotInv Q t) where
  refl _ h := h
  trans h₁ h₂ h := h₂ (h₁ h)
  transition j ev s _ h := SlotInv.reach hQ (transition_reach ρ FUEL j ev s) h
  decrement j s _ h := SlotInv.reach hQ (decrementLimit_reach ρ j s) h
  fault s f h := SlotInv.step hQ h (Step.fault (mi := 0) s f)
  signal s p h := SlotInv.step hQ h (Step.signal (mi := 0) s p)

theorem SlotInv.ofNone {s : Fw σ} (h : NoneFrom 0 s) : SlotInv Q s := by
  intro mi a hia
  exact absurd hia (h mi a (Nat.zero_le _))

theorem SlotInv.modRt_none {s : Fw σ} (k : Nat) (f : Runtime → Runtime)
    (hnone : ∀ a, s.actions[k]? ≠ some (some a)) (hI : SlotInv Q s) : SlotInv Q (s.modRt k f) := by
  intro i a hia
  have hia' : s.actions[i]? = some (some a) := by simpa using hia
  have hi : i ≠ k := fun h => hnone a (h ▸ hia')
  exact slot_keep (hI i a hia') (by simp) (by simp) (by rw [Fw.modRt_rt_other s k i f hi])

theorem SlotInv.withFault {s : Fw σ} (f : Fault) (hI : SlotInv Q s) : SlotInv Q (s.withFault f) :=
  fun i a hia => slot_keep (hI i a (by simpa using hia)) (by simp) (by simp) (by simp)

theorem foldl_range_inv (P : Nat → Fw σ → Prop) (F : Fw σ → Nat → Fw σ)
    (hstep : ∀ k s, P k s → P (k + 1) (F s k)) (n : Nat) (s : Fw σ) (h0 : P 0 s) :
    P n ((List.range n).foldl F s) := by
  induction n with
  | zero => simpa using h0
  | succ n ih =>
    rw [List.range_succ, List.foldl_append]
    exact hstep n _ ih

/-- the loop invariant of the per-machine loops with interleaved accounting -/
def LoopInv (Q : Globals → RtAcct → Machine → TAction → Prop) (k : Nat) (s : Fw σ) : Prop :=
  SlotInv Q s ∧ NoneFrom k s

theorem LoopInv.transition (hQ : GateConseq Q) {k : Nat} {s : Fw σ} (ev : Event)
    (h : SlotInv Q s ∧ NoneFrom (k + 1) s) : LoopInv Q (k + 1) (transition ρ FUEL k ev s).1 :=
  ⟨SlotInv.reach hQ (transition_reach ρ FUEL k ev s) h.1,
   NoneFrom.reach (Nat.lt_succ_self k) (transition_reach ρ FUEL k ev s) h.2⟩

/-- what follows the accounting in `evStep` is a transition and perhaps a limit decrement -/
theorem WalkCore.evStep {ρ : Oracle σ} {R : Fw σ → Fw σ → Prop} (W : WalkCore ρ R) (e : TEvent) (b : Nat)
    (s : Fw σ) (j : Nat) : R (evAcct e b j s) (evStep ρ e b s j) :=
  W.transDec j e.kind (by cases e <;> exact fun h => nomatch h) _ (evDec e j) (evDec_notEnded e j)

theorem evAcct_slotInv (e : TEvent) (b : Nat) {j : Nat} {s : Fw σ}
    (hnone : ∀ a, s.actions[j]? ≠ some (some a)) (hI : SlotInv Q s) : SlotInv Q (evAcct e b j s) := by
  cases e with
  | normalSent | paddingSent _ => exact hI.modRt_none j _ hnone
  | blockingEnd =>
    rw [evAcct]
    by_cases hb : b ≠ 0
    · rw [if_pos hb]
      cases s.rt[j]? with
      | none => exact hI.withFault _
      | some r =>
        by_cases hd : r.acct.blockingDur + b > durMax
        · simp only [if_pos hd]
          exact (hI.withFault _).modRt_none j _ (by simpa using hnone)
        · simp only [if_neg hd]
          exact hI.modRt_none j _ hnone
    · rw [if_neg hb]; exact hI
  | _ => exact hI

theorem foldl_evStep_slotInv (hQ : GateConseq Q) (e : TEvent) (b : Nat) :
    ∀ (js : List Nat) (s : Fw σ), js.Nodup → (∀ j ∈ js, ∀ a, s.actions[j]? ≠ some (some a)) → SlotInv Q s →
      SlotInv Q (js.foldl (evStep ρ e b) s)
  | [], _, _, _, hI => hI
  | j :: js, s, hnd, hnone, hI => by
    obtain ⟨hj, hnd⟩ := List.nodup_cons.mp hnd
    refine foldl_evStep_slotInv hQ e b js _ hnd (fun k hk a => ?_)
      ((walkSlot ρ hQ).evStep e b s j (evAcct_slotInv e b (hnone j List.mem_cons_self) hI))
    have hkj : k ≠ j := fun h => hj (h ▸ hk)
    have hother : ∀ t : Fw σ, (evAcct e b j s).actions[k]? = t.actions[k]? → t.actions[k]? ≠ some (some a) := fun t ht => by
      rw [← ht, (evAcct_frame e b j s).2.2.2.1]; exact hnone k (List.mem_cons_of_mem _ hk) a
    -- `evStep` for `j` leaves slot `k` alone
    have ht := (transition_reach ρ FUEL j e.kind (evAcct e b j s)).frame.actOther k hkj
    simp only [evStep]
    split
    · exact hother _ (((decrementLimit_reach ρ j _).frame.actOther k hkj).trans ht).symm
    · exact hother _ ht.symm

/-- Single event, all slots empty beforehand: after the event every filled slot was gated with
    the accounting state as it is after the event. -/
theorem processEvent_slotInv (hQ : GateConseq Q) (e : TEvent) (s : Fw σ) (h0 : NoneFrom 0 s) :
    SlotInv Q (processEvent ρ e s) := by
  have ha : (evGlobal e s).actions = s.actions := by
    cases e with
    | blockingBegin _ => rw [evGlobal]; split <;> rfl
    | blockingEnd =>
      rw [evGlobal]
      split
      · split <;> simp
      · rfl
    | _ => rfl
  have hN : NoneFrom 0 (evGlobal e s) := fun j a hj => by rw [ha]; exact h0 j a hj
  rw [processEvent_eq]
  exact foldl_evStep_slotInv ρ hQ e _ _ _ (targets_nodup e _) (fun j _ a => hN j a (Nat.zero_le j)) (SlotInv.ofNone hN)

theorem callStart_noneFrom (s : Fw σ) (t : Int) : NoneFrom 0 (s.callStart t) :=
  fun j a _ => getElem?_map_none s.actions j a

/-- After a single-event call, every action in a slot was scheduled under the limit predicates
    evaluated on the accounting state that includes the event. -/
theorem triggerEvents_single_slotInv (hQ : GateConseq Q) (e : TEvent) (t : Int) (s : Fw σ) :
    SlotInv Q (triggerEvents ρ [e] t s) := by
  unfold triggerEvents
  simp only [List.foldl_cons, List.foldl_nil]
  exact (walkSlot ρ hQ).signalRound _ (processEvent_slotInv ρ hQ e _ (callStart_noneFrom s t))

end Mb
