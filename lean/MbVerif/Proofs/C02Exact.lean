/-
  C02: the fraction comparison the code performs in doubles agrees with the exact rational
  comparison of the specification, for packet counts below 2^53.
-/
import MbVerif.Proofs.C02
import MbVerif.Proofs.Fp

namespace Mb
open Fp

theorem countP_disjoint_le {α : Type} (p q : α → Bool) (h : ∀ x, ¬(p x = true ∧ q x = true)) (l : List α) :
    l.countP p + l.countP q ≤ l.length := by
  rw [List.length_eq_countP_add_countP p (l := l)]
  refine Nat.add_le_add_left (List.countP_mono_left fun x _ hq => ?_) _
  exact decide_eq_true fun hp => h x ⟨hp, hq⟩

theorem counts_le (mi : Nat) (evs : List TEvent) :
    C02.countPad mi evs + C02.countNormal evs ≤ evs.length ∧
    C02.countPadAll evs + C02.countNormal evs ≤ evs.length := by
  unfold C02.countPad C02.countNormal C02.countPadAll
  constructor
  · exact countP_disjoint_le _ _ (fun x => by cases x <;> simp) evs
  · exact countP_disjoint_le _ _ (fun x => by cases x <;> simp) evs

/-- the double comparison is at least as strict as the exact one -/
theorem below_exact (p tot : Nat) (f : F64) (ht : tot < 2 ^ 53) (hp : p ≤ tot)
    (h : belowF p tot f = true) : C02.below p tot f = true := by
  unfold C02.below
  cases hv : val64 f with
  | nan => rfl
  | inf b => cases b <;> rfl
  | fin q =>
    simp only []
    by_cases hq : q > 0
    · rw [if_pos hq]
      by_cases ht0 : tot = 0
      · simp [ht0]
      · have htpos : 0 < tot := Nat.pos_of_ne_zero ht0
        have hbeq : (tot == 0) = false := by simpa using ht0
        simp only [hbeq, Bool.false_or, decide_eq_true_eq]
        by_contra hcon
        have hle : q ≤ (p : ℚ) / (tot : ℚ) := not_lt.mp hcon
        -- then the code's comparison would have denied
        unfold belowF at h
        rw [hv] at h
        have hgt : gt (.fin q) (.fin 0) = true := by simp [gt, lt, hq]
        have hdiv : div f64 (ofNat f64 p) (ofNat f64 tot) = f64.round ((p : ℚ) / (tot : ℚ)) := by
          rw [ofNat_exact p (lt_of_le_of_lt hp ht), ofNat_exact tot ht]
          have : (tot : ℚ) ≠ 0 := by exact_mod_cast ht0
          simp [div, this]
        have hge : ge (div f64 (ofNat f64 p) (ofNat f64 tot)) (.fin q) = true := by
          rw [hdiv]
          unfold ge
          have := Fmt.round_mono f64 (by decide) hle
          rw [val64_round_self f hv] at this
          exact this
        simp [hgt, htpos, hge] at h
    · rw [if_neg hq]

end Mb
