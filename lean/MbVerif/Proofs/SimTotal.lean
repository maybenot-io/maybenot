/-
  No internal consistency assertion of the simulator can fire: every fault of a model run is
  one of the "environmental" ones (checked duration arithmetic, unwraps, a framework panic, an
  out-of-range machine id, an empty queue, invalid machines), never a `BUG:` assertion, never
  "time moves backwards", never fuel exhaustion or divergence.  The division by zero of
  `NetworkBottleneck::new` (`pps as u32 == 0`) is counted with the assertions by `isBug`; it is the
  one exception `initState_total` names.
-/
import MbVerif.Proofs.SimBugFree
import MbVerif.Proofs.SimCap

namespace Mb.Sim
open Mb

/-- the faults that correspond to the simulator's own consistency assertions (and the model's
    termination markers), plus the division by zero of `NetworkBottleneck::new` (only possible
    for a packets-per-second limit of 0, which is outside the property: limits are >= 1) -/
def SimFault.isBug : SimFault → Bool
  | .timeBackwards | .noInternal | .noAction | .cancelScheduled | .timerScheduled | .fuel | .diverge | .divZero => true
  | _ => false

/-- the packets-per-second limit `NetworkBottleneck::new` uses -/
def effPps (net : Network) (queuePps : Option Nat) : Nat := net.pps.getD (queuePps.getD usizeMax)

/-- slots of the action timers only ever hold SendPadding / BlockOutgoing -/
def actionOK : TAction → Bool
  | .sendPadding _ _ _ _ => true
  | .blockOutgoing _ _ _ _ _ => true
  | _ => false

def slotsOK (l : List (Option SchedAction)) : Prop := ∀ a, some a ∈ l → actionOK a.action = true

theorem slotsOK_set_none {l : List (Option SchedAction)} (h : slotsOK l) (i : Nat) : slotsOK (l.set i none) := by
  intro a ha
  rcases List.mem_or_eq_of_mem_set ha with h1 | h1
  · exact h a h1
  · cases h1

theorem slotsOK_set_some {l : List (Option SchedAction)} (h : slotsOK l) (i : Nat) (x : SchedAction)
    (hx : actionOK x.action = true) : slotsOK (l.set i (some x)) := by
  intro a ha
  rcases List.mem_or_eq_of_mem_set ha with h1 | h1
  · exact h a h1
  · simp only [Option.some.injEq] at h1; subst h1; exact hx

theorem slotsOK_replicate (n : Nat) : slotsOK (List.replicate n none) := by
  intro a ha
  have := List.eq_of_mem_replicate ha
  cases this

section
variable {σ : Type}

def St.slotsOK (st : St σ) : Prop := Mb.Sim.slotsOK st.client.schedAction ∧ Mb.Sim.slotsOK st.server.schedAction

theorem setSide_slotsOK {st : St σ} (c : Bool) (x : Side σ) (h : st.slotsOK)
    (hx : Mb.Sim.slotsOK x.schedAction) : (st.setSide c x).slotsOK := by
  cases c
  · exact ⟨h.1, hx⟩
  · exact ⟨hx, h.2⟩

theorem side_slotsOK {st : St σ} (h : st.slotsOK) (c : Bool) : Mb.Sim.slotsOK (st.side c).schedAction := by
  cases c
  · exact h.2
  · exact h.1

theorem simQueue_peek_err {s : SimQueue} {c sv : Nat} {now : Int} {f : SimFault}
    (h : s.peek c sv now = .error f) : f.isBug = false := by
  by_cases h0 : s.len = 0
  · simp [SimQueue.peek, h0] at h
  · obtain ⟨_, _, _, h'⟩ := SimQueue.peek_some s c sv now h0
    rw [h'] at h
    cases h

theorem peekQueue_err {st : St σ} {e : Nat} {f : SimFault} (h : peekQueue st e = .error f) : f.isBug = false := by
  rcases (peekQueue_error_iff.1 h).2 with h | ⟨_, _, _, rfl⟩
  · exact simQueue_peek_err h
  · rfl

theorem pickDecide_err {st : St σ} {f : SimFault} (h : pickDecide st = .error f) : f.isBug = false :=
  peekQueue_err (pickDecide_error_iff.1 h)

theorem pushAggregateDelay_err {b : Bottleneck} {bd : Nat} {now : Int} {c : Bool} {f : SimFault}
    (h : b.pushAggregateDelay bd now c = .error f) : f.isBug = false := by
  unfold Bottleneck.pushAggregateDelay at h
  rw [bind_error_iff] at h
  rcases h with h | ⟨v, _, h⟩
  · rw [durChk_err h]; rfl
  · rw [bind_error_iff] at h
    rcases h with h | ⟨v2, _, h⟩
    · rw [durChk_err h]; rfl
    · cases h

theorem popAggregateDelay_err {b : Bottleneck} {f : SimFault} (h : b.popAggregateDelay = .error f) :
    f.isBug = false := by
  rw [popAggregateDelay_fault h]; rfl

theorem pickAgg_err {st : St σ} {f : SimFault} (hd : pickDecide st = .ok .agg) (h : pickAgg st = .error f) :
    f.isBug = false := by
  rcases pickAgg_error_iff.1 h with ⟨_, rfl⟩ | ⟨_, hp⟩
  · exact absurd h (pickAgg_no_diverge hd)
  · exact popAggregateDelay_err hp

theorem pickBlockExp_err {st : St σ} {b : Nat} {c : Bool} {f : SimFault} (h : pickBlockExp st b c = .error f) :
    f.isBug = false := by
  have h := pickBlockExp_error_iff.1 h
  unfold blockExpNet at h
  split at h
  · split at h
    · split at h
      · exact pushAggregateDelay_err h
      · cases h
    · cases h
  · cases h

theorem eventQueue_pop_err {q : EventQueue} {qi : Queue} {ds : Nat} {f : SimFault} (h : q.pop qi ds = .error f) :
    f.isBug = false := by
  unfold EventQueue.pop at h
  cases qi with
  | blocking => cases h
  | bypassable => cases h
  | internal => cases h
  | base =>
    simp only [] at h
    split at h
    · split at h
      · cases h
      · cases h; rfl
    · cases h

theorem simQueue_pop_err {s : SimQueue} {qi : Queue} {cl : Bool} {ds : Nat} {f : SimFault}
    (h : s.pop qi cl ds = .error f) : f.isBug = false := by
  unfold SimQueue.pop at h
  rw [bind_error_iff] at h
  rcases h with h | ⟨v, _, h⟩
  · exact eventQueue_pop_err h
  · cases h

theorem pickQueue_err {st : St σ} {q : Nat} {qid : Queue} {c : Bool} {f : SimFault}
    (h : pickQueue st q qid c = .error f) : f.isBug = false := by
  rcases pickQueue_error_iff.1 h with h | ⟨_, rfl⟩
  · exact simQueue_pop_err h
  · rfl

theorem pickTimer_err {st : St σ} {i : Nat} {f : SimFault} (hd : pickDecide st = .ok (.timer i))
    (h : pickTimer st i = .error f) : f.isBug = false := by
  have h := pickTimer_error_iff.1 h
  have : f = .noInternal := by
    unfold doInternalTimer at h
    split at h
    · cases h
    · split at h
      · cases h
      · cases h; rfl
  subst this
  exact absurd h (doInternalTimer_found hd)

theorem pickAction_err {st : St σ} {s : Nat} {f : SimFault} (hok : st.slotsOK) (hd : pickDecide st = .ok (.action s))
    (h : pickAction st s = .error f) : f.isBug = false := by
  have hf := doScheduledAction_found hd
  have h := pickAction_error_iff.1 h
  unfold doScheduledAction at h hf
  cases hfa : findAction st (st.now + (s : Int)) with
  | none => simp only [hfa] at hf; exact absurd rfl hf
  | some p =>
    obtain ⟨isClient, idx, a⟩ := p
    simp only [hfa] at h
    -- the slot holds an action that can be executed
    have hmem : some a ∈ (st.side isClient).schedAction := List.mem_of_getElem? (findAction_spec hfa).1
    have hact := side_slotsOK hok isClient a hmem
    cases haa : a.action with
    | cancel m t => rw [haa] at hact; cases hact
    | updateTimer d r m => rw [haa] at hact; cases hact
    | sendPadding to b r m => simp only [haa] at h; cases h
    | blockOutgoing to d b r m => simp only [haa] at h; cases h

theorem pickAgg_slotsOK {st st' : St σ} (hok : st.slotsOK) (h : pickAgg st = .ok st') : st'.slotsOK := by
  obtain ⟨_, net, _, rfl⟩ := pickAgg_ok_iff.1 h
  exact hok

theorem pickBlockExp_slotsOK {st st' : St σ} {b : Nat} {c : Bool} {e : SimEvent} (hok : st.slotsOK)
    (h : pickBlockExp st b c = .ok (e, st')) : st'.slotsOK := by
  obtain ⟨net, _, _, rfl⟩ := pickBlockExp_ok_iff.1 h
  exact setSide_slotsOK c { (st.side c) with blockingUntil := none } hok (side_slotsOK hok c)

theorem pickQueue_slotsOK {st st' : St σ} {q : Nat} {qid : Queue} {c : Bool} {e : SimEvent} (hok : st.slotsOK)
    (h : pickQueue st q qid c = .ok (e, st')) : st'.slotsOK := by
  obtain ⟨tmp, sq, _, _, rfl⟩ := pickQueue_ok_iff.1 h
  exact hok

theorem pickTimer_slotsOK {st st' : St σ} {i : Nat} (hok : st.slotsOK) (h : pickTimer st i = .ok st') :
    st'.slotsOK := by
  obtain ⟨ev, st1, h1, rfl⟩ := pickTimer_ok_iff.1 h
  obtain ⟨c, j, t', _, _, rfl⟩ := doInternalTimer_ok h1
  exact setSide_slotsOK c _ hok (side_slotsOK hok c)

theorem pickAction_slotsOK {st st' : St σ} {s : Nat} (hok : st.slotsOK) (h : pickAction st s = .ok st') :
    st'.slotsOK := by
  obtain ⟨ev, st1, h1, rfl⟩ := pickAction_ok_iff.1 h
  obtain ⟨c, i, a, sd, _, rfl, hsa, _⟩ := doScheduledAction_ok h1
  exact setSide_slotsOK c sd hok (by rw [hsa]; exact slotsOK_set_none (side_slotsOK hok c) i)

theorem pickNext_total : ∀ (fuel : Nat) (st : St σ), st.slotsOK →
    (∀ f, pickNext fuel st = some (.error f) → f.isBug = false) ∧
    (∀ e st', pickNext fuel st = some (.ok (e, st')) → st'.slotsOK) := by
  have key := pickNext_induct (σ := σ) (motive := fun st r => st.slotsOK →
      match r with
      | .error f => f.isBug = false
      | .ok (_, st') => st'.slotsOK)
    (fun _ _ hd _ => pickDecide_err hd) (fun _ _ hok => hok)
    (fun _ _ hd ha _ => pickAgg_err hd ha) (fun _ _ _ _ ha ih hok => ih (pickAgg_slotsOK hok ha))
    (fun _ _ _ _ _ hb _ => pickBlockExp_err hb) (fun _ _ _ _ _ _ hb hok => pickBlockExp_slotsOK hok hb)
    (fun _ _ _ _ _ _ hq _ => pickQueue_err hq) (fun _ _ _ _ _ _ _ hq hok => pickQueue_slotsOK hok hq)
    (fun _ _ _ hd ht _ => pickTimer_err hd ht) (fun _ _ _ _ _ ht ih hok => ih (pickTimer_slotsOK hok ht))
    (fun _ _ _ hd ha hok => pickAction_err hok hd ha) (fun _ _ _ _ _ ha ih hok => ih (pickAction_slotsOK hok ha))
  intro fuel st hok
  exact ⟨fun f h => key fuel st _ h hok, fun e st' h => key fuel st _ h hok⟩

end
theorem ppsDelay_err {b : Bottleneck} {count : Nat} {f : SimFault} (h : b.ppsDelay count = .error f) :
    f.isBug = false := by
  unfold Bottleneck.ppsDelay at h
  by_cases hc : count > b.ppsLimit
  · simp only [hc, if_true] at h
    rw [durChk_err h]; rfl
  · simp only [hc, if_false] at h
    cases h

theorem sampleResult_err {b : Bottleneck} {d : Nat} {f : SimFault} (h : b.sampleResult d = .error f) :
    f.isBug = false := by
  unfold Bottleneck.sampleResult at h
  by_cases hc : d > 0
  · simp only [hc, if_true] at h
    rw [bind_error_iff] at h
    rcases h with h | ⟨t, _, h⟩
    · rw [durChk_err h]; rfl
    · cases h
  · simp only [hc, if_false] at h
    cases h

theorem sample_err {b : Bottleneck} {now : Int} {c : Bool} {f : SimFault} (h : b.sample now c = .error f) :
    f.isBug = false := by
  unfold Bottleneck.sample at h
  simp only [] at h
  rw [bind_error_iff] at h
  rcases h with h | ⟨d, _, h⟩
  · exact ppsDelay_err h
  · exact sampleResult_err h

theorem simNetworkStack_err {next : SimEvent} {sq : SimQueue} {byp : Bool} {net : Bottleneck} {now : Int}
    {f : SimFault} (h : simNetworkStack next sq byp net now = .error f) : f.isBug = false := by
  unfold simNetworkStack at h
  split at h
  · cases h
  · -- PaddingSent
    cases hn : netPaddingSent next sq byp net now with
    | ok v => simp [hn, Except.map] at h
    | error f0 =>
      simp only [hn, Except.map] at h
      cases h
      unfold netPaddingSent at hn
      simp only [] at hn
      split at hn
      · split at hn
        · split at hn
          · split at hn
            · cases hn
            · unfold replaceBypass at hn
              rw [bind_error_iff] at hn
              rcases hn with hn | ⟨r, _, hn⟩
              · unfold SimQueue.popBlocking at hn
                split at hn <;> exact simQueue_pop_err hn
              · cases r with
                | none => simp only [] at hn; cases hn; rfl
                | some p =>
                  obtain ⟨entry, sq1⟩ := p
                  simp only [] at hn
                  rw [bind_error_iff] at hn
                  rcases hn with hn | ⟨n2, _, hn⟩
                  · unfold replaceAgg at hn
                    split at hn
                    · exact pushAggregateDelay_err hn
                    · cases hn
                  · cases hn
          · cases hn
        · cases hn
      · cases hn
  · -- TunnelSent
    cases hn : netTunnelSent next sq net now with
    | ok v => simp [hn, Except.map] at h
    | error f0 =>
      simp only [hn, Except.map] at h
      cases h
      unfold netTunnelSent at hn
      rw [bind_error_iff] at hn
      rcases hn with hn | ⟨r, _, hn⟩
      · exact sample_err hn
      · rw [bind_error_iff] at hn
        rcases hn with hn | ⟨n2, _, hn⟩
        · unfold ppsAgg at hn
          split at hn
          · split at hn
            · exact pushAggregateDelay_err hn
            · cases hn
          · cases hn
        · cases hn
  · split at h <;> cases h
  · cases h

section
variable {σ : Type} (ρ : Oracle σ)

theorem applyAction_slotsOK {sd sd' : Side σ} {sq sq' : SimQueue} {now : Int} {cl : Bool} {a : TAction}
    (hok : slotsOK sd.schedAction) (h : applyAction sd sq now cl a = .ok (sd', sq')) : slotsOK sd'.schedAction := by
  cases a with
  | cancel m t =>
    obtain ⟨_, _, rfl, _⟩ := applyAction_cancel_iff.1 h
    cases t
    · exact slotsOK_set_none hok m
    · exact hok
    · exact slotsOK_set_none hok m
  | sendPadding to b r m =>
    obtain ⟨_, rfl, _⟩ := applyAction_sendPadding_iff.1 h
    exact slotsOK_set_some hok m _ rfl
  | blockOutgoing to d b r m =>
    obtain ⟨_, rfl, _⟩ := applyAction_blockOutgoing_iff.1 h
    exact slotsOK_set_some hok m _ rfl
  | updateTimer d r m =>
    obtain ⟨cur, _, h2⟩ := applyAction_updateTimer_iff.1 h
    split at h2 <;> rw [h2.1] <;> exact hok

theorem applyActions_error : ∀ (acts : List TAction) {sd : Side σ} {sq : SimQueue} {now : Int} {cl : Bool}
    {f : SimFault}, applyActions sd sq now cl acts = .error f → f = .slotOob
  | [], _, _, _, _, _, h => by cases h
  | a :: r, _, _, _, _, _, h => by
    simp only [applyActions] at h
    rw [bind_error_iff] at h
    rcases h with h | ⟨_, _, h⟩
    · exact applyAction_error h
    · exact applyActions_error r h

theorem triggerUpdate_total {st : St σ} {next : SimEvent} (hok : st.slotsOK) :
    (∀ f, triggerUpdate ρ st next = .error f → f.isBug = false) ∧
    (∀ acts st', triggerUpdate ρ st next = .ok (acts, st') → st'.slotsOK) := by
  constructor
  · intro f h
    rcases (triggerUpdate_error_iff ρ).1 h with ⟨x, _, rfl⟩ | ⟨_, h⟩
    · rfl
    · rw [applyActions_error _ h]; rfl
  · intro acts st' h
    obtain ⟨_, rfl, sd, sq, h1, rfl⟩ := (triggerUpdate_ok_iff ρ).1 h
    have hside : slotsOK ({ st.side next.client with fw := trigFw ρ st next } : Side σ).schedAction :=
      side_slotsOK hok next.client
    exact setSide_slotsOK next.client sd hok
      (applyActions_inv (R := fun sd _ => slotsOK sd.schedAction) (fun _ _ _ _ _ hr ha => applyAction_slotsOK hr ha)
        _ hside h1)

theorem step_total {st : St σ} (hok : st.slotsOK) :
    (∀ f, step ρ st = .error f → f.isBug = false) ∧
    (∀ r st', step ρ st = .ok (some (r, st')) → st'.slotsOK) := by
  have hpt := pickNext_total (pickMeasure st + 1) st hok
  refine ⟨fun f h => ?_, fun r st' h => ?_⟩
  · rcases (step_error_iff ρ).1 h with ⟨hp, _⟩ | hp | ⟨next, st1, hp, ⟨hlt, _⟩ | ⟨_, h | ⟨na, sq, net, _, h⟩⟩⟩
    · have := pickNext_fuel_ok (pickMeasure st + 1) st (Nat.lt_succ_self _)
      rw [hp] at this; cases this
    · exact hpt.1 _ hp
    · have := pickNext_time_ge _ _ _ _ hp
      rw [pickNext_now _ _ _ _ hp] at hlt
      omega
    · exact simNetworkStack_err h
    · have hok1 : st1.slotsOK := hpt.2 _ _ hp
      exact (triggerUpdate_total ρ (st := { st1 with now := next.time, sq := sq, net := net }) hok1).1 f h
  · obtain ⟨st1, sq, net, hp, _, _, ht⟩ := (step_some_iff ρ).1 h
    have hok1 : st1.slotsOK := hpt.2 _ _ hp
    exact (triggerUpdate_total ρ (st := { st1 with now := r.ev.time, sq := sq, net := net }) hok1).2 _ _ ht

theorem loop_total (args : Args) : ∀ (fuel : Nat) (st : St σ) (iters cnt : Nat), st.slotsOK →
    ∀ f, (loop ρ args fuel st iters cnt).stop = .fault f → f.isBug = false := by
  intro fuel st iters cnt hok f h
  obtain ⟨st1, _, _, h1, hs⟩ := (loop_inv ρ args (I := fun st _ _ => st.slotsOK)
    (fun st i c r st' hI hs _ => (step_total ρ hI).2 r st' hs) fuel st iters cnt hok).1 f h
  exact (step_total ρ h1).1 f hs

theorem initState_total {mc ms : List Machine} {sq : SimQueue} {a : Args} {orc : σ} :
    (∀ f, initState ρ mc ms sq a orc = .error f →
      f.isBug = false ∨ (f = .divZero ∧ effPps a.network sq.maxPps = 0)) ∧
    (∀ st, initState ρ mc ms sq a orc = .ok st → st.slotsOK) := by
  have sideNew : ∀ (m : List Machine) (t0 : Int) (fp fb : F64) (o : σ),
      (∀ f, Side.new ρ m t0 fp fb o = .error f → f.isBug = false) ∧
      (∀ sd o', Side.new ρ m t0 fp fb o = .ok (sd, o') → slotsOK sd.schedAction) := by
    intro m t0 fp fb o
    unfold Side.new
    split
    · exact ⟨fun f h => (by cases h; rfl), fun sd o' h => (by cases h)⟩
    · simp only []
      split
      · exact ⟨fun f h => (by cases h; rfl), fun sd o' h => (by cases h)⟩
      · refine ⟨fun f h => (by cases h), fun sd o' h => ?_⟩
        cases h
        intro x hx
        simp only [List.mem_map] at hx
        obtain ⟨_, _, hx⟩ := hx
        cases hx
  unfold initState
  constructor
  · intro f h
    rw [bind_error_iff] at h
    rcases h with h | ⟨t0, _, h⟩
    · unfold firstTimeE at h
      split at h
      · cases h
      · cases h; exact Or.inl rfl
    · rw [bind_error_iff] at h
      rcases h with h | ⟨⟨c, o1⟩, _, h⟩
      · exact Or.inl ((sideNew _ _ _ _ _).1 f h)
      · rw [bind_error_iff] at h
        rcases h with h | ⟨⟨s, o2⟩, _, h⟩
        · exact Or.inl ((sideNew _ _ _ _ _).1 f h)
        · rw [bind_error_iff] at h
          rcases h with h | ⟨net, _, h⟩
          · unfold Bottleneck.new at h
            simp only [] at h
            split at h
            · rename_i hz
              cases h
              refine Or.inr ⟨rfl, ?_⟩
              unfold effPps
              have : (2 : Nat) ^ 32 - 1 ≠ 0 := by decide
              omega
            · cases h
          · cases h
  · intro st h
    obtain ⟨t0, c, o1, s, o2, net, _, hc, hs, _, rfl⟩ := (initState_ok_iff ρ).1 h
    exact ⟨(sideNew _ _ _ _ _).2 c o1 hc, (sideNew _ _ _ _ _).2 s o2 hs⟩

end
end Mb.Sim
