/-
  Helper lemmas for C20: the checks of Spec/C20.lean hold of what the model of the C API lets a
  caller observe (so the monitor never rejects the modelled behaviour, and what it checks is what
  the theorems of Props/C20.lean establish).
-/
import MbVerif.Proofs.FfiBuffer
import MbVerif.Spec.C20

namespace Mb.C20
open Mb Mb.Ffi

theorem holds_nil : Holds [] := List.forall_mem_nil _

theorem holds_cons (c : Check) (cs : List Check) : Holds (c :: cs) ↔ c.1 = true ∧ Holds cs :=
  List.forall_mem_cons

theorem holds_append (a b : List Check) : Holds (a ++ b) ↔ Holds a ∧ Holds b :=
  List.forall_mem_append

theorem firstFail_none_iff (cs : List Check) : firstFail cs = none ↔ Holds cs := by
  simp [firstFail, Holds]

theorem resCodes_nodup :
    [RC_Ok, RC_MachineStringNotUtf8, RC_InvalidMachineString, RC_StartFramework, RC_NullPointer].Nodup := by
  decide +kernel

theorem rc_ne_ok : RC_MachineStringNotUtf8 ≠ RC_Ok ∧ RC_InvalidMachineString ≠ RC_Ok ∧
    RC_StartFramework ≠ RC_Ok ∧ RC_NullPointer ≠ RC_Ok := by
  have h := (List.nodup_cons.mp resCodes_nodup).1
  simp only [List.mem_cons, List.not_mem_nil, or_false, not_or] at h
  exact ⟨Ne.symm h.1, Ne.symm h.2.1, Ne.symm h.2.2.1, Ne.symm h.2.2.2⟩

theorem rc_null_ne_ok : RC_NullPointer ≠ RC_Ok := rc_ne_ok.2.2.2

theorem onEventsRc_cases (n : Nulls) :
    (n.any = true ∧ onEventsRc n = RC_NullPointer) ∨ (n.any = false ∧ onEventsRc n = RC_Ok) := by
  cases n with
  | mk a b c d => cases a <;> cases b <;> cases c <;> cases d <;> simp [Nulls.any, onEventsRc]

theorem decode_written (acts : List TAction) (h : ∀ a ∈ acts, inRange a) :
    ((acts.map convertAction).map encodeAction).map decodeAction = acts.map (fun a => some (view a)) := by
  induction acts with
  | nil => rfl
  | cons a as ih =>
    simp only [List.map_cons]
    rw [ih (fun b hb => h b (by simp [hb])), decode_encode _ (convertAction_fits a (h a (by simp))),
      convertAction_eq_view]

section
variable {σ : Type} (ρ : Oracle σ)

/-- The model satisfies the specification: for a caller whose memory is `g` guard slots, the `n`
    output slots and `g` more guard slots, all filled with `pat`, every check of
    `EvObs.checks` holds of what `apiOnEvents` lets the caller observe — given the framework's
    output contract C04 (at most one action per machine, numbers within the Rust types). -/
theorem model_satisfies_checks (nulls : Nulls) (s : Fw σ) (now : Int) (evs : List CEvent) (g : Nat) (pat : Bytes)
    (out : CallOut σ)
    (hrun : apiOnEvents ρ nulls s now evs (List.replicate (s.machines.length + g) pat) = some out)
    (hC04 : ∀ tes, evs.mapM convertEvent = some tes →
      (triggerEvents ρ tes now s).actionsOut.length ≤ s.machines.length ∧
      ∀ a ∈ (triggerEvents ρ tes now s).actionsOut, inRange a) :
    Holds (EvObs.checks { nulls := nulls, rc := out.rc, count := out.count, nm := s.machines.length, guard := g,
                          patSlot := pat, mem := List.replicate g pat ++ out.buf, ref := out.fw.actionsOut }) := by
  unfold apiOnEvents at hrun
  rcases onEventsRc_cases nulls with ⟨_, hrc⟩ | ⟨_, hrc⟩
  · -- a null pointer: nothing is touched
    rw [hrc] at hrun
    simp only [ne_eq, rc_null_ne_ok, not_false_eq_true, if_true, Option.some.injEq] at hrun
    subst hrun
    have hne : (RC_NullPointer == RC_Ok) = false := beq_false_of_ne rc_null_ne_ok
    simp only [EvObs.checks, EvObs.slots, hrc, hne, holds_append, holds_cons, holds_nil, and_true, beq_iff_eq,
      Bool.false_eq_true, if_false]
    refine ⟨⟨trivial, ?_, ?_, ?_⟩, trivial, ?_⟩
    · simp; omega
    · simp
    · rw [List.drop_append]; simp
    · rw [List.drop_append]; simp
  · -- the call goes through
    rw [hrc] at hrun
    simp only [ne_eq, not_true_eq_false, if_false, Option.map_eq_some_iff] at hrun
    obtain ⟨r, hr, rfl⟩ := hrun
    obtain ⟨tes, hm, rfl⟩ := onEvents_eq_some ρ hr
    obtain ⟨hlen, hrange⟩ := hC04 tes hm
    simp only
    generalize hacts : (triggerEvents ρ tes now s).actionsOut = acts at hlen hrange
    generalize hn : s.machines.length = n at hlen
    have hcount : (writeSlots (acts.map convertAction) n (List.replicate (n + g) pat)).2 = acts.length := by
      rw [writeSlots_count]; simp; omega
    have htake := writeSlots_take (acts.map convertAction) n (List.replicate (n + g) pat)
    have hdrop := writeSlots_drop (acts.map convertAction) n (List.replicate (n + g) pat)
    have hdropn := writeSlots_drop_n (acts.map convertAction) n (List.replicate (n + g) pat)
    have hblen := writeSlots_length (acts.map convertAction) n (List.replicate (n + g) pat)
    rw [hcount] at htake hdrop
    generalize (writeSlots (acts.map convertAction) n (List.replicate (n + g) pat)).1 = buf' at *
    have hok : (RC_Ok == RC_Ok) = true := beq_self_eq_true _
    simp only [EvObs.checks, EvObs.slots, hok, hrc, hcount, holds_append, holds_cons, holds_nil, and_true,
      beq_iff_eq, if_true, decide_eq_true_eq]
    have hg : (List.replicate g pat ++ buf').drop g = buf' := by
      rw [List.drop_append]; simp
    refine ⟨⟨trivial, ?_, ?_, ?_⟩, hlen, trivial, ?_, ?_⟩
    · simp at hblen ⊢; omega
    · simp
    · rw [List.drop_append]
      simp only [List.length_replicate, Nat.add_sub_cancel_left, List.drop_replicate, hdropn]
      simp
    · rw [hg, List.take_take, Nat.min_eq_left hlen, htake]
      rw [List.take_of_length_le (by simp)]
      exact decode_written acts hrange
    · rw [hg, List.drop_take, hdrop]
      simp
      omega
end

end Mb.C20
