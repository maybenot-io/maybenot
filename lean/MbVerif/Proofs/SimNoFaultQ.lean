/-
  Queue-level lemmas for the totality theorem of the simulator with machines (C19_total):
  predicates over all queued events by side and heap, popping with an aggregate delay, and the
  fact that a queued TunnelSent that is already due makes `SimQueue::peek` report offset 0.
-/
import MbVerif.Proofs.SimProgress
import MbVerif.Proofs.SimFuture

namespace Mb.Sim
open Mb

def SimQueue.AllQ (s : SimQueue) (p : Bool → Queue → SimEvent → Prop) : Prop :=
  ∀ c qi, ∀ e ∈ ((s.side c).heap qi).data, p c qi e

/-- a property of all queued events (`SimQueue.AllE`) as one by side and heap -/
theorem SimQueue.AllE.allQ {s : SimQueue} {p : SimEvent → Prop} {p' : Bool → Queue → SimEvent → Prop} (h : s.AllE p)
    (hpp : ∀ c qi e, e ∈ ((s.side c).heap qi).data → p e → p' c qi e) : s.AllQ p' :=
  fun c qi e he => hpp c qi e he (h c qi e he)

theorem SimQueue.AllQ.mono {s : SimQueue} {p p' : Bool → Queue → SimEvent → Prop} (h : s.AllQ p)
    (hpp : ∀ c qi e, p c qi e → p' c qi e) : s.AllQ p' :=
  fun c qi e he => hpp c qi e (h c qi e he)

theorem SimQueue.AllQ.pushSim {s : SimQueue} {p : Bool → Queue → SimEvent → Prop} {e : SimEvent}
    (h : s.AllQ p) (he : p e.client (route e) e) : (s.pushSim e).AllQ p := by
  intro c qi y hy
  rw [SimQueue.pushSim_heap] at hy
  split at hy
  · rename_i hc
    rcases heap_push_mem hy with hy | hy
    · exact h c qi y hy
    · subst hy; rw [hc.1, hc.2]; exact he
  · exact h c qi y hy

/-- a TunnelSent is queued in one of the two blocked heaps -/
def SimQueue.hasBlocked (s : SimQueue) : Prop :=
  ∃ c qi e, (qi = Queue.blocking ∨ qi = Queue.bypassable) ∧ e ∈ ((s.side c).heap qi).data

theorem SimQueue.pushSim_mem {s : SimQueue} {e y : SimEvent} {c : Bool} {qi : Queue}
    (hy : y ∈ (((s.pushSim e).side c).heap qi).data) :
    y ∈ ((s.side c).heap qi).data ∨ (y = e ∧ c = e.client ∧ qi = route e) := by
  rw [SimQueue.pushSim_heap] at hy
  split at hy
  · rename_i hc
    rcases heap_push_mem hy with hy | hy
    · exact Or.inl hy
    · exact Or.inr ⟨hy, hc.1, hc.2⟩
  · exact Or.inl hy

/-- `G`: for any aggregate delay `ds` (`SimQueue.pop_spec0` is the case `ds = 0`) -/
theorem SimQueue.pop_specG {s s' : SimQueue} {qi : Queue} {cl : Bool} {ds : Nat} {e : SimEvent}
    (h : s.pop qi cl ds = .ok (some (e, s'))) :
    (∀ c qj, ∀ y ∈ ((s'.side c).heap qj).data, y ∈ ((s.side c).heap qj).data) ∧
    (s.Ord → s'.Ord) ∧
    ∃ hd, hd ∈ ((s.side cl).heap qi).data ∧ ((s.side cl).heap qi).peek = some hd ∧
      e = { hd with time := hd.time + qShift qi ds } := by
  obtain ⟨hd, h', hp, he, hall⟩ := SimQueue.pop_heap h
  have hpk := (heap_pop_countP (fun _ => true) SimEvent.le hp).2
  refine ⟨?_, ?_, hd, Heap.peek_mem hpk, hpk, he⟩
  · intro c qj y hy
    rw [hall] at hy
    split at hy
    · rename_i hc
      rw [hc.1, hc.2]
      exact heap_pop_mem hp y hy
    · exact hy
  · intro ho c qj
    rw [hall]
    split
    · rename_i hc
      have := ho cl qi
      exact heapInv_pop simEvent_totalPre this hp
    · exact ho c qj

theorem SimQueue.AllQ.pop {s s' : SimQueue} {p : Bool → Queue → SimEvent → Prop} {qi : Queue} {cl : Bool}
    {ds : Nat} {e : SimEvent} (hall : s.AllQ p) (h : s.pop qi cl ds = .ok (some (e, s'))) : s'.AllQ p :=
  fun c qj y hy => hall c qj y ((SimQueue.pop_specG h).1 c qj y hy)

theorem SimQueue.hasBlocked_of_pop {s s' : SimQueue} {qi : Queue} {cl : Bool} {ds : Nat} {e : SimEvent}
    (h : s.pop qi cl ds = .ok (some (e, s'))) (hb : s'.hasBlocked) : s.hasBlocked := by
  obtain ⟨c, qj, y, hq, hy⟩ := hb
  exact ⟨c, qj, y, hq, (SimQueue.pop_specG h).1 c qj y hy⟩


theorem evHeap_head_time {h : EvHeap} (ho : HeapInv SimEvent.le h.data) {e r : SimEvent} (he : e ∈ h.data)
    (hr : h.peek = some r) : r.time ≤ e.time :=
  SimEvent.le_time (heap_root_max simEvent_totalPre ho e he r hr)

theorem evHeap_peek_of_mem {h : EvHeap} {e : SimEvent} (he : e ∈ h.data) : ∃ r, h.peek = some r := by
  unfold Heap.peek
  cases hd : h.data with
  | nil => rw [hd] at he; cases he
  | cons a r => exact ⟨a, rfl⟩

theorem SimQueue.peek_zero {s : SimQueue} {cs ss : Nat} {now : Int} {x : Option SimEvent} {qo : Queue} {d : Nat}
    (ho : s.Ord) {c : Bool} {qi : Queue} (hq : qi ≠ .base) {e0 : SimEvent}
    (he : e0 ∈ ((s.side c).heap qi).data) (ht : e0.time ≤ now) (h : s.peek cs ss now = .ok (x, qo, d)) : d = 0 := by
  have hl : s.len ≠ 0 :=
    SimQueue.len_eq_length s ▸ Nat.ne_of_gt (List.length_pos_of_mem (SimQueue.mem_events.2 ⟨c, qi, he⟩))
  obtain ⟨ev, qi', d', hs⟩ := SimQueue.peek_some s cs ss now hl
  rw [hs] at h
  cases h
  obtain ⟨r, hr⟩ := evHeap_peek_of_mem he
  obtain ⟨_, _, _, hmin⟩ := SimQueue.peek_spec hs
  have := hmin c qi r hr
  rw [qShift, if_neg hq, Int.add_zero, dsince_zero (Int.le_trans (evHeap_head_time (ho c qi) he hr) ht)] at this
  exact Nat.le_zero.1 this

end Mb.Sim
