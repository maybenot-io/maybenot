/-
  C03 — blocking budgets hold.

  `C03_single`: for every machine set, fractions, start time, oracle, every prior history `h`
  with ARBITRARY time values (standing still, jumping, running backwards) and every further
  single-event call `([e], t)`: if that call returns BlockOutgoing for machine `mi` then, with
  the blocked time recomputed from the BlockingBegin/BlockingEnd reports and call timestamps
  alone (`C03.blockHistory`, an ongoing block counted up to `t`, negative spans counted as 0),
  `C03.blockOK` holds: the action has the replace flag and blocking is active; or the blocked
  time is below the machine's `allowed_blocked_microsec`; or the blocked share of the time since
  start is below both the machine's and the framework's `max_blocking_frac` (if set).
  The share is the double the code computes (`Duration::as_secs_f64` of both, one division);
  `0/0` (NaN) and comparisons with NaN count as below, as in the code.
  The same `C03.blockOK` is the monitor run on the implementation's traces.
  `C03_share_exact` / `C03_share_band`: what the double comparison means for the exact rational
  share blocked/elapsed, for durations below 2^53 s: "below the limit q" in doubles implies
  blocked/elapsed < q (1 + 2^-49), and the double test can only differ from the exact test inside
  the band q (1 ± 2^-50) (`Proofs/C03Exact.lean`: `Duration::as_secs_f64` is accurate to 2^-52 and
  the quotient to 2^-50, by composing the half-ulp error of each of the five roundings).

  `C03_monitor_accepts_model`: the executable monitor `C03.monitor` (Spec/C03.lean, the one the
  driver runs on the implementation's traces) returns `none` on the model's OWN trace
  `LL.modelTrace` for every machine set, configuration, oracle and history (single events and
  batches, arbitrary clocks, faulting calls: the monitor stops at the first call that did not
  return ok). No hypothesis is needed: the monitor's recount `blockCall` is the model's blocking
  accounting (`BlkRel`), and its test `blockOK` uses the same double share as the code.
-/
import MbVerif.Proofs.C03
import MbVerif.Proofs.C03Exact
import MbVerif.Proofs.MonitorAcceptC

namespace Mb.C03
open Mb

variable {σ : Type} (ρ : Oracle σ)

theorem C03_single (ms : List Machine) (fp fb : F64) (t0 : Int) (rng : σ) (h : List Call) (e : TEvent) (t : Int) :
    ∀ tmo dur b rp mi, TAction.blockOutgoing tmo dur b rp mi ∈
        (triggerEvents ρ [e] t (runCalls ρ (Fw.init ρ ms fp fb t0 rng) h)).actionsOut →
      ∃ m, ms[mi]? = some m ∧
        blockOK m.allowedBlockedMicrosec m.maxBlockingFrac fb rp t0 t (blockHistory t0 (h ++ [([e], t)])) = true := by
  intro tmo dur b rp mi hmem
  obtain ⟨m, a, hm, ha, hq⟩ := single_call_gated ρ gateConseq_QBlock ms fp fb t0 rng h e t hmem
  simp only [TAction.machine] at hm ha
  refine ⟨m, hm, ?_⟩
  -- the accounting is the recount of the blocking reports
  have hrel0 : BlkRel t0 fb (fun i => (ms[i]?.map (·.allowedBlockedMicrosec * 1000)).getD 0)
      { active := false, started := t0, total := 0 } (Acct.ofFw (Fw.init0 ms fp fb t0 rng)) := by
    refine ⟨rfl, rfl, rfl, rfl, rfl, fun j a ha => ?_⟩
    simp only [Acct.ofFw, Fw.init0, List.getElem?_map] at ha
    cases hmj : ms[j]? with
    | none => rw [hmj] at ha; cases ha
    | some mj =>
      rw [hmj] at ha
      obtain rfl := Option.some.inj ha
      exact ⟨rfl, rfl, rfl⟩
  obtain ⟨hrel, hnow⟩ := (BlkRel.history h _ _ hrel0).call ([e], t)
  rw [blockHistory, List.foldl_append, List.foldl_cons, List.foldl_nil]
  generalize Acct.call [e] t (Acct.history h (Acct.ofFw (Fw.init0 ms fp fb t0 rng))) = P at ha hq hrel hnow
  generalize blockCall ([e], t) (h.foldl (fun b c => blockCall c b) { active := false, started := t0, total := 0 }) = B
    at hrel ⊢
  obtain ⟨hp1, hp2, hp3⟩ := hrel.per mi a ha
  simp only [hm, Option.map_some, Option.getD_some] at hp3 hnow
  simp only [QBlock, blockOKF] at hq
  rw [hp1, hp2, hp3, hrel.active, hrel.started, hrel.total, hrel.start, hrel.frac, hnow] at hq
  unfold blockOK blockedNow
  simp only [Bool.or_eq_true, Bool.and_eq_true, decide_eq_true_eq]
  rcases hq with ⟨h1, h2⟩ | h2 | ⟨h2, h3⟩
  · left; left; exact ⟨h1, h2⟩
  · left; right; exact h2
  · right; exact ⟨h2, h3⟩

/-- the double test "share below the limit" implies the exact rational share is below the limit
    up to a relative 2^-49 (durations below 2^53 s, elapsed time positive, limit q > 0) -/
theorem C03_share_exact (a b : Nat) (f : F64) (q : ℚ) (ha : a < 2 ^ 53 * 10 ^ 9)
    (hb : b < 2 ^ 53 * 10 ^ 9) (hb0 : 0 < b) (hv : Fp.val64 f = .fin q) (hq : 0 < q)
    (h : belowShare a b f = true) : (a : ℚ) / b < q * (1 + 1 / 2 ^ 49) :=
  C03_exact' a b f q ha hb hb0 hv hq h

/-- outside the band q (1 ± 2^-50) the double test and the exact test agree -/
theorem C03_share_band (a b : Nat) (f : F64) (q : ℚ) (ha : a < 2 ^ 53 * 10 ^ 9)
    (hb : b < 2 ^ 53 * 10 ^ 9) (hb0 : 0 < b) (hv : Fp.val64 f = .fin q) (hq : 0 < q) :
    ((a : ℚ) / b * (1 + 1 / 2 ^ 50) < q → belowShare a b f = true) ∧
    (q ≤ (a : ℚ) / b * (1 - 1 / 2 ^ 50) → belowShare a b f = false) :=
  C03_exact_band a b f q ha hb hb0 hv hq

/-- Non-vacuity: the recount of a history with a backwards clock (begin at 10, end at 5) gives a
    blocked time of 0. -/
example : blockHistory 0 [([.blockingBegin 0], 10), ([.blockingEnd], 5)] =
    { active := false, started := 10, total := 0 } := by decide

/-- `C03.monitor` accepts the model's own trace: for every machine set, fractions, start time,
    oracle and history of calls (single events and batches, arbitrary clock values, faulting calls)
    the monitor applied to the trace of the model (`LL.modelTrace`: per call the events, outcome,
    returned actions, snapshot and log, as the driver records them) reports no violation. So the
    monitor cannot raise a false alarm on an implementation that agrees with the model, and the
    model satisfies the property in the monitor's own vocabulary. No hypotheses: machines need not
    be validated; a call in which the model faults (checked `Duration` add) is reported as not ok
    and ends the monitor's walk. -/
theorem C03_monitor_accepts_model (ms : List Machine) (fp fb : F64) (t0 : Int) (rng : σ) (h : List Call) :
    monitor (LL.modelTrace ρ ms fp fb t0 rng h) = none :=
  C03acc.monitor_model ρ ms fp fb t0 rng h

section MonitorDemo

private def dZero : Dist := { dist := .uniform 0 0, start := 0, max := 0 }
/-- the doubles 0.5 and 0.1 -/
private def half : F64 := 4602678819172646912
private def tenth : F64 := 4591870180066957722
/-- one state: BlockOutgoing with the given replace flag; NormalSent (3), BlockingBegin (6) and
    BlockingEnd (7) lead back to it -/
private def bSt (rp : Bool) : State :=
  { action := some (.blockOutgoing false rp dZero dZero none), counterA := none, counterB := none,
    transitions := (((List.replicate 13 none).set 3 (some [{ target := 0, prob := 1065353216 }])).set 6
      (some [{ target := 0, prob := 1065353216 }])).set 7 (some [{ target := 0, prob := 1065353216 }]) }
/-- budget 1 us, blocking share 0.5, no replace -/
private def bM : Machine :=
  { allowedPaddingPackets := 0, maxPaddingFrac := 0, allowedBlockedMicrosec := 1, maxBlockingFrac := half,
    states := [bSt false] }
/-- no budget, blocking share 0.1, replace -/
private def rM : Machine :=
  { allowedPaddingPackets := 0, maxPaddingFrac := 0, allowedBlockedMicrosec := 0, maxBlockingFrac := tenth,
    states := [bSt true] }
private def dρ : Oracle Unit := { u := fun _ => (0, ()), d := fun _ _ => (0, ()) }
/-- times in ns; the clock runs backwards once -/
private def bTrace : FwTrace :=
  LL.modelTrace dρ [bM, rM] 0 0 0 () [([.normalSent], 1000), ([.blockingBegin 0], 2000), ([.normalSent], 3000),
    ([.blockingEnd], 5000), ([.normalSent, .normalSent], 6000), ([.normalSent], 10000), ([.normalSent], 9000),
    ([.normalSent], 100000)]

/-- Non-vacuity of `C03_monitor_accepts_model`: no call faults, so the monitor walks all eight.
    Call 1: machine 0 blocks within its budget, machine 1 on the share branch (0/1000). Calls 2, 3
    (blocking active since 2000): machine 0 on budget / share 1000/3000, machine 1 only by its
    replace flag. Call 4 (BlockingEnd at 5000: 3000 ns blocked, share 0.6): nobody may block.
    Call 5 is a batch (share exactly 0.5: denied by the model, not tested by the monitor). Calls 6
    and 7 (clock back from 10000 to 9000): machine 0 on the share branch (0.3, 0.33), machine 1
    denied. Call 8: both below their shares. The monitor accepts; it rejects the same trace when
    call 4 is made to return a BlockOutgoing and does not test that action in the batch call 5. -/
example : bTrace.calls.map (·.res) = [.ok, .ok, .ok, .ok, .ok, .ok, .ok, .ok] ∧
    bTrace.calls.map (·.actions) =
      [[.blockOutgoing 0 0 false false 0, .blockOutgoing 0 0 false true 1],
       [.blockOutgoing 0 0 false false 0, .blockOutgoing 0 0 false true 1],
       [.blockOutgoing 0 0 false false 0, .blockOutgoing 0 0 false true 1],
       [], [],
       [.blockOutgoing 0 0 false false 0], [.blockOutgoing 0 0 false false 0],
       [.blockOutgoing 0 0 false false 0, .blockOutgoing 0 0 false true 1]] ∧
    monitor bTrace = none ∧
    blockHistory 0 [([.normalSent], 1000), ([.blockingBegin 0], 2000), ([.normalSent], 3000), ([.blockingEnd], 5000)] =
      { active := false, started := 2000, total := 3000 } ∧
    (monitor { bTrace with calls := bTrace.calls.mapIdx (fun i c =>
        if i = 3 then { c with actions := [.blockOutgoing 0 0 false false 0] } else c) }).isSome = true ∧
    monitor { bTrace with calls := bTrace.calls.mapIdx (fun i c =>
        if i = 4 then { c with actions := [.blockOutgoing 0 0 false false 0] } else c) } = none := by
  decide +kernel

end MonitorDemo

end Mb.C03
