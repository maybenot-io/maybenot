/-
  C17 — action timers.  The model's action-timer slots against the contract function
  `C17.slotSpec` written from the property text: storing an action, firing it once at its due
  time, and liveness — the offset served next never exceeds that of a pending action, so
  simulated time does not move past one.  `C17_executed_when_strictly_earliest` is the accurate
  description of the selection-time execution (S1).
-/
import MbVerif.Proofs.SimFuture
import MbVerif.Spec.C17

namespace Mb.C17
open Mb Mb.Sim

/-- the model's slot seen as the property's pending action timer -/
def pend : Option SchedAction → Option Pending
  | some a => some ⟨a.action, a.time⟩
  | none => none

variable {σ : Type}

/-- Slot update is the contract. -/
theorem C17_slot_update (sd sd' : Side σ) (sq sq' : SimQueue) (now : Int) (cl : Bool) (a : TAction)
    (h : applyAction sd sq now cl a = .ok (sd', sq')) :
    sd'.schedAction.map pend =
      (sd.schedAction.map pend).set a.machine (slotSpec (pend (sd.schedAction[a.machine]?.join)) now a) :=
  applyAction_slot h (by intro x; cases x <;> rfl)

/-- Fires at the due time, once. -/
theorem C17_fires_at_due_once (st st' : St σ) (target : Int) (e : SimEvent)
    (h : doScheduledAction st target = .ok (e, st')) :
    e.time = target ∧ ∃ i a, (st.side e.client).schedAction[i]? = some (some a) ∧ a.time = target ∧
      (st'.side e.client).schedAction = (st.side e.client).schedAction.set i none ∧
      ((∃ to b r m, a.action = .sendPadding to b r m ∧ e.event = .paddingSent m ∧ e.bypass = b ∧ e.replace = r) ∨
       (∃ to d b r m, a.action = .blockOutgoing to d b r m ∧ e.event = .blockingBegin m)) :=
  doScheduledAction_event h

/-- A due action is not skipped: the scheduled-action offset is a lower bound for every
    pending slot at or after the clock. -/
theorem C17_due_not_skipped (c s : List (Option SchedAction)) (now : Int) (a : SchedAction)
    (hm : some a ∈ c ∨ some a ∈ s) (hn : now ≤ a.time) :
    peekScheduledAction c s now ≤ dsince a.time now :=
  peekScheduledAction_le_mem c s now a hm hn

/-- Served before it is due: whatever `pick_next` decides to serve next (blocking expiry,
    queued event, internal timer or scheduled action), its offset from the clock is at most the
    offset of every pending action timer that is not in the past; so simulated time cannot move
    past a pending action before it is executed. -/
theorem C17_served_before_due (st : St σ) (p : Pick) (o : Nat) (h : pickDecide st = .ok p) (ho : p.offset = some o)
    (a : SchedAction) (hm : some a ∈ st.client.schedAction ∨ some a ∈ st.server.schedAction) (hn : st.now ≤ a.time) :
    o ≤ dsince a.time st.now :=
  served_before_action h ho a hm hn

/-- a stored action is never in the past when it is stored: its due time is the clock plus the
    timeout -/
theorem C17_stored_not_in_past (cur : Option Pending) (t : Int) (a : TAction) (p : Pending)
    (h : slotSpec cur t a = some p) (hc : ∀ q, cur = some q → t ≤ q.due) : t ≤ p.due := by
  cases a with
  | cancel m tm => cases tm <;> simp [slotSpec] at h; exact hc p h
  | sendPadding to b r m => simp [slotSpec] at h; rw [← h]; simp; omega
  | blockOutgoing to d b r m => simp [slotSpec] at h; rw [← h]; simp; omega
  | updateTimer d r m => simp [slotSpec] at h; exact hc p h

/-- Simulated time never moves past a pending action timer or internal timer (trace level, as
    an inductive invariant of the main loop): the state `sim_advanced` starts from has no pending
    timer, and if all pending timers are at or after the clock they still are after any iteration
    of the main loop (for an event within `Duration::MAX` of the clock, which `std::time::Instant`
    guarantees).  Hence an action that has not been superseded is never left behind by the clock:
    it stays pending at or after `now` until `pick_next` executes it. -/
theorem C17_pending_never_in_past (ρ : Oracle σ) :
    (∀ mc ms sq a orc st, initState ρ mc ms sq a orc = .ok st → FutureOK st) ∧
    (∀ (st st' : St σ) (r : StepRec), st.sq.WF → FutureOK st → step ρ st = .ok (some (r, st')) →
      r.ev.time - st.now < durMax → FutureOK st' ∧ st'.sq.WF) :=
  ⟨fun _ _ _ _ _ _ h => initState_future ρ h,
   fun _ _ _ hw hf h hreal => ⟨step_future ρ hw hf h hreal, (step_conserve ρ hw h).1⟩⟩

/-- When exactly an action is executed (the accurate statement behind S1).  `pick_next`
    executes a scheduled action — clears its slot, applies a BlockOutgoing to the blocking state,
    and queues its PaddingSent / BlockingBegin stamped with the slot's *due* time — precisely when
    the earliest pending action is strictly earlier than every other candidate it sees: the
    earliest internal timer, the blocking expiry, the pending aggregate delay and the queue
    offset.  This happens at *selection* time, i.e. possibly while the clock is still before the
    due time (it is the code's behaviour; the contract's "on expiry" is S1's deviation). -/
theorem C17_executed_when_strictly_earliest (st : St σ) (s : Nat) (h : pickDecide st = .ok (.action s)) :
    s = peekScheduledAction st.client.schedAction st.server.schedAction st.now ∧
    s < peekScheduledInternalTimer st.client.schedTimer st.server.schedTimer st.now ∧
    s < (peekBlockedExp st.client.blockingUntil st.server.blockingUntil st.now).1 ∧
    s < st.net.peekAggregateDelay st.now ∧
    ∃ e q qid c, peekQueue st e = .ok (q, qid, c) ∧ s < q :=
  pickDecide_action_strict h

/-- The event returned next is not later than any timer that is still pending, so the
    clock (which becomes the event's time) cannot pass one. -/
theorem C17_next_event_before_pending (fuel : Nat) (st st' : St σ) (e : SimEvent) (hw : st.sq.WF) (hf : FutureOK st)
    (h : pickNext fuel st = some (.ok (some e, st'))) (hreal : e.time - st.now < durMax) :
    (∀ a, (some a ∈ st'.client.schedAction ∨ some a ∈ st'.server.schedAction) → e.time ≤ a.time) ∧
    (∀ t, (some t ∈ st'.client.schedTimer ∨ some t ∈ st'.server.schedTimer) → e.time ≤ t) :=
  (pickNext_before_pending fuel st st' e hw hf h hreal).2

/-- non-vacuity: a one-slot side on which a padding action is stored -/
example : slotSpec none 5 (.sendPadding 3 true false 0) = some ⟨.sendPadding 3 true false 0, 3005⟩ := by decide

end Mb.C17
