/-
  C01 — the framework is total.

  `C01_no_crash`: for every set of machines that pass validation (and have the shape the Rust
  types enforce: one transition slot per event), every pair of fractions, every start time,
  EVERY oracle (all seeds, every value a sampler can return), and every history of calls with
  arbitrary batches, arbitrary (also unknown / huge) machine ids and arbitrary (standing still,
  backwards) time values, no index is ever out of range and the recursion fuel of the model is
  never exhausted: the only fault the model can ever raise is `durOverflow`, the checked
  `Duration` addition of the blocking accounting. `C01_fuel`: the transition recursion needs at
  most 2 x (unset counter-zero flags) + 2 <= 6 units of the 8 provided, whatever the machine.
  `C01_total`: that fault is excluded too — so the call returns normally — whenever the start time
  and all call times lie in a window of width `B` ns (standing still, running backwards and
  jumping inside the window allowed) and `(calls + 1) * B` fits a `Duration` (2^64 s): e.g. a
  million calls within a century. Proof: the potential `blocked time + ongoing blocking` grows by
  at most `B` per call and is constant within a call (`Proofs/DurBound.lean`).
  `C01_dur_overflow_reachable` shows that the remaining fault is real: eight calls that report four
  blocking periods of 2^62 s each (the clock jumping back in between) reach it, while three such
  periods still fit (`C01_three_periods_fit`); the same history panics the implementation
  ("overflow when adding durations") and is recorded as a known finding.
  `C01_work`: the number of transition invocations of one call (counted on the ghost copy of the
  hook log, whose agreement with the implementation's log is part of the correspondence) is at
  most 3 x (events + 1) x (machines + 1), for every machine set (validated or not), every oracle
  and every batch; the monitor's bound `C01.workBound` (factor 6) follows (`C01_work_monitor`).
  THE MONITOR ON THE MODEL'S OWN TRACE (`Proofs/MonitorAcceptA.lean`; `LL.modelTrace` is the trace the
  driver would record from the model: per call the events, outcome, actions, snapshot and the call's
  log). `C01_monitor_model_iff`: for EVERY machine set, configuration, oracle and history,
  `C01.monitor` returns `none` exactly when neither the construction nor any call of the trace
  reports a fault — so the work-bound rule never fires on the model (every call record meets
  `workBound`, `C01_monitor_work`), and at the first faulting call the monitor reports (which is what
  it is for: the model's fault is the implementation's panic). `C01_monitor_accepts_model`: under the
  hypotheses of `C01_total` (validated machines, clock values in a window with room for the number
  of calls) the monitor returns `none`. Both hypotheses are needed, with kernel-checked witnesses:
  `C01_monitor_rejects_overflow` (no machines, the history of `C01_dur_overflow_reachable`: the
  monitor reports the model's duration overflow — the known finding F6) and
  `C01_monitor_rejects_unvalidated` (a machine without states, which `Framework::new` refuses: the
  model run "after validation succeeded" indexes out of range and the monitor reports it).
-/
import MbVerif.Proofs.ValidateOK
import MbVerif.Proofs.WorkBound
import MbVerif.Proofs.DurBound
import MbVerif.Proofs.MonitorAcceptA

namespace Mb.C01
open Mb

variable {σ : Type} (ρ : Oracle σ)

/-- the hypotheses on the machines: accepted by validation, and of the shape of the Rust type
    (`[Option<Vec<Trans>>; EVENT_NUM]`) -/
def MachinesValid (ms : List Machine) : Prop :=
  ∀ m ∈ ms, Validate.machine m = true ∧ ∀ st ∈ m.states, st.transitions.length = EVENT_NUM

theorem C01_no_crash (ms : List Machine) (hms : MachinesValid ms) (fp fb : F64) (t0 : Int) (rng : σ)
    (h : List Call) :
    (runCalls ρ (Fw.init ρ ms fp fb t0 rng) h).fault = none ∨
    (runCalls ρ (Fw.init ρ ms fp fb t0 rng) h).fault = some .durOverflow := by
  obtain ⟨_, _, hN | ⟨_, hN⟩, _⟩ := ((okS_init ρ ms fp fb t0 rng).trans (okS_runCalls ρ _ h))
    (valid_init0 ms fp fb t0 rng fun m hm => machineOK_of_validate m (hms m hm).1 (hms m hm).2)
    (fun x hx => by simp [Fw.init0] at hx)
  · exact Or.inl hN
  · exact Or.inr hN

/-- the state reached is valid: lengths agree and every machine is in an existing state or END -/
theorem C01_state_valid (ms : List Machine) (hms : MachinesValid ms) (fp fb : F64) (t0 : Int) (rng : σ)
    (h : List Call) : Valid (runCalls ρ (Fw.init ρ ms fp fb t0 rng) h) :=
  (((okS_init ρ ms fp fb t0 rng).trans (okS_runCalls ρ _ h))
    (valid_init0 ms fp fb t0 rng fun m hm => machineOK_of_validate m (hms m hm).1 (hms m hm).2)
    (fun x hx => by simp [Fw.init0] at hx)).1

/-- the recursion fuel is sufficient: from a valid state, a transition with fuel
    `2 * unset + 2` (at most 6) raises no fuel fault -/
theorem C01_fuel (mi : Nat) (ev : Event) (s : Fw σ) (hV : Valid s) (hmi : mi < s.rt.length)
    (fuel : Nat) (hf : 2 * unset s mi + 2 ≤ fuel) :
    NoNewBad s (transition ρ fuel mi ev s).1 :=
  ((safe_main ρ fuel).1 mi ev s hV hmi hf).1

/-- Work bound: one call causes at most 3·(machines+1)·(events+1) transition invocations. -/
theorem C01_work (es : List TEvent) (t : Int) (s : Fw σ) :
    stepsOf (triggerEvents ρ es t s) ≤ stepsOf s + 3 * (s.rt.length + 1) * (es.length + 1) :=
  steps_triggerEvents ρ es t s

/-- The monitor's bound `workBound` (Spec/C01.lean) has the factor 6; the factor proved is 3, so the
    model meets it with half to spare. -/
theorem C01_work_monitor (es : List TEvent) (t : Int) (s : Fw σ) :
    stepsOf (triggerEvents ρ es t s) - stepsOf s ≤ workBound es.length s.rt.length := by
  have := steps_triggerEvents ρ es t s
  unfold workBound
  have h : 3 * (s.rt.length + 1) * (es.length + 1) ≤ 6 * (es.length + 1) * (s.rt.length + 1) := by
    rw [Nat.mul_assoc, Nat.mul_assoc, Nat.mul_comm (s.rt.length + 1)]
    exact Nat.mul_le_mul_right _ (by decide)
  omega

/-- an oracle over the trivial random state (never consulted when there are no machines) -/
def unitOracle : Oracle Unit := { u := fun _ => (0, ()), d := fun _ _ => (0, ()) }

/-- 2^62 seconds in nanoseconds -/
def bigT : Int := 4611686018427387904000000000

/-- Totality under a clock-span guard: validated machines, any fractions, any oracle, any
    history whose clock values (start time included) lie in a window `[lo, lo + B]` — not
    necessarily monotone — with `(calls + 1) * B ≤ Duration::MAX`: no fault of any kind. -/
theorem C01_total (ms : List Machine) (hms : MachinesValid ms) (fp fb : F64) (t0 : Int) (rng : σ)
    (h : List Call) (lo : Int) (B : Nat) (ht0 : lo ≤ t0 ∧ t0 ≤ lo + B)
    (ht : ∀ cl ∈ h, lo ≤ cl.2 ∧ cl.2 ≤ lo + B) (hg : (h.length + 1) * B ≤ durMax) :
    (runCalls ρ (Fw.init ρ ms fp fb t0 rng) h).fault = none := by
  rcases C01_no_crash ρ ms hms fp fb t0 rng h with h1 | h1
  · exact h1
  · exact absurd h1 (noDur_run ρ ms fp fb t0 rng h ht0 ht hg)

/-- the same for every intermediate state of the history (every call returned normally) -/
theorem C01_total_prefix (ms : List Machine) (hms : MachinesValid ms) (fp fb : F64) (t0 : Int) (rng : σ)
    (h h' : List Call) (lo : Int) (B : Nat) (ht0 : lo ≤ t0 ∧ t0 ≤ lo + B)
    (ht : ∀ cl ∈ h ++ h', lo ≤ cl.2 ∧ cl.2 ≤ lo + B) (hg : ((h ++ h').length + 1) * B ≤ durMax) :
    (runCalls ρ (Fw.init ρ ms fp fb t0 rng) h).fault = none := by
  refine C01_total ρ ms hms fp fb t0 rng h lo B ht0 (fun cl hcl => ht cl (by simp [hcl])) ?_
  have : (h.length + 1) * B ≤ ((h ++ h').length + 1) * B := Nat.mul_le_mul_right B (by simp)
  omega

/-- Non-vacuity of the guard: a million calls spread over a century (in ns) satisfy it. -/
example : (1000000 + 1) * (100 * 365 * 86400 * 1000000000) ≤ durMax := by decide

/-- The remaining fault is reachable: four blocking periods of 2^62 s each (the clock jumping
    back in between) overflow the `Duration` that accumulates blocked time. No machine is needed. -/
theorem C01_dur_overflow_reachable :
    (runCalls unitOracle (Fw.init unitOracle [] 0 0 0 ())
      [([.blockingBegin 0], 0), ([.blockingEnd], bigT), ([.blockingBegin 0], 0), ([.blockingEnd], bigT),
       ([.blockingBegin 0], 0), ([.blockingEnd], bigT), ([.blockingBegin 0], 0), ([.blockingEnd], bigT)]).fault
      = some .durOverflow := by decide +kernel

/-- ... and three such periods do not overflow. -/
theorem C01_three_periods_fit :
    (runCalls unitOracle (Fw.init unitOracle [] 0 0 0 ())
      [([.blockingBegin 0], 0), ([.blockingEnd], bigT), ([.blockingBegin 0], 0), ([.blockingEnd], bigT),
       ([.blockingBegin 0], 0), ([.blockingEnd], bigT)]).fault = none := by decide +kernel

/-- Non-vacuity: the one-state machine with a probability-1 self loop on NormalSent is valid. -/
example : MachinesValid
    [{ allowedPaddingPackets := 0, maxPaddingFrac := 0, allowedBlockedMicrosec := 0, maxBlockingFrac := 0,
       states := [{ action := none, counterA := none, counterB := none,
                    transitions := [none, none, none, some [{ target := 0, prob := 0x3f800000 }], none, none, none,
                                    none, none, none, none, none, none] }] }] := by
  intro m hm
  simp only [List.mem_singleton] at hm
  subst hm
  constructor
  · decide +kernel
  · intro st hst
    simp only [List.mem_singleton] at hst
    subst hst
    rfl

/-- every call record of the model's trace meets the monitor's work bound (any machines, any
    oracle, any history, faulting or not) -/
theorem C01_monitor_work (ms : List Machine) (fp fb : F64) (t0 : Int) (rng : σ) (h : List Call) :
    ∀ r ∈ (LL.modelTrace ρ ms fp fb t0 rng h).calls, steps r.log ≤ workBound r.events.length ms.length :=
  MA.c01_work_trace ρ ms fp fb t0 rng h

/-- What the monitor does on the model's trace, for every machine set, configuration, oracle and
    history: it returns `none` exactly when neither `Framework::new` nor any call reports a fault. -/
theorem C01_monitor_model_iff (ms : List Machine) (fp fb : F64) (t0 : Int) (rng : σ) (h : List Call) :
    monitor (LL.modelTrace ρ ms fp fb t0 rng h) = none ↔
      (LL.modelTrace ρ ms fp fb t0 rng h).newRes = .ok ∧
      ∀ r ∈ (LL.modelTrace ρ ms fp fb t0 rng h).calls, r.res = .ok :=
  MA.c01_monitor_iff ρ ms fp fb t0 rng h

/-- The monitor accepts the model under the hypotheses of `C01_total`:
    * `hms` — the machines pass validation and have the Rust shape. Needed: `Fw.init` models
      `Framework::new` after validation succeeded, and for a machine without states it indexes out of
      range (`C01_monitor_rejects_unvalidated`); the implementation returns `Err` there instead.
    * `ht0`, `ht`, `hg` — the clock values lie in a window `[lo, lo + B]` with
      `(calls + 1) * B ≤ Duration::MAX`. Needed: outside it the model (and the code, known finding F6)
      overflows a `Duration`, and the monitor reports that (`C01_monitor_rejects_overflow`). -/
theorem C01_monitor_accepts_model (ms : List Machine) (hms : MachinesValid ms) (fp fb : F64) (t0 : Int) (rng : σ)
    (h : List Call) (lo : Int) (B : Nat) (ht0 : lo ≤ t0 ∧ t0 ≤ lo + B)
    (ht : ∀ cl ∈ h, lo ≤ cl.2 ∧ cl.2 ≤ lo + B) (hg : (h.length + 1) * B ≤ durMax) :
    monitor (LL.modelTrace ρ ms fp fb t0 rng h) = none :=
  MA.c01_monitor_model ρ ms (fun m hm => machineOK_of_validate m (hms m hm).1 (hms m hm).2) fp fb t0 rng h lo B ht0 ht hg

/-- the clock guard cannot be dropped: on the history of `C01_dur_overflow_reachable` (no machine
    needed) the eighth call of the model faults and the monitor reports it -/
theorem C01_monitor_rejects_overflow :
    (monitor (LL.modelTrace unitOracle [] 0 0 0 ()
      [([.blockingBegin 0], 0), ([.blockingEnd], bigT), ([.blockingBegin 0], 0), ([.blockingEnd], bigT),
       ([.blockingBegin 0], 0), ([.blockingEnd], bigT), ([.blockingBegin 0], 0), ([.blockingEnd], bigT)])).isSome
      = true := by decide +kernel

/-- validation cannot be dropped: for a machine without states (refused by `Framework::new`) the
    model's construction indexes out of range and the monitor reports a panic of `Framework::new` -/
theorem C01_monitor_rejects_unvalidated :
    (monitor (LL.modelTrace unitOracle
      [{ allowedPaddingPackets := 0, maxPaddingFrac := 0, allowedBlockedMicrosec := 0, maxBlockingFrac := 0,
         states := [] }] 0 0 0 () [])).isSome = true ∧
    Validate.machine { allowedPaddingPackets := 0, maxPaddingFrac := 0, allowedBlockedMicrosec := 0,
                       maxBlockingFrac := 0, states := [] } = false := by decide +kernel

section MonitorDemo

/-- the validated one-state machine of the example above (probability-1 self loop on NormalSent) -/
private def dM : Machine :=
  { allowedPaddingPackets := 0, maxPaddingFrac := 0, allowedBlockedMicrosec := 0, maxBlockingFrac := 0,
    states := [{ action := none, counterA := none, counterB := none,
                 transitions := [none, none, none, some [{ target := 0, prob := 0x3f800000 }], none, none, none,
                                 none, none, none, none, none, none] }] }
private def dTrace : FwTrace :=
  LL.modelTrace unitOracle [dM, dM] 0 0 5 ()
    [([.normalSent, .blockingBegin 1], 10), ([], 7), ([.blockingEnd, .normalSent, .timerEnd 9], 20)]

/-- the same trace with the log of call `k` replaced -/
private def tamper (t : FwTrace) (k : Nat) (log : List LogEntry) : FwTrace :=
  { t with calls := t.calls.modify k (fun c => { c with log := log }) }

/-- Non-vacuity of `C01_monitor_accepts_model`: the hypotheses hold for this trace (window
    `[5, 5 + 15]`, clock running backwards in between), no call faults, the calls log 4, 0 and 4
    transition invocations against bounds of 54, 18 and 72, the monitor accepts — and its work-bound
    rule is live: the same trace with 55 transition entries in the first call's log is rejected. -/
example : (∀ cl ∈ [(([.normalSent, .blockingBegin 1] : List TEvent), (10 : Int)), ([], 7),
        ([.blockingEnd, .normalSent, .timerEnd 9], 20)], (5 : Int) ≤ cl.2 ∧ cl.2 ≤ 5 + (15 : Nat)) ∧
    (3 + 1) * 15 ≤ durMax ∧
    dTrace.newRes = .ok ∧ dTrace.calls.map (·.res) = [.ok, .ok, .ok] ∧
    dTrace.calls.map (fun c => (steps c.log, workBound c.events.length dTrace.machines.length)) =
      [(4, 54), (0, 18), (4, 72)] ∧
    monitor dTrace = none ∧
    (monitor (tamper dTrace 0 (List.replicate 55 (.trans 0 3 0)))).isSome = true := by decide +kernel

end MonitorDemo

end Mb.C01
