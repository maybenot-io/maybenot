/-
  C14 — without machines the simulator reproduces the input trace.  `C14.holds` (Spec/C14.lean)
  is the predicate the monitor evaluates on every generated run through `sim` and `sim_advanced`
  with every filter combination: only plain packets, TunnelSent at exactly the trace's `s` times,
  TunnelRecv at exactly its `r` times, the server's view shifted by the delay, ordered by time.

  About the model this file proves, for every time-ordered parsed trace within `Duration::MAX`,
  every delay, every filter combination and no explicit packets-per-second limit:
  * the hops (`C14_S2_*`): NormalSent → TunnelSent (same side and time) → TunnelRecv (other side,
    exactly one delay later while the bottleneck adds nothing) → NormalRecv, none with padding;
    the window-covering lemma (`C14_S1_*`): the limit `parse_trace` derives is never exceeded by
    the bottleneck's window fed with the same times;
  * `C14_identity` (and `_raw`, `_sim`): a run that ends because all normal packets were processed
    returns a trace satisfying `C14.holds`; `C14_only_packets` and `C14_identity_partial` are the
    parts that need no hypothesis on times;
  * `C14_progress`: with valid limit fractions, `continue_after_all_normal` off and caps and fuel
    of at least `4·|trace|`, the run does end that way, after `4·|trace| − k` iterations, `k ≤ |trace|`
    the NormalRecv events still queued; hence `C14_identity_total` without a hypothesis on the
    stop reason, and `C14_strict_bound_needed` shows "strictly within `Duration::MAX`" is needed;
  * `C14_monitor_accepts_model`: under these hypotheses and for EVERY setting of the two caps
    `C14.monitor` returns `none` on the model's own observation; `C14_monitor_hypotheses_needed`
    gives, for each hypothesis, a model observation the monitor rejects without it.
-/
import MbVerif.Proofs.SimNoMachines
import MbVerif.Proofs.SimWindow
import MbVerif.Proofs.SimOnlyPackets
import MbVerif.Proofs.SimMatch
import MbVerif.Proofs.SimRaw
import MbVerif.Proofs.SimRun
import MbVerif.Proofs.SimIdentity
import MbVerif.Proofs.SimProgress
import MbVerif.Props.C15
import MbVerif.Spec.C14

namespace Mb.C14
open Mb Mb.Sim

theorem C14_S2_normalSent (next : SimEvent) (sq sq' : SimQueue) (byp : Bool) (net net' : Bottleneck) (now : Int)
    (na : Bool) (hev : next.event = .normalSent)
    (h : simNetworkStack next sq byp net now = .ok (na, sq', net')) :
    sq' = sq.pushSim ⟨.tunnelSent, next.time, next.client, false, false, false⟩ ∧ net' = net ∧ na = false := by
  unfold simNetworkStack at h
  simp only [hev] at h
  cases h
  exact ⟨rfl, rfl, rfl⟩

/-- S1 (per packet): within the packets-per-second limit the network delay is exactly the
    configured one and no aggregate delay is queued. -/
theorem C14_S1_no_bottleneck_partial (b b' : Bottleneck) (now : Int) (c : Bool) (r : Nat × Option Nat)
    (hcount : ((if c then b.clientWindow else b.serverWindow).add now).1 ≤ b.ppsLimit)
    (h : b.sample now c = .ok (r, b')) :
    r = (b.network.delay, none) ∧ b'.aggQueue = b.aggQueue ∧ b'.clientAgg = b.clientAgg ∧ b'.serverAgg = b.serverAgg := by
  rw [Bottleneck.sample_within hcount] at h
  cases h
  unfold winUpd
  cases c <;> exact ⟨rfl, rfl, rfl, rfl⟩

/-- S1 (window covering), complete at the level of the windows.  For every time-ordered
    trace: feed the bottleneck's window (length `SIM_BOTTLENECK_WINDOW_NS`) with the client's
    send times, or with the client's receive times shifted by any constant (the server sends them
    one network delay earlier): no count ever exceeds the limit `parse_trace` derived from the
    same trace.  So as long as the tunnel-sent events of a side happen at that side's trace times
    — which is what S2 maintains — `NetworkBottleneck::sample` adds nothing
    (`C14_S1_no_bottleneck_partial`); the induction over the main loop that ties the two together
    is `step_exact` in `Proofs/SimExact.lean`. -/
theorem C14_S1_parsed_limit_never_exceeded (trace : List TraceLine) (delay : Nat) (shift : Int)
    (hs : Asc (sTimes trace)) (hr : Asc (rTimes trace)) :
    ∃ lim, (parseTrace trace delay).maxPps = some lim ∧
      (∀ c ∈ feedCounts ⟨Gen.SIM_BOTTLENECK_WINDOW_NS, []⟩ (sTimes trace), c ≤ lim) ∧
      (∀ c ∈ feedCounts ⟨Gen.SIM_BOTTLENECK_WINDOW_NS, []⟩ ((rTimes trace).map (· + shift)), c ≤ lim) := by
  obtain ⟨lim, hlim, h1, h2⟩ := parseTrace_limit trace delay
  refine ⟨lim, hlim, feedCounts_bottleneck_le lim _ hs h1, fun c hc => ?_⟩
  have hshift := feedCounts_shift Gen.SIM_BOTTLENECK_WINDOW_NS shift (rTimes trace) []
  rw [List.map_nil] at hshift
  rw [hshift] at hc
  exact feedCounts_bottleneck_le lim _ hr h2 c hc

/-- "…and nothing else": only plain packets (composed, trace level).  For every parsed trace,
    delay, argument record (any filters, caps, explicit pps or not) and oracle, without machines
    on either side, every event of the returned trace is a NormalSent, TunnelSent, TunnelRecv or
    NormalRecv without padding, bypass or replace flag: the `onlyPackets` conjunct of
    `C14.holds`.  No PaddingSent, no blocking and no timer event can appear. -/
theorem C14_only_packets {σ : Type} (ρ : Oracle σ) (budget : Nat) (trace : List TraceLine) (delay : Nat) (a : Args) (orc : σ) :
    onlyPackets (simAdvanced ρ budget [] [] (parseTrace trace delay) a orc).trace = true := by
  rw [onlyPackets_eq, simAdvanced_trace]
  split
  · rfl
  · rw [List.all_eq_true]
    intro e he
    obtain ⟨r, hr, rfl⟩ := List.mem_map.1 he
    exact simAdvanced_nomach ρ budget trace delay a orc r (List.mem_filter.1 hr).1

/-- Composed, partial: without machines, on the returned unfiltered trace of a run that ended
    because all normal packets were processed, (i) only plain packets occur, (ii) the trace is
    ordered by time, (iii) each side has exactly as many TunnelSent events as the input trace
    has lines of its direction, and (iv) every TunnelRecv is matched with a distinct TunnelSent
    of the other side at least one network delay earlier.  That the TunnelSent *times* are exactly
    the trace's times, which `C14.holds` asks in addition, is `C14_identity`. -/
theorem C14_identity_partial {σ : Type} (ρ : Oracle σ) (budget : Nat) (trace : List TraceLine) (delay : Nat) (a : Args)
    (orc : σ) (hd : a.network.delay = delay) (hoc : a.onlyClientEvents = false) (hon : a.onlyNetworkActivity = false)
    (hstop : (simAdvanced ρ budget [] [] (parseTrace trace delay) a orc).stop = .noNormal) :
    let tr := (simAdvanced ρ budget [] [] (parseTrace trace delay) a orc).trace
    onlyPackets tr = true ∧ tr.Pairwise (fun x y => x.time ≤ y.time) ∧
    (∀ c, C15.normalSentCount tr c = C15.share trace c) ∧ C15.causality delay tr = true := by
  have hok : ∀ f, (simAdvanced ρ budget [] [] (parseTrace trace delay) a orc).stop ≠ .fault f := by
    intro f hf; rw [hstop] at hf; cases hf
  refine ⟨C14_only_packets ρ budget trace delay a orc, C15.C15_trace_sorted ρ budget [] [] _ a orc, ?_,
    C15.C15_causality_matching ρ budget [] [] trace delay a orc hd hoc hon hok⟩
  intro c
  exact (C15.C15_conservation_trace ρ budget [] [] trace delay a orc hoc hon hok c).2 hstop

/-- only plain packets, for raw traces with all direction tokens -/
theorem C14_only_packets_raw {σ : Type} (ρ : Oracle σ) (budget : Nat) (raw : List RawLine) (delay : Nat) (a : Args) (orc : σ) :
    onlyPackets (simAdvanced ρ budget [] [] (parseTraceRaw raw delay) a orc).trace = true := by
  rw [parseTraceRaw_eq]
  exact C14_only_packets ρ budget (normalLines raw) delay a orc

/-- the composed partial identity for raw traces: the expected trace is built from the normal
    lines only -/
theorem C14_identity_partial_raw {σ : Type} (ρ : Oracle σ) (budget : Nat) (raw : List RawLine) (delay : Nat) (a : Args)
    (orc : σ) (hd : a.network.delay = delay) (hoc : a.onlyClientEvents = false) (hon : a.onlyNetworkActivity = false)
    (hstop : (simAdvanced ρ budget [] [] (parseTraceRaw raw delay) a orc).stop = .noNormal) :
    let tr := (simAdvanced ρ budget [] [] (parseTraceRaw raw delay) a orc).trace
    onlyPackets tr = true ∧ tr.Pairwise (fun x y => x.time ≤ y.time) ∧
    (∀ c, C15.normalSentCount tr c = C15.share (normalLines raw) c) ∧ C15.causality delay tr = true := by
  rw [parseTraceRaw_eq] at hstop ⊢
  exact C14_identity_partial ρ budget (normalLines raw) delay a orc hd hoc hon hstop

/-- window covering for raw traces: the limit is derived from the normal lines only -/
theorem C14_S1_parsed_limit_never_exceeded_raw (raw : List RawLine) (delay : Nat) (shift : Int)
    (hs : Asc (sTimes (normalLines raw))) (hr : Asc (rTimes (normalLines raw))) :
    ∃ lim, (parseTraceRaw raw delay).maxPps = some lim ∧
      (∀ c ∈ feedCounts ⟨Gen.SIM_BOTTLENECK_WINDOW_NS, []⟩ (sTimes (normalLines raw)), c ≤ lim) ∧
      (∀ c ∈ feedCounts ⟨Gen.SIM_BOTTLENECK_WINDOW_NS, []⟩ ((rTimes (normalLines raw)).map (· + shift)), c ≤ lim) := by
  rw [parseTraceRaw_eq]
  exact C14_S1_parsed_limit_never_exceeded (normalLines raw) delay shift hs hr

/-- C14, composed: without machines the simulator reproduces the input trace.  For every
    parsed trace whose `s` times and `r` times are in time order and within `Duration::MAX`
    (with two network delays to spare), every network delay, every argument record without an
    explicit packets-per-second limit (any filters, any caps) and every oracle: if the run ended
    because all normal packets were processed (the caps did not bind), then the returned trace,
    on the observation time axis (offsets from the first base event), satisfies `C14.holds` —
    the predicate the monitor evaluates on the implementation's output: only plain packet events;
    from the client's perspective a TunnelSent at exactly every `s` time and a TunnelRecv at
    exactly every `r` time; unless only client events are kept, the server's TunnelSent at the
    `r` times minus the delay and its TunnelRecv at the `s` times plus the delay; ordered by
    time.  So nothing is delayed by the trace-derived bottleneck, nothing is served late, and
    nothing else happens. -/
theorem C14_identity {σ : Type} (ρ : Oracle σ) (budget : Nat) (trace : List TraceLine) (delay : Nat) (a : Args) (orc : σ)
    (hnet : a.network = ⟨delay, none⟩) (hs : Asc (sTimes trace)) (hr : Asc (rTimes trace))
    (hB : ∀ l ∈ trace, ((l.1 : Nat) : Int) + 2 * (delay : Int) ≤ durMax)
    (hstop : (simAdvanced ρ budget [] [] (parseTrace trace delay) a orc).stop = .noNormal) :
    C14.holds trace delay a.onlyClientEvents
      ((simAdvanced ρ budget [] [] (parseTrace trace delay) a orc).trace.map
        (SimEvent.shift ((parseTrace trace delay).firstTime.getD 0))) = true := by
  obtain ⟨lim, hlim, hfs, hfr⟩ := C14_S1_parsed_limit_never_exceeded trace delay (-(delay : Int)) hs hr
  exact sim_identity ρ budget trace delay lim a orc hnet hlim hs hr hfs hfr hB hstop

/-- the same for raw input traces with all direction tokens: the expected trace consists of the
    normal lines (`s`, `sn`, `r`, `rn`); padding lines are not packets of the trace -/
theorem C14_identity_raw {σ : Type} (ρ : Oracle σ) (budget : Nat) (raw : List RawLine) (delay : Nat) (a : Args) (orc : σ)
    (hnet : a.network = ⟨delay, none⟩) (hs : Asc (sTimes (normalLines raw))) (hr : Asc (rTimes (normalLines raw)))
    (hB : ∀ l ∈ normalLines raw, ((l.1 : Nat) : Int) + 2 * (delay : Int) ≤ durMax)
    (hstop : (simAdvanced ρ budget [] [] (parseTraceRaw raw delay) a orc).stop = .noNormal) :
    C14.holds (normalLines raw) delay a.onlyClientEvents
      ((simAdvanced ρ budget [] [] (parseTraceRaw raw delay) a orc).trace.map
        (SimEvent.shift ((parseTraceRaw raw delay).firstTime.getD 0))) = true := by
  rw [parseTraceRaw_eq] at hstop ⊢
  exact C14_identity ρ budget (normalLines raw) delay a orc hnet hs hr hB hstop

/-- the same for `sim` (which fixes the network to the delay without a packets-per-second limit
    and keeps both sides) -/
theorem C14_identity_sim {σ : Type} (ρ : Oracle σ) (budget : Nat) (raw : List RawLine) (delay maxLen : Nat) (on : Bool) (orc : σ)
    (hs : Asc (sTimes (normalLines raw))) (hr : Asc (rTimes (normalLines raw)))
    (hB : ∀ l ∈ normalLines raw, ((l.1 : Nat) : Int) + 2 * (delay : Int) ≤ durMax)
    (hstop : (sim ρ budget [] [] (parseTraceRaw raw delay) delay maxLen on orc).stop = .noNormal) :
    C14.holds (normalLines raw) delay false
      ((sim ρ budget [] [] (parseTraceRaw raw delay) delay maxLen on orc).trace.map
        (SimEvent.shift ((parseTraceRaw raw delay).firstTime.getD 0))) = true :=
  C14_identity_raw ρ budget raw delay _ orc rfl hs hr hB hstop

/-- C14, progress.  A run without machines on a non-empty parsed trace whose `s` times and
    `r` times are in time order and *strictly* within `Duration::MAX` (two network delays to
    spare), with a network without explicit packets-per-second limit, limit fractions that
    `Framework::new` accepts, `continue_after_all_normal` off, `max_sim_iterations` and
    `max_trace_length` each zero (unlimited) or at least `4·|trace|`, and model loop fuel of at
    least `4·|trace| − 1`: the run ends because all normal packets were processed (so: no fault,
    no cap, no early empty queue, fuel not exhausted).  The loop performs at least `3·|trace|`
    and at most `4·|trace| − 1` iterations — exactly `4·|trace|` minus the number of NormalRecv
    events still queued in the final state, in which no normal packet is queued. -/
theorem C14_progress {σ : Type} (ρ : Oracle σ) (budget : Nat) (trace : List TraceLine) (delay : Nat) (a : Args) (orc : σ)
    (hne : trace ≠ []) (hnet : a.network = ⟨delay, none⟩) (hs : Asc (sTimes trace)) (hr : Asc (rTimes trace))
    (hB : ∀ l ∈ trace, ((l.1 : Nat) : Int) + 2 * (delay : Int) < durMax)
    (hfrac : Validate.fracOK a.fpClient = true ∧ Validate.fracOK a.fbClient = true ∧
      Validate.fracOK a.fpServer = true ∧ Validate.fracOK a.fbServer = true)
    (hcont : a.continueAfterAllNormal = false)
    (hit : a.maxSimIterations = 0 ∨ 4 * trace.length ≤ a.maxSimIterations)
    (hlen : a.maxTraceLength = 0 ∨ 4 * trace.length ≤ a.maxTraceLength)
    (hbud : 4 * trace.length ≤ budget + 1) :
    (simAdvanced ρ budget [] [] (parseTrace trace delay) a orc).stop = .noNormal ∧
    3 * trace.length ≤ (simAdvanced ρ budget [] [] (parseTrace trace delay) a orc).stream.length ∧
    (simAdvanced ρ budget [] [] (parseTrace trace delay) a orc).stream.length + 1 ≤ 4 * trace.length ∧
    ∃ stf, (simAdvanced ρ budget [] [] (parseTrace trace delay) a orc).final = some stf ∧
      stf.sq.noNormalPackets = true ∧
      (simAdvanced ρ budget [] [] (parseTrace trace delay) a orc).stream.length + tcount isNR stf.sq = 4 * trace.length := by
  obtain ⟨lim, hlim, hfs, hfr⟩ := C14_S1_parsed_limit_never_exceeded trace delay (-(delay : Int)) hs hr
  obtain ⟨hstop, stf, hfin, hnn, hcnt, hge, hle⟩ :=
    sim_progress ρ budget trace delay lim a orc hne hnet hlim hs hr hfs hfr hB hfrac hcont hit hlen hbud
  exact ⟨hstop, by omega, by omega, stf, hfin, hnn, hcnt⟩

/-- progress for raw input traces with all direction tokens (padding lines are not packets) -/
theorem C14_progress_raw {σ : Type} (ρ : Oracle σ) (budget : Nat) (raw : List RawLine) (delay : Nat) (a : Args) (orc : σ)
    (hne : normalLines raw ≠ []) (hnet : a.network = ⟨delay, none⟩)
    (hs : Asc (sTimes (normalLines raw))) (hr : Asc (rTimes (normalLines raw)))
    (hB : ∀ l ∈ normalLines raw, ((l.1 : Nat) : Int) + 2 * (delay : Int) < durMax)
    (hfrac : Validate.fracOK a.fpClient = true ∧ Validate.fracOK a.fbClient = true ∧
      Validate.fracOK a.fpServer = true ∧ Validate.fracOK a.fbServer = true)
    (hcont : a.continueAfterAllNormal = false)
    (hit : a.maxSimIterations = 0 ∨ 4 * (normalLines raw).length ≤ a.maxSimIterations)
    (hlen : a.maxTraceLength = 0 ∨ 4 * (normalLines raw).length ≤ a.maxTraceLength)
    (hbud : 4 * (normalLines raw).length ≤ budget + 1) :
    (simAdvanced ρ budget [] [] (parseTraceRaw raw delay) a orc).stop = .noNormal ∧
    3 * (normalLines raw).length ≤ (simAdvanced ρ budget [] [] (parseTraceRaw raw delay) a orc).stream.length ∧
    (simAdvanced ρ budget [] [] (parseTraceRaw raw delay) a orc).stream.length + 1 ≤ 4 * (normalLines raw).length := by
  rw [parseTraceRaw_eq]
  obtain ⟨h1, h2, h3, _⟩ := C14_progress ρ budget (normalLines raw) delay a orc hne hnet hs hr hB hfrac hcont hit hlen hbud
  exact ⟨h1, h2, h3⟩

/-- C14, composed and total: without machines the simulator reproduces the input trace.
    `C14_identity` without the hypothesis on the stop reason: for every non-empty parsed trace
    whose `s` times and `r` times are in time order and strictly within `Duration::MAX` (two
    network delays to spare), every network delay, every argument record without an explicit
    packets-per-second limit, with limit fractions in [0, 1], `continue_after_all_normal` off and
    caps that are zero or at least four times the number of packets (any filters), and every
    oracle, the returned trace satisfies `C14.holds`. -/
theorem C14_identity_total {σ : Type} (ρ : Oracle σ) (budget : Nat) (trace : List TraceLine) (delay : Nat) (a : Args) (orc : σ)
    (hne : trace ≠ []) (hnet : a.network = ⟨delay, none⟩) (hs : Asc (sTimes trace)) (hr : Asc (rTimes trace))
    (hB : ∀ l ∈ trace, ((l.1 : Nat) : Int) + 2 * (delay : Int) < durMax)
    (hfrac : Validate.fracOK a.fpClient = true ∧ Validate.fracOK a.fbClient = true ∧
      Validate.fracOK a.fpServer = true ∧ Validate.fracOK a.fbServer = true)
    (hcont : a.continueAfterAllNormal = false)
    (hit : a.maxSimIterations = 0 ∨ 4 * trace.length ≤ a.maxSimIterations)
    (hlen : a.maxTraceLength = 0 ∨ 4 * trace.length ≤ a.maxTraceLength)
    (hbud : 4 * trace.length ≤ budget + 1) :
    C14.holds trace delay a.onlyClientEvents
      ((simAdvanced ρ budget [] [] (parseTrace trace delay) a orc).trace.map
        (SimEvent.shift ((parseTrace trace delay).firstTime.getD 0))) = true :=
  C14_identity ρ budget trace delay a orc hnet hs hr (fun l hl => by have := hB l hl; omega)
    (C14_progress ρ budget trace delay a orc hne hnet hs hr hB hfrac hcont hit hlen hbud).1

/-- the same for raw input traces with all direction tokens -/
theorem C14_identity_raw_total {σ : Type} (ρ : Oracle σ) (budget : Nat) (raw : List RawLine) (delay : Nat) (a : Args) (orc : σ)
    (hne : normalLines raw ≠ []) (hnet : a.network = ⟨delay, none⟩)
    (hs : Asc (sTimes (normalLines raw))) (hr : Asc (rTimes (normalLines raw)))
    (hB : ∀ l ∈ normalLines raw, ((l.1 : Nat) : Int) + 2 * (delay : Int) < durMax)
    (hfrac : Validate.fracOK a.fpClient = true ∧ Validate.fracOK a.fbClient = true ∧
      Validate.fracOK a.fpServer = true ∧ Validate.fracOK a.fbServer = true)
    (hcont : a.continueAfterAllNormal = false)
    (hit : a.maxSimIterations = 0 ∨ 4 * (normalLines raw).length ≤ a.maxSimIterations)
    (hlen : a.maxTraceLength = 0 ∨ 4 * (normalLines raw).length ≤ a.maxTraceLength)
    (hbud : 4 * (normalLines raw).length ≤ budget + 1) :
    C14.holds (normalLines raw) delay a.onlyClientEvents
      ((simAdvanced ρ budget [] [] (parseTraceRaw raw delay) a orc).trace.map
        (SimEvent.shift ((parseTraceRaw raw delay).firstTime.getD 0))) = true :=
  C14_identity_raw ρ budget raw delay a orc hnet hs hr (fun l hl => by have := hB l hl; omega)
    (C14_progress_raw ρ budget raw delay a orc hne hnet hs hr hB hfrac hcont hit hlen hbud).1

theorem fracOK_zero : Validate.fracOK (0 : F64) = true := by decide +kernel

/-- the same for `sim` (network fixed to the delay, no packets-per-second limit, no iteration cap,
    fractions 0, both sides kept): only the trace-length cap and the model's fuel remain -/
theorem C14_identity_sim_total {σ : Type} (ρ : Oracle σ) (budget : Nat) (raw : List RawLine) (delay maxLen : Nat) (on : Bool) (orc : σ)
    (hne : normalLines raw ≠ [])
    (hs : Asc (sTimes (normalLines raw))) (hr : Asc (rTimes (normalLines raw)))
    (hB : ∀ l ∈ normalLines raw, ((l.1 : Nat) : Int) + 2 * (delay : Int) < durMax)
    (hlen : maxLen = 0 ∨ 4 * (normalLines raw).length ≤ maxLen)
    (hbud : 4 * (normalLines raw).length ≤ budget + 1) :
    (sim ρ budget [] [] (parseTraceRaw raw delay) delay maxLen on orc).stop = .noNormal ∧
    C14.holds (normalLines raw) delay false
      ((sim ρ budget [] [] (parseTraceRaw raw delay) delay maxLen on orc).trace.map
        (SimEvent.shift ((parseTraceRaw raw delay).firstTime.getD 0))) = true := by
  have hp := C14_progress_raw ρ budget raw delay
    { network := ⟨delay, none⟩, maxTraceLength := maxLen, maxSimIterations := 0,
      continueAfterAllNormal := false, onlyClientEvents := false, onlyNetworkActivity := on,
      fpClient := 0, fbClient := 0, fpServer := 0, fbServer := 0 } orc hne rfl hs hr hB
    ⟨fracOK_zero, fracOK_zero, fracOK_zero, fracOK_zero⟩ rfl (Or.inl rfl) hlen hbud
  exact ⟨hp.1, C14_identity_sim ρ budget raw delay maxLen on orc hs hr (fun l hl => by have := hB l hl; omega) hp.1⟩

/-- an oracle for concrete runs (never consulted: there are no machines) -/
def zeroOracle : Oracle Unit := ⟨fun _ => (0, ()), fun _ _ => (0, ())⟩

/-- a three-packet trace: client sends at 0 and 7 ns, receives at 5 ns; delay 3 ns -/
def demoRaw : List RawLine := [⟨0, .s⟩, ⟨2, .sp⟩, ⟨5, .r⟩, ⟨7, .sn⟩]

/-- non-vacuity of `C14_identity_sim_total` / `C14_progress_raw`: the demo trace meets every
    hypothesis (with the tight fuel `4·3 − 1` and the tight cap `4·3`), and its run indeed stops
    because all normal packets were processed, after `4·3 − 1 = 11` iterations -/
example :
    normalLines demoRaw ≠ [] ∧ Asc (sTimes (normalLines demoRaw)) ∧ Asc (rTimes (normalLines demoRaw)) ∧
    (∀ l ∈ normalLines demoRaw, ((l.1 : Nat) : Int) + 2 * ((3 : Nat) : Int) < durMax) ∧
    ((12 : Nat) = 0 ∨ 4 * (normalLines demoRaw).length ≤ 12) ∧ 4 * (normalLines demoRaw).length ≤ 11 + 1 ∧
    (sim zeroOracle 11 [] [] (parseTraceRaw demoRaw 3) 3 12 false ()).stop = .noNormal ∧
    (sim zeroOracle 11 [] [] (parseTraceRaw demoRaw 3) 3 12 false ()).stream.length = 11 := by
  unfold Asc
  decide +kernel

/-- the caps are tight: one less and the run stops on the cap / the fuel instead -/
example :
    (sim zeroOracle 11 [] [] (parseTraceRaw demoRaw 3) 3 11 false ()).stop = .maxTrace ∧
    (sim zeroOracle 10 [] [] (parseTraceRaw demoRaw 3) 3 12 false ()).stop = .loopFuel := by
  decide +kernel

/-- "strictly within `Duration::MAX`" cannot be weakened to "within": with delay 0, a packet
    exactly `Duration::MAX` after the first one meets every hypothesis of `C14_identity` except
    the one on the stop reason, and is never served — `pick_next` reads the offset
    `Duration::MAX` as "nothing to do" — so the run ends with an empty-queue stop after the four
    events of the first packet. -/
theorem C14_strict_bound_needed :
    (∀ l ∈ [((0 : Nat), true), (durMax, true)], ((l.1 : Nat) : Int) + 2 * ((0 : Nat) : Int) ≤ durMax) ∧
    (sim zeroOracle 8 [] [] (parseTrace [(0, true), (durMax, true)] 0) 0 0 false ()).stop = .queueEmpty ∧
    (sim zeroOracle 8 [] [] (parseTrace [(0, true), (durMax, true)] 0) 0 0 false ()).stream.length = 4 := by
  decide +kernel

/-- The TunnelSent hop of S2 (exact when the bottleneck adds nothing): a normal TunnelSent at the clock
    queues one normal TunnelRecv for the other side exactly one configured delay later. -/
theorem C14_S2_tunnelSent (next : SimEvent) (sq sq' : SimQueue) (net net' : Bottleneck) (now : Int)
    (hpad : next.containsPadding = false) (hnow : next.time = now)
    (hcount : ((if next.client then net.clientWindow else net.serverWindow).add now).1 ≤ net.ppsLimit)
    (h : netTunnelSent next sq net now = .ok (sq', net')) :
    sq' = sq.pushSim ⟨.tunnelRecv, next.time + net.network.delay, !next.client, false, false, false⟩ ∧
    net'.aggQueue = net.aggQueue := by
  rw [netTunnelSent_within hpad hnow hcount] at h
  cases h
  exact ⟨rfl, by unfold winUpd; split <;> rfl⟩

theorem C14_S2_tunnelRecv (next : SimEvent) (sq sq' : SimQueue) (byp : Bool) (net net' : Bottleneck) (now : Int)
    (na : Bool) (hev : next.event = .tunnelRecv) (hpad : next.containsPadding = false)
    (h : simNetworkStack next sq byp net now = .ok (na, sq', net')) :
    sq' = sq.pushSim ⟨.normalRecv, next.time, next.client, false, false, false⟩ ∧ net' = net ∧ na = true := by
  unfold simNetworkStack at h
  simp only [hev, hpad] at h
  cases h
  exact ⟨rfl, rfl, rfl⟩

/-- No machines, no actions, no draws: a framework without machines returns no action and
    consumes no randomness for any batch of events at any clock value, and stays that way. -/
theorem C14_S2_no_machines_no_actions {σ : Type} (ρ : Oracle σ) (es : List TEvent) (t : Int) (s : Fw σ)
    (h : Quiet s) :
    Quiet (triggerEvents ρ es t s) ∧ (triggerEvents ρ es t s).rng = s.rng ∧ (triggerEvents ρ es t s).actionsOut = [] :=
  triggerEvents_quiet ρ es t s h

/-- the framework the simulator creates for an empty machine list is such a framework -/
theorem C14_S2_init_quiet {σ : Type} (ρ : Oracle σ) (fp fb : F64) (t0 : Int) (orc : σ) :
    Quiet (Fw.init ρ [] fp fb t0 orc) ∧ (Fw.init ρ [] fp fb t0 orc).rng = orc :=
  init_quiet ρ fp fb t0 orc

/-- hence `trigger_update` on a side without machines leaves queue, network state, oracle, slots,
    timers and blocking exactly as they were -/
theorem C14_S2_trigger_update_inert {σ : Type} (ρ : Oracle σ) (st st' : St σ) (next : SimEvent) (acts : List TAction)
    (hq : Quiet (st.side next.client).fw) (h : triggerUpdate ρ st next = .ok (acts, st')) :
    acts = [] ∧ st'.sq = st.sq ∧ st'.orc = st.orc ∧ st'.net = st.net ∧
    (st'.side next.client).schedAction = (st.side next.client).schedAction ∧
    (st'.side next.client).schedTimer = (st.side next.client).schedTimer ∧
    (st'.side next.client).blockingUntil = (st.side next.client).blockingUntil ∧
    Quiet (st'.side next.client).fw :=
  triggerUpdate_quiet ρ hq h

/-- non-vacuity of the window hypothesis: one packet into an empty one-second window with the
    trace-derived limit 10 stays within the limit -/
example : ((⟨1000000000, []⟩ : WindowCount).add 5).1 ≤ 10 := by decide

/-- The C14 monitor accepts the model's own observation.  For every case and every run
    (`sim` or `sim_advanced`, every filter combination, EVERY setting of the two caps): if the
    raw input trace has at least one normal line, its `s` times and `r` times are in time order
    and strictly within `Duration::MAX` (two network delays to spare), the limit fractions of the
    run are in [0, 1], `continue_after_all_normal` is off (for a run through `sim` both hold by
    construction) and the model's loop budget is at least `4·|trace| − 1`, then `C14.monitor`,
    evaluated on the model's observation of the run, reports no failure.  With machines on either
    side, or an explicit packets-per-second limit, the monitor does not apply and returns `none`
    at once; otherwise the model run never panics (also under caps that cut it short: a cap only
    removes a suffix of the run), a binding cap makes the monitor skip the run, and a run whose
    caps do not bind ends because all normal packets were processed (`C14_progress`) and satisfies
    `C14.holds` (`C14_identity`). -/
theorem C14_monitor_accepts_model {σ : Type} (ρ : Oracle σ) (budget : Nat) (c : CaseIn) (r : RunIn) (orc : σ)
    (hne : normalLines c.trace ≠ [])
    (hs : Asc (sTimes (normalLines c.trace))) (hr : Asc (rTimes (normalLines c.trace)))
    (hB : ∀ l ∈ normalLines c.trace, ((l.1 : Nat) : Int) + 2 * (c.delay : Int) < durMax)
    (hfrac : Validate.fracOK (r.effArgs c.delay).fpClient = true ∧ Validate.fracOK (r.effArgs c.delay).fbClient = true ∧
      Validate.fracOK (r.effArgs c.delay).fpServer = true ∧ Validate.fracOK (r.effArgs c.delay).fbServer = true)
    (hcont : (r.effArgs c.delay).continueAfterAllNormal = false)
    (hbud : 4 * (normalLines c.trace).length ≤ budget + 1) :
    C14.monitor c (modelObs ρ budget c r orc) = none := by
  unfold C14.monitor
  cases hm : (c.mc.isEmpty && c.ms.isEmpty) with
  | false => simp
  | true =>
    simp only [Bool.not_true, Bool.false_eq_true, if_false]
    rw [modelObs_run]
    cases hp : (r.adv && r.pps.isSome) with
    | true => simp
    | false =>
      simp only [Bool.false_eq_true, if_false]
      simp only [Bool.and_eq_true, List.isEmpty_iff] at hm
      obtain ⟨hmc, hms⟩ := hm
      have hnet : (r.effArgs c.delay).network = ⟨c.delay, none⟩ := by
        unfold RunIn.effArgs
        cases hadv : r.adv with
        | false => rfl
        | true =>
          simp only [hadv, Bool.true_and] at hp
          have : r.pps = none := by
            cases hpp : r.pps with
            | none => rfl
            | some x => rw [hpp] at hp; simp at hp
          simp [this]
      have hout : modelOut ρ budget c r orc =
          simAdvanced ρ budget [] [] (parseTraceRaw c.trace c.delay) (r.effArgs c.delay) orc := by
        unfold modelOut; rw [hmc, hms]
      generalize r.effArgs c.delay = a at hfrac hcont hnet hout
      -- progress for arguments without a length cap and with a sufficient iteration cap
      have key : ∀ a' : Args, a'.network = ⟨c.delay, none⟩ →
          (Validate.fracOK a'.fpClient = true ∧ Validate.fracOK a'.fbClient = true ∧
            Validate.fracOK a'.fpServer = true ∧ Validate.fracOK a'.fbServer = true) →
          a'.continueAfterAllNormal = false →
          (a'.maxSimIterations = 0 ∨ 4 * (normalLines c.trace).length ≤ a'.maxSimIterations) →
          a'.maxTraceLength = 0 →
          (simAdvanced ρ budget [] [] (parseTraceRaw c.trace c.delay) a' orc).stop = .noNormal :=
        fun a' h1 h2 h3 h4 h5 =>
          (C14_progress_raw ρ budget c.trace c.delay a' orc hne h1 hs hr hB h2 h3 h4 (Or.inl h5) hbud).1
      have hnp : (modelOut ρ budget c r orc).stop.isPanic = false := by
        rw [hout]
        cases hst : (simAdvanced ρ budget [] [] (parseTraceRaw c.trace c.delay) a orc).stop with
        | fault f =>
          exfalso
          have h1 := simAdvanced_cap_fault ρ budget [] [] _ a orc f hst
          by_cases hit : a.maxSimIterations = 0 ∨ 4 * (normalLines c.trace).length ≤ a.maxSimIterations
          · rw [key a.uncapped hnet hfrac hcont hit rfl] at h1
            cases h1
          · have h2 := simAdvanced_iters_fault ρ budget [] [] _ a.uncapped orc (4 * (normalLines c.trace).length)
              (by show 0 < a.maxSimIterations; omega) (by show a.maxSimIterations ≤ _; omega) f h1
            rw [key (a.uncapped.withIters (4 * (normalLines c.trace).length)) hnet hfrac hcont (Or.inr (Nat.le_refl _)) rfl] at h2
            cases h2
        | loopFuel =>
          exfalso
          by_cases hm0 : a.maxSimIterations = 0
          · have h1 := simAdvanced_nonbinding ρ budget [] [] _ a orc (by rw [hst]; intro hc; cases hc)
            rw [h1, key a.uncapped hnet hfrac hcont (Or.inl hm0) rfl] at hst
            cases hst
          · exact simAdvanced_no_loopFuel ρ budget [] [] _ a orc (by omega) hst
        | queueEmpty | maxTrace | maxIter | noNormal => rfl
      rw [modelObs_res, res_ok hnp]
      simp only []
      cases hcb : capsDoNotBind a (normalLines c.trace).length
          ((modelOut ρ budget c r orc).trace.map (SimEvent.shift (obsT0 c))).length with
      | false => simp
      | true =>
        simp only [Bool.not_true, Bool.false_eq_true, if_false]
        unfold capsDoNotBind at hcb
        rw [List.length_map, hout] at hcb
        simp only [Bool.and_eq_true, Bool.or_eq_true, beq_iff_eq, decide_eq_true_eq] at hcb
        have hnmt : (simAdvanced ρ budget [] [] (parseTraceRaw c.trace c.delay) a orc).stop ≠ .maxTrace := by
          intro hmt
          have := simAdvanced_maxTrace ρ budget [] [] _ a orc hmt
          rcases hcb.1 with h | h <;> omega
        have hstop : (simAdvanced ρ budget [] [] (parseTraceRaw c.trace c.delay) a orc).stop = .noNormal := by
          rw [simAdvanced_nonbinding ρ budget [] [] _ a orc hnmt]
          exact key a.uncapped hnet hfrac hcont
            (by rcases hcb.2 with h | h; exact Or.inl h; exact Or.inr (by show _ ≤ a.maxSimIterations; omega)) rfl
        have hh := C14_identity_raw ρ budget c.trace c.delay a orc hnet hs hr
          (fun l hl => by have := hB l hl; omega) hstop
        rw [hout]
        unfold obsT0
        rw [hh]
        simp

/-- non-vacuity of `C14_monitor_accepts_model`: the four-line demo trace (one padding line)
    without machines, 10 ms delay, `sim_advanced` with an iteration cap of 40 and only client
    events kept, budget 11: every hypothesis holds, and the monitor evaluates to `none` -/
example :
    normalLines demoCase0.trace ≠ [] ∧ Asc (sTimes (normalLines demoCase0.trace)) ∧
    Asc (rTimes (normalLines demoCase0.trace)) ∧
    (∀ l ∈ normalLines demoCase0.trace, ((l.1 : Nat) : Int) + 2 * (demoCase0.delay : Int) < durMax) ∧
    ((demoRun "f10" 0 40 false true false).effArgs demoCase0.delay).continueAfterAllNormal = false ∧
    4 * (normalLines demoCase0.trace).length ≤ 11 + 1 := by
  unfold Asc
  decide +kernel

example : C14.monitor demoCase0 (modelObs zeroOracle 11 demoCase0 (demoRun "f10" 0 40 false true false) ()) = none := by
  simp only [modelObs_eq_S]
  decide +kernel

/-- not covered by the theorem (`hcont`): a run that continues after the last normal packet goes
    on to serve the queued NormalRecv events and ends with an empty queue; on the demo case the
    monitor accepts that observation as well (11 + 1 iterations) -/
example : (modelOut zeroOracle 100 demoCase0 (demoRun "u" 0 0 true false false) ()).stop = .queueEmpty ∧
    (modelOut zeroOracle 100 demoCase0 (demoRun "u" 0 0 true false false) ()).stream.length = 12 ∧
    C14.monitor demoCase0 (modelObs zeroOracle 100 demoCase0 (demoRun "u" 0 0 true false false) ()) = none := by
  simp only [modelObs_eq_S]
  decide +kernel

/-- with the padding machine on the client side the monitor does not apply -/
example : C14.monitor demoCase (modelObs zeroOracle 100 demoCase (demoRun "u" 0 40 true false false) ()) = none := by
  simp only [modelObs_eq_S]
  decide +kernel

/-- Each hypothesis excludes an observation of the model that the monitor rejects (all without
    machines, through `sim` or `sim_advanced` with caps that do not bind):
    * a packet exactly `Duration::MAX` after the first one (`hB`, cf. `C14_strict_bound_needed`):
      it is never served, "output is not the input trace";
    * a trace without a normal line (`hne`): `sq.get_first_time().unwrap()` panics;
    * a limit fraction of 2.0 (`hfrac`): `Framework::new(..).unwrap()` panics;
    * a model budget below `4·|trace| − 1` without an iteration cap (`hbud`): the observation is
      the model's own "loopfuel" class — an artefact of the model, the driver's budget is far above;
    * a trace that is not in time order (`hs`): `parse_trace` derives a packets-per-second limit
      of 20 from a trace with 22 packets in the first second, the bottleneck delays packets, and
      the output is not the input trace. -/
theorem C14_monitor_hypotheses_needed :
    (C14.monitor farCase (modelObs zeroOracle 8 farCase (demoSim 0 false) ())).isSome = true ∧
    (C14.monitor { demoCase0 with trace := [⟨5, .sp⟩] }
      (modelObs zeroOracle 8 { demoCase0 with trace := [⟨5, .sp⟩] } (demoSim 0 false) ())).isSome = true ∧
    (C14.monitor demoCase0 (modelObs zeroOracle 100 demoCase0
      { demoRun "u" 0 40 false false false with
        args := { demoArgs 0 40 false false false with fpClient := 0x4000000000000000 } } ())).isSome = true ∧
    (C14.monitor demoCase0 (modelObs zeroOracle 5 demoCase0 (demoRun "u" 0 0 false false false) ())).isSome = true ∧
    (C14.monitor zigzagCase (modelObs zeroOracle 1000 zigzagCase (demoSim 0 false) ())).isSome = true := by
  simp only [modelObs_eq_S]
  refine ⟨?_, ?_, ?_, ?_, ?_⟩ <;> decide +kernel

end Mb.C14
