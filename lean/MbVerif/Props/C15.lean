/-
  C15 — conservation and causality, on the simulator model.  Conservation is a counting invariant
  over the bit-faithful heap model (`push` adds exactly the pushed element, `pop` removes exactly
  the returned one).  Causality is proved in Hall form over the iteration stream — for every
  instant `T`, receipts of a kind on a side up to `T` are at most the sends of that kind on the
  other side up to `T − delay` — and turned into the monitor's matching predicate on the returned
  trace, whose final stable sort changes nothing because recorded times are the monotone clock.
  The per-arm theorems say where a TunnelSent / TunnelRecv can be queued at all.  Last, `C15.monitor`
  accepts the model's own observation (`modelObs`: what the driver compares the implementation
  with), under a guard that follows from the input bounds of `C19_total` and is needed.
-/
import MbVerif.Proofs.SimMatch
import MbVerif.Proofs.SimRaw
import MbVerif.Proofs.SimRun
import MbVerif.Proofs.SimMonitorAccept
import MbVerif.Spec.C15

namespace Mb.C15
open Mb Mb.Sim Mb.SimSpec

variable {σ : Type} (ρ : Oracle σ)

theorem C15_trace_sorted (budget : Nat) (mc ms : List Machine) (sq : SimQueue) (a : Args) (orc : σ) :
    (simAdvanced ρ budget mc ms sq a orc).trace.Pairwise (fun x y => x.time ≤ y.time) :=
  simAdvanced_trace_sorted ρ budget mc ms sq a orc

/-- The final sort is the identity: the returned trace is the kept part of the iteration
    stream, in iteration order. -/
theorem C15_final_sort_identity (budget : Nat) (mc ms : List Machine) (sq : SimQueue) (a : Args) (orc : σ)
    (hok : ∀ f, (simAdvanced ρ budget mc ms sq a orc).stop ≠ .fault f) :
    (simAdvanced ρ budget mc ms sq a orc).trace =
      ((simAdvanced ρ budget mc ms sq a orc).stream.filter a.keep).map (·.ev) :=
  simAdvanced_trace_stream ρ budget mc ms sq a orc hok

/-- One TunnelRecv per TunnelSent, one network delay later, same kind. -/
theorem C15_one_recv_per_send (next : SimEvent) (sq sq' : SimQueue) (byp : Bool) (net net' : Bottleneck) (now : Int)
    (na : Bool) (hev : next.event = .tunnelSent)
    (h : simNetworkStack next sq byp net now = .ok (na, sq', net')) :
    ∃ t : Int, sq' = sq.pushSim ⟨.tunnelRecv, t, !next.client, next.containsPadding, false, false⟩ ∧
      next.time + net.network.delay ≤ t := by
  unfold simNetworkStack at h
  simp only [hev] at h
  rw [map_ok_iff] at h
  obtain ⟨⟨sq1, net1⟩, h1, h2⟩ := h
  cases h2
  exact netTunnelSent_spec h1

/-- A base packet becomes exactly one normal TunnelSent. -/
theorem C15_normal_sent_to_tunnel (next : SimEvent) (sq sq' : SimQueue) (byp : Bool) (net net' : Bottleneck) (now : Int)
    (na : Bool) (hev : next.event = .normalSent)
    (h : simNetworkStack next sq byp net now = .ok (na, sq', net')) :
    sq' = sq.pushSim ⟨.tunnelSent, next.time, next.client, false, false, false⟩ ∧ net' = net := by
  unfold simNetworkStack at h
  simp only [hev] at h
  cases h
  exact ⟨rfl, rfl⟩

/-- Padding never creates a normal packet. -/
theorem C15_padding_never_creates_normal (next : SimEvent) (sq sq' : SimQueue) (byp : Bool) (net net' : Bottleneck)
    (now : Int) (na : Bool) (m : Nat) (hev : next.event = .paddingSent m)
    (h : simNetworkStack next sq byp net now = .ok (na, sq', net')) :
    sq' = sq.pushSim ⟨.tunnelSent, next.time, next.client, true, next.bypass, next.replace⟩ ∨ sq' = sq ∨
    ∃ qid entry sq1, sq.popBlocking qid byp next.client (net.agg next.client) = .ok (some (entry, sq1)) ∧
      sq' = sq1.pushSim { entry with bypass := true, replace := false } := by
  unfold simNetworkStack at h
  simp only [hev] at h
  rw [map_ok_iff] at h
  obtain ⟨⟨sq1, net1⟩, h1, h2⟩ := h
  cases h2
  exact netPaddingSent_spec h1

/-- Conservation of normal packets, for every machine set, trace, delay, argument record and
    oracle: per side, processed normal TunnelSent events ≤ the side's share of the input trace,
    with equality when the run stops because all normal packets were processed. -/
theorem C15_conservation (budget : Nat) (mc ms : List Machine) (trace : List TraceLine) (delay : Nat) (a : Args) (orc : σ) :
    (∀ c, (simAdvanced ρ budget mc ms (parseTrace trace delay) a orc).stream.countP (sentNormal c) ≤ shareOf trace c) ∧
    ((simAdvanced ρ budget mc ms (parseTrace trace delay) a orc).stop = .noNormal →
      ∀ c, (simAdvanced ρ budget mc ms (parseTrace trace delay) a orc).stream.countP (sentNormal c) = shareOf trace c) := by
  unfold simAdvanced
  have hpt := parseTrace_spec trace delay
  cases hi : initState ρ mc ms (parseTrace trace delay) a orc with
  | error f => simp
  | ok st =>
    simp only []
    have hsq := initState_sq ρ hi
    have hw : st.sq.WF := by rw [hsq]; exact hpt.1
    have hc := loop_conserve ρ a (loopFuel a budget) st 0 0 hw
    rw [finish_stream, finish_stop]
    constructor
    · intro c
      have := hc.1 c
      rw [hsq, hpt.2 c] at this
      exact this
    · intro hstop c
      obtain ⟨stf, hf, hnn⟩ := loop_noNormal ρ a (loopFuel a budget) st 0 0 hstop
      have h2 := hc.2 stf hf
      have h3 := h2.2 c
      rw [noNormal_pending_zero stf.sq h2.1 hnn c, hsq, hpt.2 c] at h3
      omega

/-- the same on the returned trace of an unfiltered run that did not fault, in the monitor's
    vocabulary -/
theorem C15_conservation_trace (budget : Nat) (mc ms : List Machine) (trace : List TraceLine) (delay : Nat) (a : Args)
    (orc : σ) (hoc : a.onlyClientEvents = false) (hon : a.onlyNetworkActivity = false)
    (hok : ∀ f, (simAdvanced ρ budget mc ms (parseTrace trace delay) a orc).stop ≠ .fault f) (c : Bool) :
    normalSentCount (simAdvanced ρ budget mc ms (parseTrace trace delay) a orc).trace c ≤ share trace c ∧
    ((simAdvanced ρ budget mc ms (parseTrace trace delay) a orc).stop = .noNormal →
      normalSentCount (simAdvanced ρ budget mc ms (parseTrace trace delay) a orc).trace c = share trace c) := by
  have hcons := C15_conservation ρ budget mc ms trace delay a orc
  rw [C15_final_sort_identity ρ budget mc ms _ a orc hok, filter_keep_unfiltered a hoc hon, normalSentCount_map_ev,
    share_eq_shareOf]
  exact ⟨hcons.1 c, fun h => hcons.2 h c⟩

/-- Causality at trace level (Hall form).  For every parsed trace, machine set, argument
    record and oracle, for each side `c`, each kind (normal / padding) and *every instant `T`*:
    the number of TunnelRecv events of that kind processed on side `c` with time ≤ `T` is at most
    the number of TunnelSent events of the same kind processed on the other side with
    time + delay ≤ `T`.  For the time-ordered stream this is equivalent to an injection from the
    receipts to distinct earlier sends of the same kind on the other side, each at least one
    network delay before (match the k-th receipt with the k-th send). -/
theorem C15_causality (budget : Nat) (mc ms : List Machine) (trace : List TraceLine) (delay : Nat) (a : Args) (orc : σ)
    (hd : a.network.delay = delay) (c pd : Bool) (T : Int) :
    (simAdvanced ρ budget mc ms (parseTrace trace delay) a orc).stream.countP (fun r => recvP c pd T r.ev) ≤
    (simAdvanced ρ budget mc ms (parseTrace trace delay) a orc).stream.countP (fun r => sendP c pd T delay r.ev) := by
  unfold simAdvanced
  cases hi : initState ρ mc ms (parseTrace trace delay) a orc with
  | error f => simp
  | ok st =>
    simp only []
    rw [finish_stream]
    have h := loop_causal ρ a c pd T (loopFuel a budget) st 0 0
    rw [initState_sq ρ hi, parseTrace_no_recv _ (recvP_pred c pd T), initState_network ρ hi, hd, Nat.zero_add] at h
    exact h

/-- the same on the returned trace of an unfiltered run that did not fault -/
theorem C15_causality_trace (budget : Nat) (mc ms : List Machine) (trace : List TraceLine) (delay : Nat) (a : Args)
    (orc : σ) (hd : a.network.delay = delay) (hoc : a.onlyClientEvents = false) (hon : a.onlyNetworkActivity = false)
    (hok : ∀ f, (simAdvanced ρ budget mc ms (parseTrace trace delay) a orc).stop ≠ .fault f) (c pd : Bool) (T : Int) :
    (simAdvanced ρ budget mc ms (parseTrace trace delay) a orc).trace.countP (recvP c pd T) ≤
    (simAdvanced ρ budget mc ms (parseTrace trace delay) a orc).trace.countP (sendP c pd T delay) := by
  rw [C15_final_sort_identity ρ budget mc ms _ a orc hok, filter_keep_unfiltered a hoc hon, List.countP_map,
    List.countP_map]
  exact C15_causality ρ budget mc ms trace delay a orc hd c pd T

/-- The monitor's causality predicate holds of the model: on the returned trace of an
    unfiltered run that did not fault, every TunnelRecv can be matched (k-th receipt with k-th
    send, per side and kind) with a distinct TunnelSent of the same kind on the other side at
    least one network delay earlier — `C15.causality`, exactly what the monitor evaluates on the
    implementation's traces. -/
theorem C15_causality_matching (budget : Nat) (mc ms : List Machine) (trace : List TraceLine) (delay : Nat) (a : Args)
    (orc : σ) (hd : a.network.delay = delay) (hoc : a.onlyClientEvents = false) (hon : a.onlyNetworkActivity = false)
    (hok : ∀ f, (simAdvanced ρ budget mc ms (parseTrace trace delay) a orc).stop ≠ .fault f) :
    causality delay (simAdvanced ρ budget mc ms (parseTrace trace delay) a orc).trace = true :=
  causality_of_hall delay _ (fun c pd T => C15_causality_trace ρ budget mc ms trace delay a orc hd hoc hon hok c pd T)

/-! Raw input traces carry all six direction tokens `s sn r rn sp rp` of `parse_trace`.  A side's
*share* of a raw trace is the number of its normal lines (`s`/`sn` for the client,
`r`/`rn` for the server): `share (normalLines raw) c`.  Padding lines `sp` / `rp` are ignored by
the parser, so they neither create packets nor count. -/

/-- Padding lines of the input create nothing: the queue parsed from a raw trace is the queue
    parsed from its normal lines (same events, same trace-derived packets-per-second limit). -/
theorem C15_padding_lines_ignored (raw : List RawLine) (delay : Nat) :
    parseTraceRaw raw delay = parseTrace (normalLines raw) delay :=
  parseTraceRaw_eq raw delay

theorem C15_conservation_raw (budget : Nat) (mc ms : List Machine) (raw : List RawLine) (delay : Nat) (a : Args) (orc : σ) :
    (∀ c, (simAdvanced ρ budget mc ms (parseTraceRaw raw delay) a orc).stream.countP (sentNormal c)
        ≤ shareOf (normalLines raw) c) ∧
    ((simAdvanced ρ budget mc ms (parseTraceRaw raw delay) a orc).stop = .noNormal →
      ∀ c, (simAdvanced ρ budget mc ms (parseTraceRaw raw delay) a orc).stream.countP (sentNormal c)
        = shareOf (normalLines raw) c) := by
  rw [parseTraceRaw_eq]
  exact C15_conservation ρ budget mc ms (normalLines raw) delay a orc

theorem C15_conservation_trace_raw (budget : Nat) (mc ms : List Machine) (raw : List RawLine) (delay : Nat) (a : Args)
    (orc : σ) (hoc : a.onlyClientEvents = false) (hon : a.onlyNetworkActivity = false)
    (hok : ∀ f, (simAdvanced ρ budget mc ms (parseTraceRaw raw delay) a orc).stop ≠ .fault f) (c : Bool) :
    normalSentCount (simAdvanced ρ budget mc ms (parseTraceRaw raw delay) a orc).trace c ≤ share (normalLines raw) c ∧
    ((simAdvanced ρ budget mc ms (parseTraceRaw raw delay) a orc).stop = .noNormal →
      normalSentCount (simAdvanced ρ budget mc ms (parseTraceRaw raw delay) a orc).trace c = share (normalLines raw) c) := by
  rw [parseTraceRaw_eq] at hok ⊢
  exact C15_conservation_trace ρ budget mc ms (normalLines raw) delay a orc hoc hon hok c

theorem C15_causality_matching_raw (budget : Nat) (mc ms : List Machine) (raw : List RawLine) (delay : Nat) (a : Args)
    (orc : σ) (hd : a.network.delay = delay) (hoc : a.onlyClientEvents = false) (hon : a.onlyNetworkActivity = false)
    (hok : ∀ f, (simAdvanced ρ budget mc ms (parseTraceRaw raw delay) a orc).stop ≠ .fault f) :
    causality delay (simAdvanced ρ budget mc ms (parseTraceRaw raw delay) a orc).trace = true := by
  rw [parseTraceRaw_eq] at hok ⊢
  exact C15_causality_matching ρ budget mc ms (normalLines raw) delay a orc hd hoc hon hok

/-- non-vacuity of `C15_final_sort_identity`'s hypothesis and of the ordering theorem: the
    concrete two-packet run ends without a fault after 7 iterations -/
example : (match exState with
    | some st => decide ((loop exOracle exArgs.unfiltered 100 st 0 0).stop = .noNormal)
    | none => false) = true := by decide +kernel

/-- the guard of `C15_monitor_accepts_model_partial`: a run that ended because `pick_next`
    returned `None` left no normal packet waiting in the queues of its last state (`pending` =
    the side's base NormalSent events plus its queued normal TunnelSent events) -/
def DrainedIfEmpty (o : SimOut σ) : Prop :=
  o.stop = .queueEmpty → ∀ stf, o.final = some stf → ∀ cl, stf.sq.pending cl = 0

/-- The C15 monitor accepts the model's own observation (partial).  For every case (machine
    lists on both sides, raw input trace with all direction tokens, network delay), every run
    (`sim` or `sim_advanced`, any arguments, filters, caps, fractions, packets-per-second limit),
    every oracle and every loop budget: if the model run that ended because `pick_next` returned
    `None` left no normal packet waiting (`DrainedIfEmpty`; `C15_monitor_rejects_unreachable_packet`
    shows the guard is needed, `C15_monitor_accepts_model` discharges it from bounds on the inputs),
    the monitor `C15.monitor`, evaluated on the model's observation of the run, reports no failure.
    A faulting run is observed as a panic, which this monitor ignores; filtered runs are only
    checked for their order. -/
theorem C15_monitor_accepts_model_partial (budget : Nat) (c : CaseIn) (r : RunIn) (orc : σ)
    (hdr : DrainedIfEmpty (modelOut ρ budget c r orc)) :
    C15.monitor c (modelObs ρ budget c r orc) = none := by
  cases hp : (modelOut ρ budget c r orc).stop.isPanic with
  | true =>
    obtain ⟨cls, hc⟩ := res_panic (t0 := obsT0 c) hp
    unfold C15.monitor
    rw [modelObs_res, hc]
  | false =>
    have hres := res_ok (t0 := obsT0 c) hp
    have hok := isPanic_false_no_fault hp
    apply monitor_none_of (tr := (modelOut ρ budget c r orc).trace.map (SimEvent.shift (obsT0 c)))
    · rw [modelObs_res, hres]
    · exact sortedByTime_shift _ _ (C15_trace_sorted ρ budget c.mc c.ms _ _ orc)
    · intro hoc hon
      rw [modelObs_run] at hoc hon ⊢
      constructor
      · apply causality_shift
        intro cl pd T
        have := C15_causality_trace ρ budget c.mc c.ms (normalLines c.trace) c.delay (r.effArgs c.delay) orc
          (effArgs_delay r c.delay) hoc hon (by rw [← parseTraceRaw_eq]; exact hok) cl pd T
        rw [← parseTraceRaw_eq] at this
        exact this
      · -- conservation with the monitor's "complete" flag
        have htr : (modelOut ρ budget c r orc).trace = (modelOut ρ budget c r orc).stream.map (·.ev) := by
          have := simAdvanced_trace_stream ρ budget c.mc c.ms (parseTraceRaw c.trace c.delay) (r.effArgs c.delay) orc hok
          rw [filter_keep_unfiltered _ hoc hon] at this
          exact this
        have hlen : ((modelOut ρ budget c r orc).trace.map (SimEvent.shift (obsT0 c))).length =
            (modelOut ρ budget c r orc).stream.length := by
          rw [List.length_map, htr, List.length_map]
        have hcnt : ∀ cl, normalSentCount ((modelOut ρ budget c r orc).trace.map (SimEvent.shift (obsT0 c))) cl =
            (modelOut ρ budget c r orc).stream.countP (sentNormal cl) := by
          intro cl
          rw [normalSentCount_shift, htr, normalSentCount_map_ev]
        have hcons := simAdvanced_conserve_final ρ budget c.mc c.ms (normalLines c.trace) c.delay (r.effArgs c.delay) orc
        rw [← parseTraceRaw_eq] at hcons
        refine conservation_of (fun cl => ?_) (fun hcomp cl => ?_)
        · rw [hcnt, share_eq_shareOf]; exact hcons.1 cl
        · rw [hlen] at hcomp
          simp only [Bool.and_eq_true, Bool.or_eq_true, beq_iff_eq, decide_eq_true_eq] at hcomp
          rw [hcnt, share_eq_shareOf]
          cases hs : (modelOut ρ budget c r orc).stop with
          | fault f => exact absurd hs (hok f)
          | loopFuel => rw [hs] at hp; cases hp
          | maxTrace =>
            have := simAdvanced_maxTrace ρ budget c.mc c.ms _ _ orc hs
            change 0 < _ ∧ _ ≤ (modelOut ρ budget c r orc).trace.length at this
            rw [htr, List.length_map] at this
            exfalso; rcases hcomp.1 with h | h <;> omega
          | maxIter =>
            have := simAdvanced_maxIter ρ budget c.mc c.ms _ _ orc hs
            change 0 < _ ∧ _ ≤ (modelOut ρ budget c r orc).stream.length at this
            exfalso; rcases hcomp.2 with h | h <;> omega
          | noNormal => exact (C15_conservation_raw ρ budget c.mc c.ms c.trace c.delay (r.effArgs c.delay) orc).2 hs cl
          | queueEmpty =>
            obtain ⟨stf, hf, _⟩ := simAdvanced_queueEmpty_final ρ budget c.mc c.ms _ _ orc hs
            exact hcons.2 stf hf (hdr hs stf hf) cl

/-- The C15 monitor accepts the model's own observation, from bounds on the inputs only
    (those of `C19_total`): machine lists on both sides accepted by validation, limit fractions
    in [0, 1], normal-packet times up to `T`, a packets-per-second limit that is absent or at
    least 1, a cap of `N ≥ 1` iterations (`max_sim_iterations = N`, or `max_trace_length = N`
    with both filters off) and `(N + 2) · span N T delay ≤ Duration::MAX`.  Then, for every
    oracle and loop budget, the model run does not fault, every queued event stays less than
    `Duration::MAX` ahead of the clock, so `pick_next` returns `None` only when the queues are
    empty (`simAdvanced_drained`), the guard of the partial theorem holds, and `C15.monitor`
    reports no failure on the model's observation — with or without continuing after the last
    normal packet, with any filters. -/
theorem C15_monitor_accepts_model (budget : Nat) (c : CaseIn) (r : RunIn) (orc : σ) (N T : Nat)
    (hmc : MachinesOK c.mc) (hms : MachinesOK c.ms)
    (hfrac : Validate.fracOK (r.effArgs c.delay).fpClient = true ∧ Validate.fracOK (r.effArgs c.delay).fbClient = true ∧
      Validate.fracOK (r.effArgs c.delay).fpServer = true ∧ Validate.fracOK (r.effArgs c.delay).fbServer = true)
    (hT : ∀ l ∈ normalLines c.trace, l.1 ≤ T)
    (hpps : ∀ p, (r.effArgs c.delay).network.pps = some p → 1 ≤ p)
    (hcap : CappedAt (r.effArgs c.delay) N) (hN : 0 < N) (hg : (N + 2) * TB.span N T c.delay ≤ durMax) :
    C15.monitor c (modelObs ρ budget c r orc) = none := by
  by_cases hne : normalLines c.trace = []
  · obtain ⟨cls, hc⟩ := res_panic (t0 := obsT0 c) (no_normal_line_panics ρ budget c r orc hne)
    unfold C15.monitor
    rw [modelObs_res, hc]
  · apply C15_monitor_accepts_model_partial
    intro hs stf hf cl
    unfold modelOut at hs hf
    rw [parseTraceRaw_eq] at hs hf
    exact simAdvanced_drained ρ budget hmc hms (parseTrace_queueOK c.delay hne hT) hfrac (effArgs_delay r c.delay)
      (parseTrace_effPps c.delay hne _ hpps) hcap hN hg orc hs stf hf cl

/-- The guard is needed.  Two client packets, the second exactly `Duration::MAX`
    (1.8·10^28 ns; not expressible in a trace file, whose times are u64 nanoseconds) after the
    first, no machines, delay 0, through `sim` without caps: `pick_next` reads the offset
    `Duration::MAX` as "nothing to do" (`C14_strict_bound_needed`), the model run ends with an
    empty-queue stop after the four events of the first packet, and the monitor — which takes a
    run that no cap cut short as complete — reports "normal packets not conserved (c=1/2)" on the
    model's own observation. -/
theorem C15_monitor_rejects_unreachable_packet :
    (modelOut exOracle 8 farCase (demoSim 0 false) ()).stop = .queueEmpty ∧
    (C15.monitor farCase (modelObs exOracle 8 farCase (demoSim 0 false) ())).isSome = true := by
  rw [modelObs_eq_S]
  decide +kernel

/-- non-vacuity of `C15_monitor_accepts_model_partial`: the padding machine on the client side,
    a raw trace with a padding line, all events recorded, continuing after the last normal
    packet: the run ends with an empty queue after 20 iterations (two paddings sent and
    delivered), the guard holds, and the monitor evaluates to `none` -/
example :
    (modelOut exOracle 100 demoCase (demoRun "u" 0 40 true false false) ()).stop = .queueEmpty ∧
    (modelOut exOracle 100 demoCase (demoRun "u" 0 40 true false false) ()).stream.length = 20 ∧
    ((modelOut exOracle 100 demoCase (demoRun "u" 0 40 true false false) ()).stream.filter
      (fun r => match r.ev.event with | .paddingSent _ => true | _ => false)).length = 2 ∧
    (match (modelOut exOracle 100 demoCase (demoRun "u" 0 40 true false false) ()).final with
      | some stf => stf.sq.isEmpty
      | none => false) = true := by decide +kernel

example : C15.monitor demoCase (modelObs exOracle 100 demoCase (demoRun "u" 0 40 true false false) ()) = none := by
  rw [modelObs_eq_S]
  decide +kernel

theorem demoPad_ok : MachinesOK [demoPad] := by
  intro m hm
  simp only [List.mem_singleton] at hm
  subst hm
  constructor
  · decide +kernel
  · intro st hst
    simp only [demoPad, List.mem_singleton] at hst
    subst hst
    rfl

/-- non-vacuity of `C15_monitor_accepts_model`: the padding machine passes validation, and the
    demo case (padding machine on the client, four-line raw trace, 10 ms delay) with a cap of 40
    iterations over times up to 3 ms meets every hypothesis — so the monitor accepts the model's
    observation of that run for EVERY oracle and budget -/
example (budget : Nat) (orc : σ) :
    C15.monitor demoCase (modelObs ρ budget demoCase (demoRun "u" 0 40 true false false) orc) = none :=
  C15_monitor_accepts_model ρ budget demoCase _ orc 40 3000000 demoPad_ok (by intro m hm; cases hm)
    ⟨by decide +kernel, by decide +kernel, by decide +kernel, by decide +kernel⟩ (by decide)
    (by intro p hp; cases hp) (Or.inl rfl) (by decide) (by decide)

end Mb.C15
