/-
  C13 — sampling a validated distribution returns promptly with a value in range.

  The family samplers of rand_distr are an oracle: the value `raw` they return is ANY f64
  (NaN and ±inf included).  Proved here, for all `raw`, `start`, `max`:

  * `C13_clamp_in_range` (+ IEEE-comparison corollaries): the value returned by `Dist::sample`
    is not NaN, is ≥ 0 (possibly `+inf`), and is ≤ `max` whenever `max > 0`.
  * consumers: timeouts and durations are ≤ the day constants, limits and counter values are
    `< 2^64`, for every oracle.
  * `C13_ctor_ok`: `Dist::validate` accepting `d` implies that every precondition of the
    constructor (or `gen_range`) call made by `dist_sample` holds — none of the eleven `unwrap`s
    and none of the `gen_range` assertions can fire.
  * Uniform: the constant fast path and the range facts `gen_range` relies on.
  * Uniform promptness: `C13_uniform_quarter_terminates` — for every validated range with
    `low ≠ high` and EVERY word whose unit value `v = (w >> 12)·2^-52` is `≤ 1/4` the
    `sample_single` retry loop ends at once (`fl(fl(v·fl(high−low)) + low) < high`, all three
    roundings, subnormal and mixed-sign ranges included); `C13_uniform_prompt`: at least
    `2^50 + 1` of the `2^52` equally likely mantissa values end an iteration, whatever the 12
    discarded bits are, so under a fair stream each iteration ends with probability `> 1/4` and
    the expected number of iterations is `< 4`.  The constant is sharp
    (`C13_uniform_quarter_sharp`: `v = 1/4 + 2^-52` is rejected for a pair of adjacent doubles).

  Not covered by any theorem (stated in DESIGN §6/§11): termination and panic-freedom INSIDE
  rand_distr's samplers; they are exercised by the harness under a watchdog.
-/
import MbVerif.Proofs.Sample
import MbVerif.Proofs.Validate
import MbVerif.Proofs.UniformPrompt

namespace Mb.C13
open Mb Mb.Fp

/-- `Dist::sample` returns a value in range whatever the family sampler produced -/
theorem C13_clamp_in_range (d : Dist) (raw : F64) : InRange (val64 d.max) (d.clamp raw) := by
  rw [clamp_eq]; exact clampCore_inRange _ _

theorem C13_clamp_not_nan (d : Dist) (raw : F64) : d.clamp raw ≠ .nan :=
  nonNeg_ne_nan (C13_clamp_in_range d raw).1

/-- `sample >= 0.0` as the IEEE comparison -/
theorem C13_clamp_nonneg (d : Dist) (raw : F64) : le (.fin 0) (d.clamp raw) = true :=
  le_zero_of_nonNeg (C13_clamp_in_range d raw).1

/-- `max > 0.0 → sample <= max` as IEEE comparisons -/
theorem C13_clamp_le_max (d : Dist) (raw : F64) (h : gt (val64 d.max) (.fin 0) = true) :
    le (d.clamp raw) (val64 d.max) = true :=
  le_of_atMost ((C13_clamp_in_range d raw).2 (gt_zero_iff_maxSet.mp h))

/-- the monitor decides the range predicate -/
theorem C13_monitor_iff (mx v : FV) : inRangeB mx v = true ↔ InRange mx v := by
  simp [inRangeB]

/-! The consumers of a sampled value: action.rs:85-120, counter.rs:84-90. -/

theorem C13_toMicros_le (M : Nat) (v : FV) : toMicros M v ≤ M := toMicros_le M v

section
variable {σ : Type} (ρ : Oracle σ)

theorem C13_timeout_le_day (a : Action) (s : Fw σ) :
    (sampleTimeout ρ a s).1 ≤ Gen.MAX_SAMPLED_TIMEOUT := by
  unfold sampleTimeout
  split
  · exact toMicros_le _ _
  · exact toMicros_le _ _
  · exact Nat.zero_le _

theorem C13_duration_le_day (a : Action) (s : Fw σ) :
    (sampleDuration ρ a s).1 ≤ max Gen.MAX_SAMPLED_BLOCK_DURATION Gen.MAX_SAMPLED_TIMER_DURATION := by
  unfold sampleDuration
  split
  · exact le_trans (toMicros_le _ _) (le_max_left _ _)
  · exact le_trans (toMicros_le _ _) (le_max_right _ _)
  · exact Nat.zero_le _

theorem C13_limit_lt (a : Action) (s : Fw σ) : (sampleLimit ρ a s).1 < 2 ^ 64 := by
  unfold sampleLimit
  split
  · show STATE_LIMIT_MAX < 2 ^ 64; decide
  · exact toU64_lt_two_pow _

theorem C13_value_lt (c : Counter) (s : Fw σ) : (sampleValue ρ c s).1 < 2 ^ 64 := by
  unfold sampleValue
  split
  · show 1 < 2 ^ 64; decide
  · exact toU64_lt_two_pow _

/-- the value handed to the consumers is the clamp of the oracle's value (or of `low` on the
    constant fast path), hence always in range -/
theorem C13_distSample_in_range (d : Dist) (s : Fw σ) :
    InRange (val64 d.max) (distSample ρ d s).1 := by
  unfold distSample
  exact C13_clamp_in_range d _

end

theorem C13_ctor_ok (d : Dist) (h : Validate.dist d = true) : ctorOK d.dist = true :=
  ctorOK_of_validate h

/-- non-vacuity: `Poisson { lambda: 1e42 }` and `Uniform { low: 0, high: f64::MAX }` pass validation -/
example : Validate.dist ⟨.poisson 0x48a6f578c4e0a061, 0, 0⟩ = true ∧
    Validate.dist ⟨.uniform 0 0x7fefffffffffffff, 0, 0⟩ = true := by
  refine ⟨by decide +kernel, by decide +kernel⟩

/-- Uniform: validation gives real bounds with `low ≤ high` and a finite f64 range; when the
    constant fast path is not taken (`low ≠ high`) the `gen_range` preconditions hold -/
theorem C13_uniform_validated (lo hi : F64) (h : Validate.distType (.uniform lo hi) = true) :
    ∃ l u : ℚ, val64 lo = .fin l ∧ val64 hi = .fin u ∧ l ≤ u ∧
      finite (sub f64 (val64 hi) (val64 lo)) = true ∧ (l ≠ u → lt (val64 lo) (val64 hi) = true) := by
  obtain ⟨l, u, hl, hh, hlu, hs⟩ := Validate.distType_uniform h
  refine ⟨l, u, hl, hh, hlu, ?_, fun hne => ?_⟩
  · rw [hh, hl, sub_fin_fin, hs]; rfl
  · rw [hl, hh]; simpa using lt_of_le_of_ne hlu hne

/-- a value returned by the `gen_range` loop is strictly below `high` -/
theorem C13_uniform_lt_high (lo hi : F64) (w : UInt64) (v : FV) (h : uniformF64 lo hi w = some v) :
    lt v (val64 hi) = true := by
  unfold uniformF64 at h
  split at h
  · rename_i hlt
    injection h with h; subst h; exact hlt
  · exact absurd h (by simp)

/-- the constant fast path `low == high` never consults the random source's value -/
theorem C13_uniform_const {σ : Type} (ρ : Oracle σ) (lo hi : F64) (start mx : F64) (s : Fw σ)
    (h : feq (val64 lo) (val64 hi) = true) :
    (distSample ρ ⟨.uniform lo hi, start, mx⟩ s).1 = Dist.clamp ⟨.uniform lo hi, start, mx⟩ lo := by
  simp [distSample, Dist.constUniform, h]

/-- `debug_assert!(low <= res)` in the `gen_range` loop holds for every word -/
theorem C13_uniform_ge_low (lo hi : F64) (h : Validate.distType (.uniform lo hi) = true)
    (hne : feq (val64 lo) (val64 hi) = false) (w : UInt64) :
    le (val64 lo) (uniformRes lo hi w) = true :=
  uniformRes_ge_low h hne w

/-- termination witness: every word whose mantissa bits `w >> 12` are zero ends the retry
    loop at once (with `low`), so under a fair stream every iteration ends with positive
    probability and the loop ends almost surely -/
theorem C13_uniform_zero_word (lo hi : F64) (h : Validate.distType (.uniform lo hi) = true)
    (hne : feq (val64 lo) (val64 hi) = false) (w : UInt64) (hw : w.toNat / 2 ^ 12 = 0) :
    uniformF64 lo hi w = some (val64 lo) :=
  uniformF64_zero_word h hne w hw

/-- the stronger claim "any word whose top mantissa bit is clear ends the loop" is FALSE: for the
    adjacent doubles `low = 2^-1021·(1+2^-52)`, `high = 2^-1021·(1+2^-51)`
    the product `v·scale` is rounded on the subnormal grid, `res` lands on the midpoint and ties
    to `high`; the word with `v = 3/8` is rejected (only `v ≤ 1/4` is accepted for this range) -/
theorem C13_uniform_top_bit_claim_false :
    Validate.distType (.uniform 0x0020000000000001 0x0020000000000002) = true ∧
    unit64 0x6000000000000000 = 3 / 8 ∧
    uniformF64 0x0020000000000001 0x0020000000000002 0x6000000000000000 = none ∧
    uniformF64 0x0020000000000001 0x0020000000000002 0x4000000000000000 =
      some (val64 0x0020000000000001) := by
  refine ⟨adjacent_range_valid, by decide +kernel, by decide +kernel, by decide +kernel⟩

/-- promptness: for every Uniform range accepted by validation with `low ≠ high` and EVERY
    64-bit word whose unit value `unit64 w = (w >> 12)·2^-52` is at most `1/4`, the
    `sample_single` retry loop ends at once -/
theorem C13_uniform_quarter_terminates (lo hi : F64)
    (h : Validate.distType (.uniform lo hi) = true)
    (hne : feq (val64 lo) (val64 hi) = false) (w : UInt64) (hw : unit64 w ≤ 1 / 4) :
    (uniformF64 lo hi w).isSome = true :=
  uniformF64_quarter h hne w hw

/-- the same on the retry loop: such a word is the last one consumed, and the value returned is
    in `[low, high)` -/
theorem C13_uniform_quarter_loop (lo hi : F64) (h : Validate.distType (.uniform lo hi) = true)
    (hne : feq (val64 lo) (val64 hi) = false) (w : UInt64) (hw : unit64 w ≤ 1 / 4)
    (ws : List UInt64) (n : Nat) :
    ∃ v, uniformF64Loop lo hi (w :: ws) n = some (v, n + 1) ∧
      le (val64 lo) v = true ∧ lt v (val64 hi) = true := by
  have hsome := C13_uniform_quarter_terminates lo hi h hne w hw
  obtain ⟨v, hv⟩ := Option.isSome_iff_exists.mp hsome
  refine ⟨v, by simp [uniformF64Loop, hv], ?_, C13_uniform_lt_high lo hi w v hv⟩
  have hge := C13_uniform_ge_low lo hi h hne w
  unfold uniformF64 at hv
  split at hv
  · injection hv with hv; rw [← hv]; exact hge
  · exact absurd hv (by simp)

/-- every mantissa value `m ≤ 2^50` ends the loop, whatever the 12 discarded bits `r` are -/
theorem C13_uniform_prompt_words (lo hi : F64) (h : Validate.distType (.uniform lo hi) = true)
    (hne : feq (val64 lo) (val64 hi) = false) (m r : Nat) (hm : m ≤ 2 ^ 50) (hr : r < 2 ^ 12) :
    (uniformF64 lo hi (UInt64.ofNat (m * 2 ^ 12 + r))).isSome = true := by
  apply C13_uniform_quarter_terminates lo hi h hne
  rw [unit64_word m r (by omega) hr]
  rw [div_le_iff₀ (by positivity)]
  have : (m : ℚ) ≤ ((2 ^ 50 : Nat) : ℚ) := by exact_mod_cast hm
  push_cast at this
  linarith

/-- counting form: for every valid non-constant range, and whatever the 12 discarded low
    bits `r` of the word are, at least `2^50 + 1` of the `2^52` equally likely mantissa values end
    the iteration — more than a quarter of them, so under a fair stream every iteration ends with
    probability `> 1/4` and the expected number of iterations is `< 4` -/
theorem C13_uniform_prompt (lo hi : F64) (h : Validate.distType (.uniform lo hi) = true)
    (hne : feq (val64 lo) (val64 hi) = false) (r : Nat) (hr : r < 2 ^ 12) :
    2 ^ 50 + 1 ≤ ((Finset.range (2 ^ 52)).filter
      (fun m => (uniformF64 lo hi (UInt64.ofNat (m * 2 ^ 12 + r))).isSome = true)).card ∧
    2 ^ 52 < 4 * ((Finset.range (2 ^ 52)).filter
      (fun m => (uniformF64 lo hi (UInt64.ofNat (m * 2 ^ 12 + r))).isSome = true)).card := by
  have hsub : Finset.range (2 ^ 50 + 1) ⊆ (Finset.range (2 ^ 52)).filter
      (fun m => (uniformF64 lo hi (UInt64.ofNat (m * 2 ^ 12 + r))).isSome = true) := by
    intro m hm
    rw [Finset.mem_range] at hm
    rw [Finset.mem_filter, Finset.mem_range]
    exact ⟨by omega, C13_uniform_prompt_words lo hi h hne m r (by omega) hr⟩
  have hcard := Finset.card_le_card hsub
  rw [Finset.card_range] at hcard
  exact ⟨hcard, by omega⟩

/-- non-vacuity on concrete ranges (kernel evaluation of the model): the word with `v = 1/4` is
    accepted by validated ranges of adjacent subnormal-grid doubles, of mixed sign (`-1.0..2.0`)
    and of full width (`0.0..f64::MAX`) -/
example :
    unit64 0x4000000000000000 = 1 / 4 ∧
    Validate.distType (.uniform 0x0020000000000001 0x0020000000000002) = true ∧
    (uniformF64 0x0020000000000001 0x0020000000000002 0x4000000000000000).isSome = true ∧
    Validate.distType (.uniform 0xbff0000000000000 0x4000000000000000) = true ∧
    uniformF64 0xbff0000000000000 0x4000000000000000 0x4000000000000000 = some (.fin (-1 / 4)) ∧
    Validate.distType (.uniform 0 0x7fefffffffffffff) = true ∧
    (uniformF64 0 0x7fefffffffffffff 0x4000000000000000).isSome = true := by
  refine ⟨by decide +kernel, adjacent_range_valid, by decide +kernel, by decide +kernel,
    by decide +kernel, by decide +kernel, by decide +kernel⟩

/-- the constant `1/4` is sharp: for the adjacent doubles `2^-1021·(1+2^-52)`, `2^-1021·(1+2^-51)`
    the very next mantissa value `v = 1/4 + 2^-52` is rejected (`v·scale` rounds up to one
    subnormal step, `res` lands on the midpoint and ties to the even neighbour `high`) -/
theorem C13_uniform_quarter_sharp :
    Validate.distType (.uniform 0x0020000000000001 0x0020000000000002) = true ∧
    unit64 0x4000000000001000 = 1 / 4 + 1 / 2 ^ 52 ∧
    uniformF64 0x0020000000000001 0x0020000000000002 0x4000000000001000 = none := by
  refine ⟨adjacent_range_valid, by decide +kernel, by decide +kernel⟩

end Mb.C13
