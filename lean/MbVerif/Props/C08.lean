/-
  C08 — counters saturate and raise CounterZero exactly on reaching zero from non-zero.

  Proved on the model (decision logic stated outright):
  * `C08_saturate`: each update stays a u64; increment saturates at the maximum, decrement at 0,
    set stores the operand.
  * `C08_operand`, `C08_apply`, `C08_sampled_u64`: the operand is the sampled value (1 without a
    distribution, else the saturating cast of the sample) or — for copy — the OTHER counter's
    value from before the transition (both updates of one transition read the same pre-update
    pair, see `C08_delivery`).
  * `C08_zero_A/B`: an update reports "zeroed" exactly when the counter went from non-zero to
    zero and this machine's guard flag for that counter was still unset; it then sets that flag
    (flags are per machine since fix 034dbec and are cleared at the start of every call).
  * `C08_delivery`: `update_counter` delivers CounterZero to the same machine, immediately, iff
    one of the two updates reported "zeroed", and then allows scheduling only if that delivery
    left the slot empty (an action scheduled by the CounterZero transition takes precedence).
  * `C08_at_most_twice_per_call`: over a whole call (any batch, any machines, any oracle) a machine
    is delivered CounterZero at most twice — once per counter — counted on the ghost log
    (potential argument: deliveries so far + guard flags still unset never grows after the start
    of the call; `Proofs/CzCount.lean`, on the potential form of the counting lemma).
  * `C08_log_adjacent`: ORDER on the log, whole call (any machines, oracle, state with u64
    counters, batch): the ghost log segment of a call, read chronologically, is accepted by the
    monitor's two rules `C08.checkLog` (started with empty flags) and `C08.strayCZ`, and does not
    start with a CounterZero delivery. In plain terms (`C08_log_exact`, `C08_log_cz_preceded`):
    every counter entry logs u64 values and is IMMEDIATELY followed by the CounterZero delivery to
    the same machine exactly when counter A or counter B of that machine goes from non-zero to
    zero there for the first time in the call; every CounterZero delivery is IMMEDIATELY preceded
    by a counter entry of the same machine. Since the entered state's action is scheduled only
    after `update_counter` returns (`C08_delivery`), the delivery comes before that scheduling.
    `C08_counters_u64`: the u64 bound on the counters is an invariant of a call
    (`C08_counters_u64_run`: of every history from `Fw.init`, where all counters are 0).
    (`Proofs/CounterLog.lean`; needs no validity or no-fault hypothesis: the fuel potential
    2 x unset flags + 2 <= 8 guarantees that the delivery is really made.)
  * `C08_call_values`: VALUES on the log, whole call (any machines, oracle, batch): the monitor's
    third rule `C08.checkValues`, started with the states of the snapshot before the call and no
    raw samples, accepts the chronological log segment of the call: every logged update equals the
    specified saturating operation on the specified operand - 1, the saturating cast of the clamped
    raw sample logged right before the entry (A's sample first), or the other counter's value from
    before the update - in the state tracked from the `sampled` entries.
  * `C08_monitor_accepts_model`: the monitor tied to the model. `C08.monitor` returns `none` on the
    trace the model itself produces (`LL.modelTrace`: per call the events, outcome, actions,
    snapshot and the call's log, as the driver records them) for EVERY machine set, configuration,
    oracle and history: all four rules (values, adjacency, no CounterZero first, no stray
    CounterZero) hold for every call, the snapshot handed from call to call is the model's, and a
    faulting call ends the walk. So the check cannot raise a false alarm on an implementation that
    agrees with the model, and the model has the property in the monitor's own vocabulary. No
    hypothesis is needed (no validity, no-fault or packet-count assumption).
    (`Proofs/MonitorAcceptB.lean`)
  The implementation is tied to this by the correspondence on counter values (tag RC), the
  internal log (tag L, with the hook's counter entries) and the monitor `C08.monitor`.
-/
import MbVerif.Proofs.SafeCall
import MbVerif.Proofs.CzCount
import MbVerif.Proofs.CounterLog
import MbVerif.Proofs.MonitorAcceptB

namespace Mb.C08
open Mb

variable {σ : Type} (ρ : Oracle σ)

theorem C08_saturate (op : Operation) (cur change : Nat) (hc : cur ≤ Fp.u64Max) (hv : change ≤ Fp.u64Max) :
    applyOp op cur change ≤ Fp.u64Max ∧
    (op = .increment → applyOp op cur change = min (cur + change) Fp.u64Max) ∧
    (op = .decrement → applyOp op cur change = cur - change) ∧
    (op = .set → applyOp op cur change = change) := by
  refine ⟨CL.applyOp_le op cur change hc hv, ?_, ?_, ?_⟩
  · rintro rfl
    show (if cur + change > Fp.u64Max then Fp.u64Max else cur + change) = _
    split <;> omega
  · rintro rfl; rfl
  · rintro rfl; rfl

theorem C08_sampled_u64 (c : Counter) (s : Fw σ) : (sampleValue ρ c s).1 ≤ Fp.u64Max :=
  CL.sampleValue_le ρ c s

/-- the operand is the OTHER counter's pre-transition value for `copy` (no draw is made),
    otherwise the sampled value -/
theorem C08_operand (c : Counter) (other : Nat) (s : Fw σ) :
    (c.copy = true → counterOperand ρ c other s = (other, s)) ∧
    (c.copy = false → counterOperand ρ c other s = sampleValue ρ c s) := by
  unfold counterOperand
  constructor <;> intro h <;> simp [h]

/-- counter A of a transition applies its operation to the operand built from counter B's
    pre-transition value, and counter B from counter A's pre-transition value -/
theorem C08_apply (mi : Nat) (c : Counter) (oldA oldB : Nat) (s : Fw σ) :
    applyCounterA ρ mi (some c) oldA oldB s =
      storeCounterA mi oldA (applyOp c.operation oldA (counterOperand ρ c oldB s).1) (counterOperand ρ c oldB s).2 ∧
    applyCounterB ρ mi (some c) oldA oldB s =
      storeCounterB mi oldB (applyOp c.operation oldB (counterOperand ρ c oldA s).1) (counterOperand ρ c oldA s).2 :=
  ⟨rfl, rfl⟩

/-- storing reports "zeroed" exactly when the counter went from non-zero to zero and this
    machine's flag for A was still unset -/
theorem C08_zero_A (mi oldA newA : Nat) (s : Fw σ) :
    (storeCounterA mi oldA newA s).2 = (decide (oldA ≠ 0) && decide (newA = 0) && !zeroedAOf s mi) := by
  unfold storeCounterA
  simp only
  have hz : zeroedAOf (s.modRt mi (fun r => { r with counterA := newA })) mi = zeroedAOf s mi := by
    rw [zeroedAOf_modRt, zeroedAOf_eq]
  rw [hz]
  cases h : (decide (oldA ≠ 0) && decide (newA = 0) && !zeroedAOf s mi) <;> simp [h]

theorem C08_zero_B (mi oldB newB : Nat) (s : Fw σ) :
    (storeCounterB mi oldB newB s).2 = (decide (oldB ≠ 0) && decide (newB = 0) && !zeroedBOf s mi) := by
  unfold storeCounterB
  simp only
  have hz : zeroedBOf (s.modRt mi (fun r => { r with counterB := newB })) mi = zeroedBOf s mi := by
    rw [zeroedBOf_modRt, zeroedBOf_eq]
  rw [hz]
  cases h : (decide (oldB ≠ 0) && decide (newB = 0) && !zeroedBOf s mi) <;> simp [h]

/-- after storing, the counter holds the new value and, if "zeroed" was reported, the flag is set -/
theorem C08_store_A (mi oldA newA : Nat) (s : Fw σ) (hmi : mi < s.rt.length) :
    counterAOf (storeCounterA mi oldA newA s).1 mi = newA ∧
    ((storeCounterA mi oldA newA s).2 = true → zeroedAOf (storeCounterA mi oldA newA s).1 mi = true) := by
  unfold storeCounterA
  simp only
  have hr' : ∃ r, s.rt[mi]? = some r := ⟨s.rt[mi], List.getElem?_eq_getElem hmi⟩
  obtain ⟨r, hr⟩ := hr'
  split
  · constructor
    · unfold counterAOf; rw [Fw.modRt_rt_self, Fw.modRt_rt_self, hr]; rfl
    · intro _; rw [zeroedAOf_modRt, Fw.modRt_rt_self, hr]; rfl
  · constructor
    · unfold counterAOf; rw [Fw.modRt_rt_self, hr]; rfl
    · intro h; cases h

/-- a state without a counter specification never reports "zeroed" and changes nothing -/
theorem C08_no_counter (mi : Nat) (oldA oldB : Nat) (s : Fw σ) :
    applyCounterA ρ mi none oldA oldB s = (s, false) ∧ applyCounterB ρ mi none oldA oldB s = (s, false) :=
  ⟨rfl, rfl⟩

/-- `update_counter`: both updates read the same pre-transition pair; CounterZero is delivered to
    the same machine, at once, iff one update reported "zeroed"; scheduling is then allowed only
    if that delivery left the slot empty -/
theorem C08_delivery (fuel mi : Nat) (s : Fw σ) (r : Runtime) (m : Machine) (st : State)
    (hr : s.rt[mi]? = some r) (hm : s.machines[mi]? = some m) (hst : m.states[r.currentState]? = some st) :
    updateCounter ρ (fuel + 1) mi s =
      let ra := applyCounterA ρ mi st.counterA r.counterA r.counterB s
      let rb := applyCounterB ρ mi st.counterB r.counterA r.counterB ra.1
      let s2 := rb.1.push (.counter mi r.counterA (counterAOf rb.1 mi) r.counterB (counterBOf rb.1 mi))
      if ra.2 || rb.2 then
        let res := transition ρ fuel mi .counterZero s2
        match res.1.actions[mi]? with
        | none => (res.1.withFault .oob, true, res.2)
        | some a => (res.1, a.isNone, res.2)
      else (s2, true, false) := by
  rw [updateCounter, hr, hm]
  simp only [hst]
  split <;> rfl

/-- the guard flags are cleared at the start of every call -/
theorem C08_flags_reset (s : Fw σ) (t : Int) (mi : Nat) :
    zeroedAOf (s.callStart t) mi = false ∧ zeroedBOf (s.callStart t) mi = false := by
  unfold zeroedAOf zeroedBOf
  simp only [Fw.callStart, List.getElem?_map]
  cases s.rt[mi]? <;> simp

/-- per call, a machine receives at most two CounterZero events (one per counter): the number of
    `trans mi CounterZero _` entries the call adds to the ghost log is at most 2 -/
theorem C08_at_most_twice_per_call (mi : Nat) (es : List TEvent) (t : Int) (s : Fw σ) :
    czOf mi (triggerEvents ρ es t s) ≤ czOf mi s + 2 :=
  cz_triggerEvents ρ mi es t s

/-- the u64 bound on all counters is preserved by a call -/
theorem C08_counters_u64 (es : List TEvent) (t : Int) (s : Fw σ)
    (hb : ∀ r ∈ s.rt, r.counterA ≤ Fp.u64Max ∧ r.counterB ≤ Fp.u64Max) :
    ∀ r ∈ (triggerEvents ρ es t s).rt, r.counterA ≤ Fp.u64Max ∧ r.counterB ≤ Fp.u64Max := by
  obtain ⟨_, _, _, _, hi⟩ := CL.call_good ρ es t s hb
  intro r hr
  obtain ⟨i, hi', hget⟩ := List.getElem_of_mem hr
  exact hi.bnd i r (by rw [List.getElem?_eq_getElem hi', hget])

/-- a freshly constructed framework has all counters 0 -/
theorem C08_counters_init (ms : List Machine) (fp fb : F64) (t0 : Int) (rng : σ) :
    ∀ r ∈ (Fw.init ρ ms fp fb t0 rng).rt, r.counterA = 0 ∧ r.counterB = 0 :=
  CL.counters_init ρ ms fp fb t0 rng

/-- hence the u64 bound holds in every state reachable from `Framework::new` by any history: the
    hypothesis of `C08_log_adjacent` is met by every call of every run -/
theorem C08_counters_u64_run (ms : List Machine) (fp fb : F64) (t0 : Int) (rng : σ) (h : List Call) :
    ∀ r ∈ (runCalls ρ (Fw.init ρ ms fp fb t0 rng) h).rt, r.counterA ≤ Fp.u64Max ∧ r.counterB ≤ Fp.u64Max := by
  have h0 := MB.u64_init ρ ms fp fb t0 rng
  unfold runCalls
  unfold MB.U64 at h0
  generalize Fw.init ρ ms fp fb t0 rng = s0 at h0
  induction h generalizing s0 with
  | nil => exact h0
  | cons c cs ih => exact ih _ (C08_counters_u64 ρ c.1 c.2 s0 h0)

/-- Order on the log, whole call. For every machine set, oracle, batch, time and state whose
    counters are u64: the segment `l` the call adds to the ghost log (newest first), read
    chronologically, passes the monitor's adjacency rule `checkLog` started with empty flags (every
    `counter mi ao an bo bn` entry holds u64 values and is immediately followed by
    `trans mi CounterZero _` iff `ao ≠ 0 ∧ an = 0` with A's flag of `mi` unset or `bo ≠ 0 ∧ bn = 0`
    with B's flag unset), passes `strayCZ` (every CounterZero delivery is immediately preceded by a
    counter entry of the same machine), and does not start with a CounterZero delivery. -/
theorem C08_log_adjacent (es : List TEvent) (t : Int) (s : Fw σ)
    (hb : ∀ r ∈ s.rt, r.counterA ≤ Fp.u64Max ∧ r.counterB ≤ Fp.u64Max)
    (l : List LogEntry) (hl : (triggerEvents ρ es t s).log = l ++ s.log) :
    checkLog { a := [], b := [] } l.reverse = none ∧ strayCZ l.reverse = none ∧
    (∀ mi st rest, l.reverse ≠ .trans mi Gen.EV_CounterZero st :: rest) := by
  obtain ⟨c, f', hc, hg, _⟩ := CL.call_good ρ es t s hb
  have hlc : l = c.reverse := List.append_cancel_right (hl.symm.trans hc)
  subst hlc
  rw [List.reverse_reverse]
  refine ⟨hg.accepted.1, hg.accepted.2, fun mi st rest h => ?_⟩
  · have := hg.head
    rw [h] at this
    simp [CL.headCZ] at this

/-- rule 1 in plain terms: in the chronological log segment of a call, a counter entry holds u64
    values and is immediately followed by the CounterZero delivery to the same machine exactly when
    counter A or counter B of that machine goes from non-zero to zero at this entry and did not do
    so at an earlier entry of the same call (at most once per counter per machine per call) -/
theorem C08_log_exact (es : List TEvent) (t : Int) (s : Fw σ)
    (hb : ∀ r ∈ s.rt, r.counterA ≤ Fp.u64Max ∧ r.counterB ≤ Fp.u64Max)
    (l : List LogEntry) (hl : (triggerEvents ρ es t s).log = l ++ s.log)
    (pre rest : List LogEntry) (mi ao an bo bn : Nat)
    (hsplit : l.reverse = pre ++ .counter mi ao an bo bn :: rest) :
    an ≤ Fp.u64Max ∧ bn ≤ Fp.u64Max ∧
    ((∃ st rest', rest = .trans mi Event.counterZero.toNat st :: rest') ↔
      (ao ≠ 0 ∧ an = 0 ∧ ¬ CL.ZeroedA mi pre) ∨ (bo ≠ 0 ∧ bn = 0 ∧ ¬ CL.ZeroedB mi pre)) := by
  have h := (C08_log_adjacent ρ es t s hb l hl).1
  rw [hsplit] at h
  exact CL.checkLog_exact pre rest mi ao an bo bn h

/-- rule 2 in plain terms: in the chronological log segment of a call, every CounterZero delivery
    is immediately preceded by a counter entry of the same machine (in particular it is never the
    first entry of the call) -/
theorem C08_log_cz_preceded (es : List TEvent) (t : Int) (s : Fw σ)
    (hb : ∀ r ∈ s.rt, r.counterA ≤ Fp.u64Max ∧ r.counterB ≤ Fp.u64Max)
    (l : List LogEntry) (hl : (triggerEvents ρ es t s).log = l ++ s.log)
    (pre rest : List LogEntry) (mi st : Nat)
    (hsplit : l.reverse = pre ++ .trans mi Event.counterZero.toNat st :: rest) :
    ∃ pre' ao an bo bn, pre = pre' ++ [.counter mi ao an bo bn] := by
  obtain ⟨_, h2, h3⟩ := C08_log_adjacent ρ es t s hb l hl
  cases pre with
  | nil => exact absurd hsplit (h3 mi st rest)
  | cons a p =>
    rw [hsplit] at h2
    exact CL.strayCZ_preceded a p rest mi st h2

/-- Non-vacuity: saturation at both ends. -/
example : applyOp .increment (Fp.u64Max - 1) 5 = Fp.u64Max ∧ applyOp .decrement 3 5 = 0 := by decide

/-- Non-vacuity of the two log rules: a zeroing update without a delivery, a delivery after a
    non-zeroing update and a delivery not preceded by a counter update are all rejected; a second
    zeroing of the same counter in the call must NOT be followed by a delivery. -/
example : (checkLog { a := [], b := [] } [.counter 0 1 0 0 0]).isSome = true ∧
    (checkLog { a := [], b := [] } [.counter 0 1 1 0 0, .trans 0 Gen.EV_CounterZero 3]).isSome = true ∧
    checkLog { a := [], b := [] } [.counter 0 1 0 0 0, .trans 0 Gen.EV_CounterZero 3, .counter 0 1 0 0 0] = none ∧
    (strayCZ [.draw 0, .trans 0 Gen.EV_CounterZero 3]).isSome = true := by decide

/-- Values on the log, whole call. For every machine set, oracle, batch and time: the monitor's
    value rule `checkValues`, started with the states of the snapshot before the call (`LL.stOf
    s.snap`: the `state` field per machine) and no raw samples, accepts the chronological log segment
    of the call. In plain terms: every `counter mi ao an bo bn` entry has `an = ao (op_A) v_A` and
    `bn = bo (op_B) v_B` with the operations and operand kinds the machine description gives for the
    state machine `mi` is in at that point (tracked from the `sampled` entries), where an operand is
    `bo` resp. `ao` for `copy`, 1 without a distribution, and otherwise the saturating u64 cast of the
    clamped raw sample logged directly before the entry (A's sample before B's). -/
theorem C08_call_values (ms : List Machine) (es : List TEvent) (t : Int) (s : Fw σ) (hm : s.machines = ms)
    (l : List LogEntry) (hl : (triggerEvents ρ es t s).log = l ++ s.log) :
    checkValues ms (LL.stOf s.snap) [] l.reverse = none := by
  obtain ⟨_, c, hc, hv⟩ := MB.call_values ρ (ms := ms) es t s hm
  have : l = c.reverse := List.append_cancel_right (hl.symm.trans hc)
  rw [this, List.reverse_reverse, MB.stOf_snap]
  exact hv

/-- `C08.monitor` accepts the model's own trace of every history: for every machine set,
    configuration, oracle and history of calls, the monitor applied to the trace of the model
    (`LL.modelTrace`: the records the driver builds - events, outcome, returned actions, snapshot and
    the call's log, the ghost log being emptied before each call) reports no violation. No
    hypothesis: the four rules hold for every call of every run (`C08_call_values`,
    `C08_log_adjacent` with `C08_counters_u64_run`), and the monitor stops at a call that faults. -/
theorem C08_monitor_accepts_model (ms : List Machine) (fp fb : F64) (t0 : Int) (rng : σ) (h : List Call) :
    monitor (LL.modelTrace ρ ms fp fb t0 rng h) = none :=
  MB.monitor08_model ρ ms fp fb t0 rng h

section MonitorDemo

/-- the constant 2.0 -/
private def dTwo : Dist := { dist := .uniform 4611686018427387904 4611686018427387904, start := 0, max := 0 }
/-- state 0: no counters; NormalSent leads to state 1 -/
private def cSt0 : State :=
  { action := none, counterA := none, counterB := none,
    transitions := (List.replicate 13 none).set 3 (some [{ target := 1, prob := 1065353216 }]) }
/-- state 1: A := sample (2), B += 1; NormalSent leads to state 2 -/
private def cSt1 : State :=
  { action := none,
    counterA := some { operation := .set, dist := some dTwo, copy := false },
    counterB := some { operation := .increment, dist := none, copy := false },
    transitions := (List.replicate 13 none).set 3 (some [{ target := 2, prob := 1065353216 }]) }
/-- state 2: A -= sample (2), B := old A; CounterZero leads to state 3, NormalSent back to state 1 -/
private def cSt2 : State :=
  { action := none,
    counterA := some { operation := .decrement, dist := some dTwo, copy := false },
    counterB := some { operation := .set, dist := none, copy := true },
    transitions := ((List.replicate 13 none).set 9 (some [{ target := 3, prob := 1065353216 }])).set 3
      (some [{ target := 1, prob := 1065353216 }]) }
/-- state 3: B -= sample (2); CounterZero leads to state 0 -/
private def cSt3 : State :=
  { action := none, counterA := none,
    counterB := some { operation := .decrement, dist := some dTwo, copy := false },
    transitions := (List.replicate 13 none).set 9 (some [{ target := 0, prob := 1065353216 }]) }
private def cM : Machine :=
  { allowedPaddingPackets := 0, maxPaddingFrac := 0, allowedBlockedMicrosec := 0, maxBlockingFrac := 0,
    states := [cSt0, cSt1, cSt2, cSt3] }
private def cρ : Oracle Unit := { u := fun _ => (0, ()), d := fun _ _ => (0, ()) }
private def cTrace : FwTrace :=
  LL.modelTrace cρ [cM] 0 0 0 () [([.normalSent, .normalSent], 10), ([.normalSent, .normalSent, .normalSent, .normalSent], 20)]

/-- Non-vacuity of `C08_monitor_accepts_model`: no call faults (the monitor walks both). The first
    call's log holds a sampled operand (`set` to 2 after the raw sample 2.0), a unit increment, a
    decrement by a sample that takes A from 2 to 0 with B copied from A's OLD value 2, directly
    followed by the CounterZero delivery (event 9), whose transition zeroes B (2 - 2) and is followed
    by the second delivery. In the second call the same happens, and its last NormalSent takes A
    from 2 to 0 AGAIN (entries 29..34): no CounterZero follows, A's flag is already set in that call. -/
example : cTrace.calls.map (·.res) = [.ok, .ok] ∧
    cTrace.calls.map (·.log.length) = [23, 35] ∧
    (cTrace.calls.map (·.log)).head? = some
      [.trans 0 3 0, .draw 0, .sampled 0 3 1, .limit 0 18446744073709551615 false,
        .distRaw 4611686018427387904, .counter 0 0 2 0 1,
       .trans 0 3 1, .draw 0, .sampled 0 3 2, .limit 0 18446744073709551615 false,
        .distRaw 4611686018427387904, .counter 0 2 0 1 2,
       .trans 0 9 2, .draw 0, .sampled 0 9 3, .limit 0 18446744073709551615 false,
        .distRaw 4611686018427387904, .counter 0 0 0 2 0,
       .trans 0 9 3, .draw 0, .sampled 0 9 0, .limit 0 18446744073709551615 false, .counter 0 0 0 0 0] ∧
    (cTrace.calls.map (·.log.drop 29)) =
      [[], [.trans 0 3 1, .draw 0, .sampled 0 3 2, .limit 0 18446744073709551615 false,
        .distRaw 4611686018427387904, .counter 0 2 0 1 2]] ∧
    monitor cTrace = none := by decide +kernel

/-- Non-vacuity of the value rule (machine in state 0): the model's first update is accepted; a wrong
    result of `set`, a missing unit increment of B and a `copy` that reads the NEW value of the other
    counter are all rejected. -/
example :
    checkValues [cM] (fun _ => 0) [] [.sampled 0 3 1, .distRaw 4611686018427387904, .counter 0 0 2 0 1] = none ∧
    (checkValues [cM] (fun _ => 0) [] [.sampled 0 3 1, .distRaw 4611686018427387904, .counter 0 0 3 0 1]).isSome = true ∧
    (checkValues [cM] (fun _ => 0) [] [.sampled 0 3 1, .distRaw 4611686018427387904, .counter 0 0 2 0 0]).isSome = true ∧
    checkValues [cM] (fun _ => 1) [] [.sampled 0 3 2, .distRaw 4611686018427387904, .counter 0 2 0 1 2] = none ∧
    (checkValues [cM] (fun _ => 1) [] [.sampled 0 3 2, .distRaw 4611686018427387904, .counter 0 2 0 1 0]).isSome = true := by
  decide +kernel

end MonitorDemo

end Mb.C08
