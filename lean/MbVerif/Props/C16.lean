/-
  C16 — blocking is honoured.  The model's blocking machinery against the contract function
  `C16.blockSpec` written from the property text: where the update rule of `do_scheduled_action`
  is the contract and the two corners (F7, F11) where it is not; the fail-closed argument for the
  queue branch of `pick_next`; when BlockingBegin and BlockingEnd are stamped.
-/
import MbVerif.Proofs.SimNoLeak
import MbVerif.Spec.C16

namespace Mb.C16
open Mb Mb.Sim

/-- the model's (expiry, bypassable) pair seen as the property's blocking state -/
def codeState (cur : Option Blk) : Option Int × Bool := (cur.map (·.expiry), (cur.map (·.allBypass)).getD false)

theorem C16_blockUpdate_expiry (cur : Option Blk) (t : Int) (durNs : Nat) (bypass replace : Bool)
    (h : cur.isSome ∨ 0 < durNs ∨ replace = true) :
    (blockUpdate (codeState cur).1 (codeState cur).2 t durNs bypass replace).1 =
      (blockSpec cur t durNs bypass replace).map (·.expiry) := by
  rw [show blockUpdate (codeState cur).1 (codeState cur).2 t durNs bypass replace = _ from
    blockUpdate_blk cur t durNs bypass replace h]
  cases cur with
  | none => rfl
  | some b => simp only [blockSpec]; split <;> rfl

/-- Bypass flag, reachable part.  As long as the blocking is new or every earlier action
    allowed bypass, the code's flag is the property's "all allowed bypass". -/
theorem C16_blockUpdate_flag_partial (cur : Option Blk) (t : Int) (durNs : Nat) (bypass replace : Bool)
    (h : cur.isSome ∨ 0 < durNs ∨ replace = true) (hall : ∀ b, cur = some b → b.allBypass = true) :
    some (blockUpdate (codeState cur).1 (codeState cur).2 t durNs bypass replace).2 =
      (blockSpec cur t durNs bypass replace).map (·.allBypass) := by
  rw [show blockUpdate (codeState cur).1 (codeState cur).2 t durNs bypass replace = _ from
    blockUpdate_blk cur t durNs bypass replace h]
  cases cur with
  | none => rfl
  | some b => simp only [blockSpec]; split <;> simp [hall b rfl]

/-- F7 characterised exactly.  Starting from a state in which the code's flag agrees with the
    property's "all allowed bypass", one due BlockOutgoing makes them disagree *iff* it is a bypass
    action that updates (replaces or extends) a blocking that did not allow bypass: the code's
    rule sets the flag to the bypass of the latest updating action (as the API contract words it),
    the property's keeps it false. -/
theorem C16_flag_deviation_iff (cur : Option Blk) (t : Int) (durNs : Nat) (bypass replace : Bool)
    (h : cur.isSome ∨ 0 < durNs ∨ replace = true) :
    (some (blockUpdate (codeState cur).1 (codeState cur).2 t durNs bypass replace).2 ≠
        (blockSpec cur t durNs bypass replace).map (·.allBypass)) ↔
    ∃ b, cur = some b ∧ b.allBypass = false ∧ bypass = true ∧ (replace = true ∨ t + (durNs : Int) > b.expiry) := by
  rw [show blockUpdate (codeState cur).1 (codeState cur).2 t durNs bypass replace = _ from
    blockUpdate_blk cur t durNs bypass replace h]
  cases cur with
  | none => simp [blockSpec]
  | some b =>
    simp only [blockSpec]
    by_cases hu : (replace || decide (t + (durNs : Int) > b.expiry)) = true
    · have hu' := hu
      simp only [Bool.or_eq_true, decide_eq_true_eq] at hu'
      cases hab : b.allBypass <;> cases bypass <;> simp [hu, hu', hab]
    · have hu' := hu
      simp only [Bool.or_eq_true, decide_eq_true_eq] at hu'
      simp [hu, hu']

/-- F7 as a theorem about the model: a non-bypassable blocking extended by a bypass action
    becomes bypassable in the code, but not under the property. -/
theorem C16_flag_deviates :
    (blockUpdate (some 10) false 0 20 true false).2 = true ∧
    (blockSpec (some ⟨10, false, 0⟩) 0 20 true false).map (·.allBypass) = some false := by
  constructor <;> decide

/-- F11 as a theorem about the model: with no blocking active, a zero-duration BlockOutgoing
    without replace starts no blocking in the code (yet BlockingBegin is reported), whereas the
    property has a blocking that expires at once and must be ended. -/
theorem C16_zero_duration_deviates (t : Int) (bypass : Bool) :
    (blockUpdate none false t 0 bypass false).1 = none ∧
    (blockSpec none t 0 bypass false).map (·.expiry) = some t := by
  constructor
  · simp [blockUpdate]
  · simp [blockSpec]

variable {σ : Type}

/-- BlockingBegin at issue + timeout: executing a due action emits its event stamped with
    the slot's due time, on the slot's side, and empties exactly that slot. -/
theorem C16_blockingBegin_at_due (st st' : St σ) (target : Int) (e : SimEvent)
    (h : doScheduledAction st target = .ok (e, st')) :
    e.time = target ∧ ∃ i a, (st.side e.client).schedAction[i]? = some (some a) ∧ a.time = target ∧
      (st'.side e.client).schedAction = (st.side e.client).schedAction.set i none :=
  let ⟨h1, i, a, h2, h3, h4, _⟩ := doScheduledAction_event h
  ⟨h1, i, a, h2, h3, h4⟩

/-- BlockingEnd exactly at the expiry: when `pick_next` takes the blocking-expiry branch for
    side `c`, that side is blocked until some `u`; the branch clears the expiry and returns one
    BlockingEnd for that side, stamped with `u` when `u` is not before the clock. -/
theorem C16_blockingEnd_at_expiry (st st' : St σ) (b : Nat) (c : Bool) (e : SimEvent)
    (hd : pickDecide st = .ok (.blockExp b c)) (hp : pickBlockExp st b c = .ok (e, st'))
    (hsome : (st.side c).blockingUntil.isSome) :
    e.event = .blockingEnd ∧ e.client = c ∧ (st'.side c).blockingUntil = none ∧
    ∃ u, (st.side c).blockingUntil = some u ∧ (st.now ≤ u → u - st.now ≤ durMax → e.time = u) :=
  pickBlockExp_spec hd hp hsome

/-- No leak (fail closed): a TunnelSent popped on a side with active blocking has the bypass
    flag, and the side's blocking is bypassable. -/
theorem C16_no_leak (st st' : St σ) (q : Nat) (qid : Queue) (c : Bool) (e : SimEvent) (u : Int)
    (hw : st.sq.WF) (hd : pickDecide st = .ok (.queue q qid c)) (hp : pickQueue st q qid c = .ok (e, st'))
    (hts : e.event = .tunnelSent) (hblk : (st.side e.client).blockingUntil = some u) :
    e.bypass = true ∧ (st.side e.client).blockingBypassable = true :=
  pickQueue_no_leak hw hd hp (by simp [isTS, hts]) hblk

/-- the routing invariant the no-leak lemma needs holds for every parsed trace and is kept by
    every iteration of the main loop -/
theorem C16_queues_wellformed (ρ : Oracle σ) :
    (∀ trace delay, (parseTrace trace delay).WF) ∧
    (∀ (st st' : St σ) (r : StepRec), st.sq.WF → step ρ st = .ok (some (r, st')) → st'.sq.WF) :=
  ⟨fun trace delay => (parseTrace_spec trace delay).1, fun _ _ _ hw h => (step_conserve ρ hw h).1⟩

/-- non-vacuity of the conditional theorems: a running non-replace extension -/
example : blockUpdate (some 10) true 0 20 true false = (some 20, true) := by decide

end Mb.C16
