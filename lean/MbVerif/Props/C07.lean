/-
  C07 — per-state limits.

  Proved on the model (decision logic stated outright):
  * `C07_gate`: the limit predicates allow an action of a limitable kind (SendPadding,
    BlockOutgoing, UpdateTimer) only while the state limit is > 0 — on every path, including the
    "fraction over zero packets" path (fix 018bd02) and the "replace while blocking is active"
    path. Hence a sampled limit of zero yields no action, and after the limit is used up no
    further limited action is scheduled from that state.
  * `C07_sched_positive`: every action of a limitable kind that is ever put into a slot was gated
    by a runtime whose state limit was positive (stated on the primitive `sched` step, so it holds
    for every reachable execution).
  * `C07_enter`: the limit is resampled exactly when the sampled state differs from the current
    one; a self-transition leaves it alone.
  * `C07_decrement`: a completion decrements the limit by one (never below 0); if it thereby is 0
    and the state's action has a limit, the pending action is withdrawn and LimitReached is
    delivered to that machine at once; otherwise nothing else happens.
  * `C07_other_machines`: transitions and limit decrements of other machines never change this
    machine's state limit (frame).
  * `C07_exhausted` / `C07_exhausted_history` (whole calls and histories, every machine set, every
    oracle, no well-formedness needed): once a machine's state limit is 0, every later call returns
    for it at most a Cancel and leaves the limit at 0 — through self-transitions, CounterZero round
    trips, LimitReached deliveries, batches, completions for it and for others — until the ghost
    log records a resampling of its limit, which `enterState` writes only when the state index
    changes (`C07_enter`). This is "no further limited action from that state until the machine
    re-enters it from another state" (`Proofs/Exhausted.lean`, by induction over the mutual
    recursion of `transition` and `updateCounter`).
  * the exact COUNT over calls (`Proofs/Countdown.lean`), for a machine whose current state has no
    transition on the completion event (so that the completion cannot change the state):
    `C07_completion_step` (one PaddingSent in a single-event call: either the limit goes down by
    exactly one, nothing is returned and LimitReached is not delivered, or — limit at most 1 and
    the action has a limit — the decrement to 0 is directly followed by the delivery of
    LimitReached in the same call), the complete effect on the framework in both cases
    (`C07_paddingSent_keep` / `_fire`, `C07_timerBegin_keep` / `_fire`, and for BlockingBegin, which
    is delivered to every machine but counted for one, `C07_blockingBegin_keep` / `_fire`),
    `C07_countdown` / `C07_countdown_timerBegin` / `C07_countdown_blockingBegin` (after `k`
    completions in `k` calls the limit is `L - k`, the state is unchanged, LimitReached was never
    delivered, the limit never resampled; `C07_countdown_limit` is the projection to limit and
    state), `C07_countdown_fire` / `C07_countdown_fire_full` / `C07_countdown_blockingBegin_fire`
    (the `L`-th completion delivers LimitReached), and `C07_other_machine_completion` (a
    completion reported for another machine or an unknown id never consumes the limit), and,
    for ANY history of ANY batches, machines and oracle, with no assumption at all:
    `C07_decrements_le_completions` (the limit of a machine is decremented at most as often as
    completions for that machine are reported; the decrement is logged by `decrementLimit` only)
    and `C07_no_completion_no_decrement`.
  * THE MONITOR ON THE MODEL'S OWN LOG (`Proofs/LimitLog.lean`, `LimitStep.lean`, `LimitMonitor.lean`;
    any machines, any oracle, any batch, any state; the only hypothesis is that the call ends without
    a fault, which is exactly when the driver hands a call to the monitor):
    `C07_log_accepted`: the ghost log segment of a call, read chronologically, passes the monitor's
    walk `C07.checkLog` started from the (limit, state) pairs of the snapshot before the call: a
    sampled state different from the tracked one is DIRECTLY followed by the assignment of a fresh
    limit to that machine (after the draw of the limit distribution, if any), a self-transition is
    not; every decrement logs the tracked limit minus one (0 stays 0) and is DIRECTLY followed by the
    LimitReached delivery to that machine exactly when it logs 0 in a state whose action carries a
    limit (in plain terms: `C07_log_resample_exact`, `C07_log_decrement_exact`).
    `C07_log_own_completions` (per call, decrements of `j` <= completions reported for `j`),
    `C07_log_single_completion` (single-event call reporting a completion for a live machine: its
    pre-signal log holds no decrement and a change of the machine's state, or exactly one decrement
    and no change of its state before it — whatever the kind of the completion; rests on
    `LL.main2`: the Boolean `Changed` returned by `transition` IS the monitor's `changedState`
    folded over the transition's log segment), `C07_log_no_limited_action` (limit 0 before the call
    and no limit entry for the machine in the call's log: every returned action for it is a Cancel).
    `C07_monitor_accepts_model`: hence `C07.monitor` returns `none` on the trace the model produces
    (`LL.modelTrace`: per call the events, outcome, returned actions, snapshot and the call's log,
    as the driver records them) for EVERY machine set, oracle, configuration and history — the
    monitor raises no false alarm on any implementation that agrees with the model on these
    observables, and the model satisfies the property in the monitor's own vocabulary. The
    invariants needed (`Inv04`: one slot and one runtime per machine, slot `i` holds only actions of
    machine `i`; the machine list never changes) are established by `Fw.init` and preserved by calls
    (`C07_slot_invariant`).
  The implementation is tied to this by the correspondence on (state, limit) after every call
  (tag RS), the internal log with the hook's limit entries (tag L) and `C07.monitor`.
-/
import MbVerif.Proofs.SafeCall
import MbVerif.Proofs.Exhausted
import MbVerif.Proofs.Countdown
import MbVerif.Proofs.LimitMonitor

namespace Mb.C07
open Mb Mb.Countdown

variable {σ : Type} (ρ : Oracle σ)

/-- the action kinds that carry a per-state limit -/
def limitable : Action → Bool
  | .cancel _ => false
  | _ => true

/-- no limitable action passes the limit predicates unless the state limit is positive -/
theorem C07_gate (g : Globals) (r : Runtime) (m : Machine) (st : State) (act : Action)
    (hst : m.states[r.currentState]? = some st) (hact : st.action = some act) (hl : limitable act = true)
    (h : belowActionLimits g r m = some true) : r.stateLimit > 0 :=
  belowActionLimits_true_pos hst hact (fun t e => by rw [e] at hl; cases hl) h

/-- every limitable action that is put into a slot was gated at a positive state limit -/
theorem C07_sched_positive {g : Globals} {m : Machine} {acct : RtAcct} {next : Nat} {act : Action}
    (hg : Gate g m acct next act) (hl : limitable act = true) :
    ∃ r₁ : Runtime, r₁.currentState = next ∧ r₁.acct = acct ∧ r₁.stateLimit > 0 := by
  obtain ⟨r₁, st, hacct, hcur, hst, hact, hb⟩ := hg
  exact ⟨r₁, hcur, hacct, C07_gate g r₁ m st act (by rw [hcur]; exact hst) hact hl hb⟩

/-- self-transitions do not refresh the limit; a change of state index does -/
theorem C07_enter (mi : Nat) (m : Machine) (cur next : Nat) (s : Fw σ) :
    (cur = next → enterState ρ mi m cur next s = s) ∧
    (cur ≠ next → ∀ st a, m.states[next]? = some st → st.action = some a →
      enterState ρ mi m cur next s =
        ((sampleLimit ρ a (s.modRt mi (fun r => { r with currentState := next }))).2.modRt mi
          (fun r => { r with stateLimit := (sampleLimit ρ a (s.modRt mi (fun r => { r with currentState := next }))).1 })).push
          (.limit mi (sampleLimit ρ a (s.modRt mi (fun r => { r with currentState := next }))).1 false)) := by
  constructor
  · intro h; unfold enterState; simp [h]
  · intro h st a hst ha
    unfold enterState
    simp [h, hst, ha]

/-- the decrement performed for a completion -/
theorem C07_decrement (mi : Nat) (s : Fw σ) (r : Runtime) (m : Machine) (st : State)
    (hr : s.rt[mi]? = some r) (hm : s.machines[mi]? = some m) (hst : m.states[r.currentState]? = some st)
    (hlen : mi < s.actions.length) :
    let lim := r.stateLimit - 1
    let s1 := (s.modRt mi (fun r' => { r' with stateLimit := lim })).push (.limit mi lim true)
    decrementLimit ρ mi s =
      match st.action with
      | none => s1
      | some a =>
        if lim = 0 ∧ a.hasLimit = true then
          (transition ρ FUEL mi .limitReached { s1 with actions := s1.actions.set mi none }).1
        else s1 :=
  decrementLimit_eq ρ mi s r m st hr hm hst hlen

/-- other machines never touch this machine's limit (nor any other part of its runtime) -/
theorem C07_other_machines (fuel i j : Nat) (ev : Event) (s : Fw σ) (hij : j ≠ i) :
    (transition ρ fuel j ev s).1.rt[i]? = s.rt[i]? ∧ (decrementLimit ρ j s).rt[i]? = s.rt[i]? :=
  ⟨(transition_reach ρ fuel j ev s).frame.rtOther i (Ne.symm hij),
   (decrementLimit_reach ρ j s).frame.rtOther i (Ne.symm hij)⟩

/-- Non-vacuity: with a state limit of 0, UpdateTimer is denied. -/
example : belowActionLimits
    { now := 0, maxPaddingFrac := 0, maxBlockingFrac := 0, normalSent := 0, paddingSent := 0, blockingDur := 0,
      blockingStarted := 0, blockingActive := false, start := 0 }
    { currentState := 0, stateLimit := 0, counterA := 0, counterB := 0, zeroedA := false, zeroedB := false,
      acct := { paddingSent := 0, normalSent := 0, blockingDur := 0, machineStart := 0, allowedBlocked := 0 } }
    { allowedPaddingPackets := 0, maxPaddingFrac := 0, allowedBlockedMicrosec := 0, maxBlockingFrac := 0,
      states := [{ action := some (.updateTimer false { dist := .uniform 0 0, start := 0, max := 0 } none),
                   counterA := none, counterB := none, transitions := [] }] } = some false := by decide

/-- once the limit is 0: until the machine changes its state index (a resampling is logged), a
    call leaves the limit at 0 and returns at most a Cancel for the machine -/
theorem C07_exhausted (mi : Nat) (es : List TEvent) (t : Int) (s : Fw σ)
    (hz : ∀ r, s.rt[mi]? = some r → r.stateLimit = 0) :
    ∃ l, (triggerEvents ρ es t s).log = l ++ s.log ∧
      ((∃ x, LogEntry.limit mi x false ∈ l) ∨
       ((∀ r, (triggerEvents ρ es t s).rt[mi]? = some r → r.stateLimit = 0) ∧
        (∀ a, (triggerEvents ρ es t s).actions[mi]? = some (some a) → a.isCancel = true))) := by
  obtain ⟨l, e, p⟩ := exhausted_call ρ (mi := mi) es t s hz
  exact ⟨l, e, p.imp id (fun h => ⟨h.lim, h.slot⟩)⟩

/-- the same over a whole history: as long as no resampling for the machine is logged, every call
    of the history returned at most a Cancel for it and the limit stayed 0 -/
theorem C07_exhausted_history (mi : Nat) (h : List Call) (s : Fw σ)
    (hz : ∀ r, s.rt[mi]? = some r → r.stateLimit = 0) :
    ∃ l, (runCalls ρ s h).log = l ++ s.log ∧
      ((∃ x, LogEntry.limit mi x false ∈ l) ∨
       ((∀ r, (runCalls ρ s h).rt[mi]? = some r → r.stateLimit = 0) ∧
        (h ≠ [] → ∀ a, (runCalls ρ s h).actions[mi]? = some (some a) → a.isCancel = true))) := by
  obtain ⟨l, e, p⟩ := exhausted_history ρ (mi := mi) h s hz
  exact ⟨l, e, p.imp id fun ⟨a, b⟩ => ⟨a, fun hne => (b hne).slot⟩⟩

/-- One completion in a single-event call. Machine `mi` is in a state `st` (not END) that has
    no transition on PaddingSent, no signal is pending, and the call reports one PaddingSent for
    `mi`. Then
    (a) if the limit is at least 2, or the state's action carries no limit: afterwards the machine's
        runtime is the old one with the limit one lower (never below 0), one more padding packet
        accounted and the per-call CounterZero flags reset; its slot is empty; the call logged
        exactly the delivery and the decrement — in particular no LimitReached;
    (b) if the limit is at most 1 and the state's action carries a limit: the call's log segment is
        the delivery of PaddingSent, the decrement to 0, then at once the delivery of LimitReached
        to the machine in its unchanged state, then whatever that causes (the log is newest
        first). -/
theorem C07_completion_step (mi : Nat) (t : Int) (s : Fw σ) (r : Runtime) (m : Machine) (st : State)
    (hr : s.rt[mi]? = some r) (hm : s.machines[mi]? = some m) (hst : m.states[r.currentState]? = some st)
    (hne : r.currentState ≠ STATE_END) (hsig : s.signalPending = none) (hlen : mi < s.actions.length)
    (htr : st.transitions[Event.paddingSent.toNat]? = some none) :
    (2 ≤ r.stateLimit ∨ st.action = none ∨ (∃ a, st.action = some a ∧ a.hasLimit = false) →
      (triggerEvents ρ [.paddingSent mi] t s).rt[mi]? =
        some { r with stateLimit := r.stateLimit - 1, zeroedA := false, zeroedB := false,
                      acct := { r.acct with paddingSent := r.acct.paddingSent + 1 } } ∧
      (triggerEvents ρ [.paddingSent mi] t s).actions[mi]? = some none ∧
      (triggerEvents ρ [.paddingSent mi] t s).log =
        .limit mi (r.stateLimit - 1) true :: .trans mi Event.paddingSent.toNat r.currentState :: s.log ∧
      ∃ l, (triggerEvents ρ [.paddingSent mi] t s).log = l ++ s.log ∧
        ∀ st', LogEntry.trans mi Event.limitReached.toNat st' ∉ l) ∧
    (r.stateLimit ≤ 1 → ∀ a, st.action = some a → a.hasLimit = true →
      ∃ l, (triggerEvents ρ [.paddingSent mi] t s).log =
        l ++ .trans mi Event.limitReached.toNat r.currentState :: .limit mi 0 true ::
          .trans mi Event.paddingSent.toNat r.currentState :: s.log) := by
  refine ⟨fun h => ?_, fun h1 a hact hl => ?_⟩
  · have hk : ∀ a, st.action = some a → a.hasLimit = true → 2 ≤ r.stateLimit := by
      intro a ha hl
      rcases h with h | h | ⟨a', ha', hl'⟩
      · exact h
      · rw [h] at ha; cases ha
      · rw [ha'] at ha; cases ha; rw [hl] at hl'; cases hl'
    have hc := (solo_paddingSent ρ mi).keep t s r m st hr hm hne hst htr hsig hk
    exact ⟨hc.rt, hc.slot hlen, hc.log, hc.noLimitReached (by decide)⟩
  · exact ((solo_paddingSent ρ mi).fire t s r m st a hr hm hne hst htr hsig hlen hact hl h1).log

/-- PaddingSent, case (a), the complete effect of the call on the framework (`CallKeep`: the
    machine's runtime, every other runtime, the exact log, all slots empty, machines, pending
    signal, fault flag, random state and framework-wide accounting) -/
theorem C07_paddingSent_keep (mi : Nat) (t : Int) (s : Fw σ) (r : Runtime) (m : Machine) (st : State)
    (hr : s.rt[mi]? = some r) (hm : s.machines[mi]? = some m) (hne : r.currentState ≠ STATE_END)
    (hst : m.states[r.currentState]? = some st) (htr : st.transitions[Event.paddingSent.toNat]? = some none)
    (hsig : s.signalPending = none)
    (hk : ∀ a, st.action = some a → a.hasLimit = true → 2 ≤ r.stateLimit) :
    CallKeep mi .paddingSent r
      { r with stateLimit := r.stateLimit - 1, zeroedA := false, zeroedB := false,
               acct := { r.acct with paddingSent := r.acct.paddingSent + 1 } }
      { s.g with now := t, paddingSent := s.g.paddingSent + 1 } s
      (triggerEvents ρ [.paddingSent mi] t s) :=
  (solo_paddingSent ρ mi).keep t s r m st hr hm hne hst htr hsig hk

/-- PaddingSent, case (b), in full (`CallFire`): LimitReached is delivered to a framework in which
    the machine's limit is 0 and every slot is empty -/
theorem C07_paddingSent_fire (mi : Nat) (t : Int) (s : Fw σ) (r : Runtime) (m : Machine) (st : State) (a : Action)
    (hr : s.rt[mi]? = some r) (hm : s.machines[mi]? = some m) (hne : r.currentState ≠ STATE_END)
    (hst : m.states[r.currentState]? = some st) (htr : st.transitions[Event.paddingSent.toNat]? = some none)
    (hsig : s.signalPending = none) (hlen : mi < s.actions.length)
    (hact : st.action = some a) (hl : a.hasLimit = true) (h1 : r.stateLimit ≤ 1) :
    CallFire ρ mi .paddingSent r
      { r with stateLimit := 0, zeroedA := false, zeroedB := false,
               acct := { r.acct with paddingSent := r.acct.paddingSent + 1 } }
      { s.g with now := t, paddingSent := s.g.paddingSent + 1 } s
      (triggerEvents ρ [.paddingSent mi] t s) :=
  (solo_paddingSent ρ mi).fire t s r m st a hr hm hne hst htr hsig hlen hact hl h1

/-- TimerBegin, case (a) -/
theorem C07_timerBegin_keep (mi : Nat) (t : Int) (s : Fw σ) (r : Runtime) (m : Machine) (st : State)
    (hr : s.rt[mi]? = some r) (hm : s.machines[mi]? = some m) (hne : r.currentState ≠ STATE_END)
    (hst : m.states[r.currentState]? = some st) (htr : st.transitions[Event.timerBegin.toNat]? = some none)
    (hsig : s.signalPending = none)
    (hk : ∀ a, st.action = some a → a.hasLimit = true → 2 ≤ r.stateLimit) :
    CallKeep mi .timerBegin r
      { r with stateLimit := r.stateLimit - 1, zeroedA := false, zeroedB := false }
      { s.g with now := t } s
      (triggerEvents ρ [.timerBegin mi] t s) :=
  (solo_timerBegin ρ mi).keep t s r m st hr hm hne hst htr hsig hk

/-- TimerBegin, case (b) -/
theorem C07_timerBegin_fire (mi : Nat) (t : Int) (s : Fw σ) (r : Runtime) (m : Machine) (st : State) (a : Action)
    (hr : s.rt[mi]? = some r) (hm : s.machines[mi]? = some m) (hne : r.currentState ≠ STATE_END)
    (hst : m.states[r.currentState]? = some st) (htr : st.transitions[Event.timerBegin.toNat]? = some none)
    (hsig : s.signalPending = none) (hlen : mi < s.actions.length)
    (hact : st.action = some a) (hl : a.hasLimit = true) (h1 : r.stateLimit ≤ 1) :
    CallFire ρ mi .timerBegin r
      { r with stateLimit := 0, zeroedA := false, zeroedB := false }
      { s.g with now := t } s
      (triggerEvents ρ [.timerBegin mi] t s) :=
  (solo_timerBegin ρ mi).fire t s r m st a hr hm hne hst htr hsig hlen hact hl h1

/-- BlockingBegin, case (a). The event is delivered to every machine, the decrement is applied to
    `mi` only. The other machines may do anything with it (change state, schedule, signal), so
    the statement is about `mi`'s component and the log; because a neighbour may signal, `mi`'s
    state must have no transition on Signal. No assumption on the pending-signal slot. -/
theorem C07_blockingBegin_keep (mi : Nat) (t : Int) (s : Fw σ) (r : Runtime) (m : Machine) (st : State)
    (hr : s.rt[mi]? = some r) (hm : s.machines[mi]? = some m) (hne : r.currentState ≠ STATE_END)
    (hst : m.states[r.currentState]? = some st) (htr : st.transitions[Event.blockingBegin.toNat]? = some none)
    (hns : ∀ vec, st.transitions[Event.signal.toNat]? ≠ some (some vec))
    (hk : ∀ a, st.action = some a → a.hasLimit = true → 2 ≤ r.stateLimit) :
    (triggerEvents ρ [.blockingBegin mi] t s).rt[mi]? =
      some { r with stateLimit := r.stateLimit - 1, zeroedA := false, zeroedB := false } ∧
    (triggerEvents ρ [.blockingBegin mi] t s).actions[mi]? = (s.actions[mi]?).map (fun _ => none) ∧
    (triggerEvents ρ [.blockingBegin mi] t s).machines[mi]? = some m ∧
    ∃ l, (triggerEvents ρ [.blockingBegin mi] t s).log = l ++ s.log ∧
      (∀ st', LogEntry.trans mi Event.limitReached.toNat st' ∉ l) ∧
      ∃ l1 l2, l = l1 ++ .limit mi (r.stateLimit - 1) true :: .trans mi Event.blockingBegin.toNat r.currentState :: l2 := by
  have hr0 := callStart_rt s t mi r hr
  obtain ⟨a, ha, hb⟩ := blockingBegin_self ρ mi (s.callStart t) _ m st hr0 hm hne hst htr
  have hra := ha.rt.trans hr0
  have hma : a.machines[mi]? = some m := ha.m.trans hm
  rw [decrementLimit_keep ρ mi (a.push _) _ m st hra hma hst hk] at hb
  have hrD : (((a.push (.trans mi Event.blockingBegin.toNat r.currentState)).modRt mi
      (fun r' => { r' with stateLimit := r.stateLimit - 1 })).push (.limit mi (r.stateLimit - 1) true)).rt[mi]? =
      some { r with stateLimit := r.stateLimit - 1, zeroedA := false, zeroedB := false } := by
    rw [Fw.push_rt, Fw.modRt_rt_self, Fw.push_rt, hra]; rfl
  have hq := hb.trans (signalRound_quiet ρ mi m r.currentState
    (fun st' vec hst' => by rw [hst] at hst'; cases hst'; exact hns vec) _
    ⟨hb.m.trans (by simpa using hma), _, hb.rt.trans hrD, rfl⟩)
  obtain ⟨l1, hl1⟩ := hq.ext
  obtain ⟨l2, hl2⟩ := ha.ext
  have hlog : (triggerEvents ρ [.blockingBegin mi] t s).log =
      (l1 ++ .limit mi (r.stateLimit - 1) true :: .trans mi Event.blockingBegin.toNat r.currentState :: l2) ++ s.log := by
    show (signalRound ρ (processEvent ρ (.blockingBegin mi) (s.callStart t))).log = _
    rw [hl1, Fw.push, Fw.modRt_log, Fw.push, hl2]
    simp [Fw.callStart]
  refine ⟨hq.rt.trans hrD, ?_, hq.m.trans (by simpa using hma), _, hlog, ?_, l1, l2, rfl⟩
  · refine (hq.act.trans ?_).trans (ha.act.trans ?_)
    · simp
    · simp only [Fw.callStart, List.getElem?_map]
  · refine noLR_of_le (s := s.callStart t) hlog (Nat.le_trans hq.lr (Nat.le_trans (Nat.le_of_eq ?_) ha.lr))
    rw [lr_push mi _ _ rfl, lr_same (Fw.modRt_log _ _ _), lr_push_ne mi _ _ _ _ (by decide)]

/-- BlockingBegin, case (b): no assumption on signals at all -/
theorem C07_blockingBegin_fire (mi : Nat) (t : Int) (s : Fw σ) (r : Runtime) (m : Machine) (st : State) (a : Action)
    (hr : s.rt[mi]? = some r) (hm : s.machines[mi]? = some m) (hne : r.currentState ≠ STATE_END)
    (hst : m.states[r.currentState]? = some st) (htr : st.transitions[Event.blockingBegin.toNat]? = some none)
    (hlen : mi < s.actions.length)
    (hact : st.action = some a) (hl : a.hasLimit = true) (h1 : r.stateLimit ≤ 1) :
    ∃ l1 l2, (triggerEvents ρ [.blockingBegin mi] t s).log =
      l1 ++ .trans mi Event.limitReached.toNat r.currentState :: .limit mi 0 true ::
        .trans mi Event.blockingBegin.toNat r.currentState :: l2 ++ s.log := by
  have hr0 := callStart_rt s t mi r hr
  obtain ⟨b, hb, hq⟩ := blockingBegin_self ρ mi (s.callStart t) _ m st hr0 hm hne hst htr
  have hlb : mi < b.actions.length :=
    lt_length_of_getElem?_some (hb.act.trans (by simp [Fw.callStart, hlen] : (s.callStart t).actions[mi]? = some none))
  obtain ⟨l, hl'⟩ := decrement_fire_log ρ mi (.trans mi Event.blockingBegin.toNat r.currentState) b _ m st a
    (hb.rt.trans hr0) (hb.m.trans hm) hst hact hl h1 hlb
  obtain ⟨l1, hl1⟩ := hq.ext.trans (logExt_signalRound ρ _)
  obtain ⟨l2, hl2⟩ := hb.ext
  refine ⟨l1 ++ l, l2, ?_⟩
  show (signalRound ρ (processEvent ρ (.blockingBegin mi) (s.callStart t))).log = _
  rw [hl1, hl', hl2]
  simp [Fw.callStart]

/-- Countdown. Starting from a sampled limit `L = r.stateLimit`, `k = ts.length` consecutive
    calls at arbitrary times `ts`, each reporting one PaddingSent for `mi`, in a state without a
    transition on PaddingSent: if the state's action has a limit then `k < L` is required (the
    `L`-th completion is `C07_countdown_fire`), otherwise `k` is arbitrary. Afterwards
    `stateLimit = L - k`, `currentState` (and both counters) unchanged, `k` more padding packets
    accounted; machines, pending signal, fault flag and random state are unchanged, LimitReached
    was never delivered to the machine and its limit was never resampled (`Counted`); and (if
    `k > 0`) every slot is empty. -/
theorem C07_countdown (mi : Nat) (m : Machine) (st : State) (ts : List Int) (s : Fw σ) (r : Runtime)
    (hr : s.rt[mi]? = some r) (hm : s.machines[mi]? = some m) (hne : r.currentState ≠ STATE_END)
    (hst : m.states[r.currentState]? = some st) (htr : st.transitions[Event.paddingSent.toNat]? = some none)
    (hsig : s.signalPending = none)
    (hk : ∀ a, st.action = some a → a.hasLimit = true → ts.length < r.stateLimit) :
    Counted mi
      { r with stateLimit := r.stateLimit - ts.length, zeroedA := r.zeroedA && ts.isEmpty,
               zeroedB := r.zeroedB && ts.isEmpty,
               acct := { r.acct with paddingSent := r.acct.paddingSent + ts.length } }
      s (runCalls ρ s (ts.map (fun t => ([TEvent.paddingSent mi], t)))) ∧
    (ts ≠ [] → (runCalls ρ s (ts.map (fun t => ([TEvent.paddingSent mi], t)))).actions = s.actions.map (fun _ => none)) := by
  have := (solo_paddingSent ρ mi).countdown (by decide) m st ts s r hr hm hne hst htr hsig
    (fun a ha hl => Nat.le_sub_one_of_lt (hk a ha hl))
  rwa [iterate_paddingSent] at this

/-- the projection of `C07_countdown` to the machine's limit and state -/
theorem C07_countdown_limit (mi : Nat) (m : Machine) (st : State) (ts : List Int) (s : Fw σ) (r : Runtime)
    (hr : s.rt[mi]? = some r) (hm : s.machines[mi]? = some m) (hne : r.currentState ≠ STATE_END)
    (hst : m.states[r.currentState]? = some st) (htr : st.transitions[Event.paddingSent.toNat]? = some none)
    (hsig : s.signalPending = none)
    (hk : ∀ a, st.action = some a → a.hasLimit = true → ts.length < r.stateLimit) :
    ∃ r', (runCalls ρ s (ts.map (fun t => ([TEvent.paddingSent mi], t)))).rt[mi]? = some r' ∧
      r'.stateLimit = r.stateLimit - ts.length ∧ r'.currentState = r.currentState :=
  ⟨_, (C07_countdown ρ mi m st ts s r hr hm hne hst htr hsig hk).1.rt, rfl, rfl⟩

/-- The `L`-th completion delivers LimitReached. After `L - 1` counted completions (`L` the
    sampled limit of a state whose action has a limit; `L = 0` is covered with `ts = []`), the next
    PaddingSent for the machine is case (b): in that call the decrement to 0 is directly followed by
    the delivery of LimitReached to the machine, still in the same state. -/
theorem C07_countdown_fire (mi : Nat) (m : Machine) (st : State) (a : Action) (ts : List Int) (t : Int)
    (s : Fw σ) (r : Runtime)
    (hr : s.rt[mi]? = some r) (hm : s.machines[mi]? = some m) (hne : r.currentState ≠ STATE_END)
    (hst : m.states[r.currentState]? = some st) (htr : st.transitions[Event.paddingSent.toNat]? = some none)
    (hsig : s.signalPending = none) (hlen : mi < s.actions.length)
    (hact : st.action = some a) (hl : a.hasLimit = true) (hL : ts.length = r.stateLimit - 1) :
    ∃ l, (runCalls ρ s ((ts ++ [t]).map (fun t => ([TEvent.paddingSent mi], t)))).log =
      l ++ .trans mi Event.limitReached.toNat r.currentState :: .limit mi 0 true ::
        .trans mi Event.paddingSent.toNat r.currentState ::
        (runCalls ρ s (ts.map (fun t => ([TEvent.paddingSent mi], t)))).log := by
  rw [List.map_append, List.map_singleton, runCalls_concat]
  exact ((solo_paddingSent ρ mi).countdown_fire (by decide) m st a ts t s r hr hm hne hst htr hsig hlen hact hl hL).log

/-- `C07_countdown_fire` in full (`CallFire` for the last call) -/
theorem C07_countdown_fire_full (mi : Nat) (m : Machine) (st : State) (a : Action) (ts : List Int) (t : Int)
    (s : Fw σ) (r : Runtime)
    (hr : s.rt[mi]? = some r) (hm : s.machines[mi]? = some m) (hne : r.currentState ≠ STATE_END)
    (hst : m.states[r.currentState]? = some st) (htr : st.transitions[Event.paddingSent.toNat]? = some none)
    (hsig : s.signalPending = none) (hlen : mi < s.actions.length)
    (hact : st.action = some a) (hl : a.hasLimit = true) (hL : ts.length = r.stateLimit - 1) :
    runCalls ρ s ((ts ++ [t]).map (fun t => ([TEvent.paddingSent mi], t))) =
      triggerEvents ρ [.paddingSent mi] t (runCalls ρ s (ts.map (fun t => ([TEvent.paddingSent mi], t)))) ∧
    CallFire ρ mi .paddingSent
      { r with stateLimit := r.stateLimit - ts.length, zeroedA := r.zeroedA && ts.isEmpty,
               zeroedB := r.zeroedB && ts.isEmpty,
               acct := { r.acct with paddingSent := r.acct.paddingSent + ts.length } }
      { r with stateLimit := 0, zeroedA := false, zeroedB := false,
               acct := { r.acct with paddingSent := r.acct.paddingSent + ts.length + 1 } }
      { (runCalls ρ s (ts.map (fun t => ([TEvent.paddingSent mi], t)))).g with
          now := t, paddingSent := (runCalls ρ s (ts.map (fun t => ([TEvent.paddingSent mi], t)))).g.paddingSent + 1 }
      (runCalls ρ s (ts.map (fun t => ([TEvent.paddingSent mi], t))))
      (triggerEvents ρ [.paddingSent mi] t (runCalls ρ s (ts.map (fun t => ([TEvent.paddingSent mi], t))))) := by
  have := (solo_paddingSent ρ mi).countdown_fire (by decide) m st a ts t s r hr hm hne hst htr hsig hlen hact hl hL
  rw [iterate_paddingSent] at this
  exact ⟨by rw [List.map_append, List.map_singleton, runCalls_concat], this⟩

/-- the countdown for TimerBegin completions -/
theorem C07_countdown_timerBegin (mi : Nat) (m : Machine) (st : State) (ts : List Int) (s : Fw σ) (r : Runtime)
    (hr : s.rt[mi]? = some r) (hm : s.machines[mi]? = some m) (hne : r.currentState ≠ STATE_END)
    (hst : m.states[r.currentState]? = some st) (htr : st.transitions[Event.timerBegin.toNat]? = some none)
    (hsig : s.signalPending = none)
    (hk : ∀ a, st.action = some a → a.hasLimit = true → ts.length < r.stateLimit) :
    Counted mi
      { r with stateLimit := r.stateLimit - ts.length, zeroedA := r.zeroedA && ts.isEmpty,
               zeroedB := r.zeroedB && ts.isEmpty }
      s (runCalls ρ s (ts.map (fun t => ([TEvent.timerBegin mi], t)))) ∧
    (ts ≠ [] → (runCalls ρ s (ts.map (fun t => ([TEvent.timerBegin mi], t)))).actions = s.actions.map (fun _ => none)) := by
  have := (solo_timerBegin ρ mi).countdown (by decide) m st ts s r hr hm hne hst htr hsig
    (fun a ha hl => Nat.le_sub_one_of_lt (hk a ha hl))
  rwa [Function.iterate_id] at this

/-- the countdown for BlockingBegin completions, whatever the other machines do with the
    BlockingBegin events they receive (the machine's state has no transition on Signal either) -/
theorem C07_countdown_blockingBegin (mi : Nat) (m : Machine) (st : State) (ts : List Int) (s : Fw σ) (r : Runtime)
    (hr : s.rt[mi]? = some r) (hm : s.machines[mi]? = some m) (hne : r.currentState ≠ STATE_END)
    (hst : m.states[r.currentState]? = some st) (htr : st.transitions[Event.blockingBegin.toNat]? = some none)
    (hns : ∀ vec, st.transitions[Event.signal.toNat]? ≠ some (some vec))
    (hk : ∀ a, st.action = some a → a.hasLimit = true → ts.length < r.stateLimit) :
    (runCalls ρ s (ts.map (fun t => ([TEvent.blockingBegin mi], t)))).rt[mi]? =
      some { r with stateLimit := r.stateLimit - ts.length, zeroedA := r.zeroedA && ts.isEmpty,
                    zeroedB := r.zeroedB && ts.isEmpty } ∧
    (runCalls ρ s (ts.map (fun t => ([TEvent.blockingBegin mi], t)))).machines[mi]? = some m ∧
    (mi < s.actions.length → mi < (runCalls ρ s (ts.map (fun t => ([TEvent.blockingBegin mi], t)))).actions.length) ∧
    (ts ≠ [] → mi < s.actions.length →
      (runCalls ρ s (ts.map (fun t => ([TEvent.blockingBegin mi], t)))).actions[mi]? = some none) ∧
    ∃ l, (runCalls ρ s (ts.map (fun t => ([TEvent.blockingBegin mi], t)))).log = l ++ s.log ∧
      ∀ st', LogEntry.trans mi Event.limitReached.toNat st' ∉ l := by
  induction ts generalizing s r with
  | nil =>
    refine ⟨?_, hm, fun h => h, fun h => absurd rfl h, [], rfl, fun _ => List.not_mem_nil⟩
    simp [runCalls, hr]
  | cons t ts ih =>
    simp only [List.length_cons] at hk
    obtain ⟨c1, c2, c3, l0, c4, c5, _⟩ := C07_blockingBegin_keep ρ mi t s r m st hr hm hne hst htr hns
      (fun a ha hl => by have := hk a ha hl; omega)
    obtain ⟨i1, i2, i3, i4, l1, i5, i6⟩ := ih (triggerEvents ρ [.blockingBegin mi] t s) _ c1 c3 hne hst
      (fun a ha hl => by have := hk a ha hl; show ts.length < r.stateLimit - 1; omega)
    rw [List.map_cons, runCalls_cons]
    have hslot : mi < s.actions.length → (triggerEvents ρ [.blockingBegin mi] t s).actions[mi]? = some none := by
      intro h; rw [c2]; simp [h]
    refine ⟨?_, i2, fun h => i3 (lt_length_of_getElem?_some (hslot h)), fun _ h => ?_,
      l1 ++ l0, by rw [i5, c4, List.append_assoc], ?_⟩
    · rw [i1]
      simp only [List.length_cons, List.isEmpty_cons, Bool.and_false, Bool.false_and, Nat.sub_sub, Nat.add_comm 1]
    · cases ts with
      | nil => exact hslot h
      | cons t' ts' => exact i4 (List.cons_ne_nil _ _) (lt_length_of_getElem?_some (hslot h))
    · intro st' hmem
      rcases List.mem_append.mp hmem with h | h
      · exact i6 st' h
      · exact c5 st' h

/-- the `L`-th BlockingBegin completion delivers LimitReached -/
theorem C07_countdown_blockingBegin_fire (mi : Nat) (m : Machine) (st : State) (a : Action) (ts : List Int) (t : Int)
    (s : Fw σ) (r : Runtime)
    (hr : s.rt[mi]? = some r) (hm : s.machines[mi]? = some m) (hne : r.currentState ≠ STATE_END)
    (hst : m.states[r.currentState]? = some st) (htr : st.transitions[Event.blockingBegin.toNat]? = some none)
    (hns : ∀ vec, st.transitions[Event.signal.toNat]? ≠ some (some vec))
    (hlen : mi < s.actions.length)
    (hact : st.action = some a) (hl : a.hasLimit = true) (hL : ts.length = r.stateLimit - 1) :
    ∃ l1 l2, (runCalls ρ s ((ts ++ [t]).map (fun t => ([TEvent.blockingBegin mi], t)))).log =
      l1 ++ .trans mi Event.limitReached.toNat r.currentState :: .limit mi 0 true ::
        .trans mi Event.blockingBegin.toNat r.currentState :: l2 ++
        (runCalls ρ s (ts.map (fun t => ([TEvent.blockingBegin mi], t)))).log := by
  rw [List.map_append, List.map_singleton, runCalls_concat]
  cases ts with
  | nil =>
    -- `L ≤ 1`: the first completion already uses the limit up
    exact C07_blockingBegin_fire ρ mi t s r m st a hr hm hne hst htr hlen hact hl
      (by simp only [List.length_nil] at hL; omega)
  | cons t0 ts =>
    simp only [List.length_cons] at hL
    obtain ⟨c1, c2, c3, _, _⟩ := C07_countdown_blockingBegin ρ mi m st (t0 :: ts) s r hr hm hne hst htr hns
      (fun _ _ _ => by simp only [List.length_cons]; omega)
    exact C07_blockingBegin_fire ρ mi t _
      { r with stateLimit := r.stateLimit - (t0 :: ts).length, zeroedA := r.zeroedA && (t0 :: ts).isEmpty,
               zeroedB := r.zeroedB && (t0 :: ts).isEmpty } m st a c1 c2 hne hst htr (c3 hlen) hact hl
      (by show r.stateLimit - (ts.length + 1) ≤ 1; omega)

/-- Completions reported for other machines never consume the limit. `E` is PaddingSent,
    BlockingBegin or TimerBegin for a machine `j ≠ mi` (or an unknown id `j`). In the single-event
    call reporting it machine `mi` keeps its state, limit, counters and accounting (only the
    per-call CounterZero flags are reset by the start of the call), its slot is empty and
    LimitReached is not delivered to it — provided its current state has no transition on Signal
    (machine `j` may signal) and, for BlockingBegin (delivered to every machine), none on
    BlockingBegin. Nothing is assumed about the pending-signal slot or the other machines. -/
theorem C07_other_machine_completion (mi j : Nat) (hj : j ≠ mi) (E : TEvent) (hE : CompletionFor j E)
    (t : Int) (s : Fw σ) (r : Runtime) (m : Machine)
    (hr : s.rt[mi]? = some r) (hm : s.machines[mi]? = some m)
    (hns : ∀ st vec, m.states[r.currentState]? = some st → st.transitions[Event.signal.toNat]? ≠ some (some vec))
    (hbb : E = .blockingBegin j →
      ∀ st vec, m.states[r.currentState]? = some st → st.transitions[Event.blockingBegin.toNat]? ≠ some (some vec)) :
    (triggerEvents ρ [E] t s).rt[mi]? = some { r with zeroedA := false, zeroedB := false } ∧
    (triggerEvents ρ [E] t s).actions[mi]? = (s.actions[mi]?).map (fun _ => none) ∧
    (triggerEvents ρ [E] t s).machines[mi]? = some m ∧
    ∃ l, (triggerEvents ρ [E] t s).log = l ++ s.log ∧ ∀ st', LogEntry.trans mi Event.limitReached.toNat st' ∉ l := by
  unfold triggerEvents
  simp only [List.foldl]
  have hr0 := callStart_rt s t mi r hr
  have hs0 : InState mi m r.currentState (s.callStart t) := ⟨hm, _, hr0, rfl⟩
  have h1 := processEvent_other_quiet ρ mi j hj m r.currentState E hE hbb _ hs0
  have h2 := h1.trans (signalRound_quiet ρ mi m r.currentState hns _ (hs0.same h1))
  refine ⟨by rw [h2.rt, hr0], ?_, by rw [h2.m]; exact hm, ?_⟩
  · rw [h2.act]; simp only [Fw.callStart, List.getElem?_map]
  · obtain ⟨l, hl⟩ := h2.ext
    exact ⟨l, hl, noLR_of_le (s := s.callStart t) hl h2.lr⟩

/-- Only a machine's own completions consume its limit — for any history of calls with any
    batches of events, any machines, any oracle, any starting framework: the log segment added by
    the history holds at most as many decrements of `mi`'s limit (`limit mi _ true`, written by
    `decrementLimit` and by nothing else) as the history reports completions for `mi`
    (PaddingSent / BlockingBegin / TimerBegin carrying the id `mi`). Fewer are possible: a
    completion that changes the machine's state, or reaches a machine in END, is not counted. -/
theorem C07_decrements_le_completions (mi : Nat) (h : List Call) (s : Fw σ) :
    ∃ l, (runCalls ρ s h).log = l ++ s.log ∧
      l.countP (isDecrementOf mi) ≤ (h.map (fun c => c.1.countP (TEvent.completes mi))).sum := by
  obtain ⟨l, hl⟩ := runCalls_logExt ρ h s
  refine ⟨l, hl, ?_⟩
  have := dec_runCalls ρ mi h s
  rw [decOf_ext hl] at this
  omega

/-- in particular: completions reported for other machines (and all other events) never
    decrement the machine's limit -/
theorem C07_no_completion_no_decrement (mi : Nat) (h : List Call) (s : Fw σ)
    (hno : ∀ c ∈ h, ∀ e ∈ c.1, TEvent.completes mi e = false) :
    ∃ l, (runCalls ρ s h).log = l ++ s.log ∧ ∀ x, LogEntry.limit mi x true ∉ l := by
  obtain ⟨l, hl, hle⟩ := C07_decrements_le_completions ρ mi h s
  refine ⟨l, hl, fun x hmem => ?_⟩
  have hz : (h.map (fun c => c.1.countP (TEvent.completes mi))).sum = 0 := by
    apply List.sum_eq_zero
    intro n hn
    obtain ⟨c, hc, rfl⟩ := List.mem_map.mp hn
    rw [List.countP_eq_zero]
    intro e he
    simp [hno c hc e he]
  have hpos : 0 < l.countP (isDecrementOf mi) :=
    List.countP_pos_iff.mpr ⟨_, hmem, by simp [isDecrementOf]⟩
  omega

/-- The monitor's log walk accepts the model's log of every fault-free call. For every machine
    set, oracle, batch of events, time and state: if the call ends without a fault, the segment `l`
    it adds to the ghost log (newest first), read chronologically, is accepted by `C07.checkLog`
    started from the limits and states of the snapshot taken before the call (`LL.limOf`, `LL.stOf`:
    the maps `C07.monitor` builds; 0 for an id without a runtime). -/
theorem C07_log_accepted (es : List TEvent) (t : Int) (s : Fw σ) (hok : (triggerEvents ρ es t s).fault = none)
    (l : List LogEntry) (hl : (triggerEvents ρ es t s).log = l ++ s.log) :
    checkLog s.machines (LL.limOf s.snap) (LL.stOf s.snap) (fun _ => none) l.reverse = none :=
  LL.call_accepted ρ es t s hok l hl _

/-- the decrement rule in plain terms. In the chronological log of a fault-free call, at a decrement
    entry `limit mi v true` (`f` = the limits and states the monitor tracks up to that point:
    the snapshot before the call, updated by the limit entries and sampled states of the prefix):
    `v` is the tracked limit minus one (0 stays 0), and the entry is IMMEDIATELY followed by the
    LimitReached delivery to `mi` exactly when `v = 0` and the action of `mi`'s tracked state
    carries a limit. -/
theorem C07_log_decrement_exact (es : List TEvent) (t : Int) (s : Fw σ) (hok : (triggerEvents ρ es t s).fault = none)
    (l : List LogEntry) (hl : (triggerEvents ρ es t s).log = l ++ s.log)
    (pre rest : List LogEntry) (mi v : Nat) (hsplit : l.reverse = pre ++ .limit mi v true :: rest) :
    v = (if (LL.after (LL.limOf s.snap, LL.stOf s.snap) pre).1 mi > 0
          then (LL.after (LL.limOf s.snap, LL.stOf s.snap) pre).1 mi - 1 else 0) ∧
    ((∃ st rest', rest = .trans mi Gen.EV_LimitReached st :: rest') ↔
      (v = 0 ∧ hasLimitAt s.machines mi ((LL.after (LL.limOf s.snap, LL.stOf s.snap) pre).2 mi) = true)) := by
  have h := C07_log_accepted ρ es t s hok l hl
  rw [hsplit] at h
  obtain ⟨h1, h2, _⟩ := LL.checkLog_limitT_none _ _ _ _ mi v rest (LL.checkLog_split _ pre _ _ _ _ h)
  refine ⟨h1, ?_⟩
  rw [← LL.nextLR_iff, h2]
  simp

/-- the resampling rule in plain terms. In the chronological log of a fault-free call, a sampled
    regular state `next` of machine `mi` is IMMEDIATELY followed by the assignment of a fresh limit
    to `mi` — directly or after exactly one distribution draw — exactly when `next` differs from the
    state tracked for `mi` up to that point; a self-transition is never followed by one. -/
theorem C07_log_resample_exact (es : List TEvent) (t : Int) (s : Fw σ) (hok : (triggerEvents ρ es t s).fault = none)
    (l : List LogEntry) (hl : (triggerEvents ρ es t s).log = l ++ s.log)
    (pre rest : List LogEntry) (mi ev next : Nat) (hsplit : l.reverse = pre ++ .sampled mi ev next :: rest)
    (hreg : isRegular next = true) :
    ((∃ x rest', rest = .limit mi x false :: rest') ∨ (∃ b x rest', rest = .distRaw b :: .limit mi x false :: rest')) ↔
      next ≠ (LL.after (LL.limOf s.snap, LL.stOf s.snap) pre).2 mi := by
  have h := C07_log_accepted ρ es t s hok l hl
  rw [hsplit] at h
  have h1 := (LL.checkLog_sampled_none _ _ _ _ mi ev next rest (LL.checkLog_split _ pre _ _ _ _ h)).1 hreg
  rw [← LL.followsB_iff, h1]
  simp

/-- rule 2 of the monitor, per call (no hypothesis at all): the call's log holds at most as many
    decrements of `j`'s limit as the call reports completions for `j` -/
theorem C07_log_own_completions (j : Nat) (es : List TEvent) (t : Int) (s : Fw σ)
    (l : List LogEntry) (hl : (triggerEvents ρ es t s).log = l ++ s.log) :
    decrements j l.reverse ≤ completions j es :=
  LL.decrements_le_call ρ j es t s l hl

/-- rule 3 of the monitor: a single-event call reporting a completion (of any of the three kinds)
    for a machine `m` that has a runtime and has not ended, ending without a fault. The part `pre`
    of the call's chronological log before the signal round either holds no decrement of `m` and a
    change of `m`'s state (a sampled END or a sampled regular state different from the tracked one),
    or exactly one decrement of `m` and no change of `m`'s state before that decrement. -/
theorem C07_log_single_completion (m : Nat) (e : TEvent)
    (he : e = .paddingSent m ∨ e = .blockingBegin m ∨ e = .timerBegin m)
    (t : Int) (s : Fw σ) (r : Runtime) (hr : s.rt[m]? = some r) (hne : r.currentState ≠ STATE_END)
    (hok : (triggerEvents ρ [e] t s).fault = none)
    (l : List LogEntry) (hl : (triggerEvents ρ [e] t s).log = l ++ s.log) :
    (decrements m (beforeSignals l.reverse) = 0 ∧ changedState m r.currentState (beforeSignals l.reverse) = true) ∨
    (decrements m (beforeSignals l.reverse) = 1 ∧
      changedState m r.currentState ((beforeSignals l.reverse).takeWhile (LL.notDec m)) = false) :=
  LL.ruleC_call ρ m e he t s r hr hne hok l hl

/-- rule 4 of the monitor (`LL.badAct` is its test): in a state satisfying the slot invariant, no
    returned action is of a limitable kind for a machine whose limit was 0 before the call and
    whose limit the call's log never touches -/
theorem C07_log_no_limited_action (es : List TEvent) (t : Int) (s : Fw σ) (hI : Inv04 s)
    (l : List LogEntry) (hl : (triggerEvents ρ es t s).log = l ++ s.log)
    (a : TAction) (ha : a ∈ (triggerEvents ρ es t s).actionsOut) :
    LL.badAct (LL.limOf s.snap) l.reverse a = false :=
  LL.no_limited_action ρ es t s hI l hl a ha

/-- the slot invariant holds after `Framework::new` and is preserved by every call -/
theorem C07_slot_invariant (ms : List Machine) (fp fb : F64) (t0 : Int) (rng : σ) :
    Inv04 (Fw.init ρ ms fp fb t0 rng) ∧
    ∀ (s : Fw σ), Inv04 s → ∀ es t, Inv04 (triggerEvents ρ es t s) :=
  ⟨Inv04.init ρ ms fp fb t0 rng, fun s hI es t => hI.run (triggerEvents_run ρ es t s)⟩

/-- `C07.monitor` accepts the model's own trace of every history: for every machine set,
    configuration, oracle and history of calls, the monitor applied to the trace of the model
    (`LL.modelTrace`: the records the driver builds — events, outcome, returned actions, snapshot and
    the call's log) reports no violation. -/
theorem C07_monitor_accepts_model (ms : List Machine) (fp fb : F64) (t0 : Int) (rng : σ) (h : List Call) :
    monitor (LL.modelTrace ρ ms fp fb t0 rng h) = none :=
  LL.monitor_model ρ ms fp fb t0 rng h

section Demo

/-- a state with a limited UpdateTimer action and no transitions at all -/
private def demoSt : State :=
  { action := some (.updateTimer false { dist := .uniform 0 0, start := 0, max := 0 }
      (some { dist := .uniform 0 0, start := 0, max := 0 })),
    counterA := none, counterB := none, transitions := List.replicate 13 none }
private def demoM : Machine :=
  { allowedPaddingPackets := 0, maxPaddingFrac := 0, allowedBlockedMicrosec := 0, maxBlockingFrac := 0,
    states := [demoSt] }
/-- in state 0 with a sampled limit of 3 -/
private def demoR : Runtime :=
  { currentState := 0, stateLimit := 3, counterA := 0, counterB := 0, zeroedA := false, zeroedB := false,
    acct := { paddingSent := 0, normalSent := 0, blockingDur := 0, machineStart := 0, allowedBlocked := 0 } }
/-- two copies of the machine -/
private def demoS : Fw Unit :=
  { machines := [demoM, demoM], rt := [demoR, demoR], actions := [none, none],
    g := { now := 0, maxPaddingFrac := 0, maxBlockingFrac := 0, normalSent := 0, paddingSent := 0, blockingDur := 0,
           blockingStarted := 0, blockingActive := false, start := 0 },
    signalPending := none, rng := (), fault := none, log := [] }
private def demoρ : Oracle Unit := { u := fun _ => (0, ()), d := fun _ _ => (0, ()) }

/-- the hypotheses of `C07_completion_step`, `C07_countdown` and `C07_countdown_fire` hold here
    (machine 0, `L = 3`, two earlier calls) -/
example : demoS.rt[0]? = some demoR ∧ demoS.machines[0]? = some demoM ∧ demoR.currentState ≠ STATE_END ∧
    demoM.states[demoR.currentState]? = some demoSt ∧ demoSt.transitions[Event.paddingSent.toNat]? = some none ∧
    demoS.signalPending = none ∧ 0 < demoS.actions.length ∧
    (∃ a, demoSt.action = some a ∧ a.hasLimit = true) ∧ [10, 20].length = demoR.stateLimit - 1 := by
  refine ⟨rfl, rfl, by decide, rfl, by decide, rfl, by decide, ⟨_, rfl, rfl⟩, rfl⟩

/-- two PaddingSent completions: the limit is 3 - 2 -/
example : ((runCalls demoρ demoS ([10, 20].map (fun t => ([TEvent.paddingSent 0], t)))).rt[0]?).map (·.stateLimit) =
    some 1 := by decide +kernel

/-- the third one delivers LimitReached (event 8) right after the decrement to 0 (newest first) -/
example : (runCalls demoρ demoS ([10, 20, 30].map (fun t => ([TEvent.paddingSent 0], t)))).log =
    [.trans 0 8 0, .limit 0 0 true, .trans 0 4 0, .limit 0 1 true, .trans 0 4 0, .limit 0 2 true, .trans 0 4 0] := by
  decide +kernel

/-- completions for machine 1 and for the unknown id 7 do not consume machine 0's limit; a
    BlockingBegin for machine 0 is delivered to both machines and counted for machine 0 only -/
example : ((runCalls demoρ demoS [([.paddingSent 1], 10), ([.timerBegin 7], 20), ([.blockingBegin 1], 30),
      ([.blockingBegin 0], 40)]).rt.map (·.stateLimit)) = [2, 1] := by decide +kernel

end Demo

section MonitorDemo

private def dZero : Dist := { dist := .uniform 0 0, start := 0, max := 0 }
/-- the constant 2.0 -/
private def dTwo : Dist := { dist := .uniform 4611686018427387904 4611686018427387904, start := 0, max := 0 }
/-- state 0: no action; NormalSent leads to state 1 with probability 1 -/
private def mSt0 : State :=
  { action := none, counterA := none, counterB := none,
    transitions := (List.replicate 13 none).set 3 (some [{ target := 1, prob := 1065353216 }]) }
/-- state 1: UpdateTimer with a limit of 2; LimitReached leads back to state 0 -/
private def mSt1 : State :=
  { action := some (.updateTimer false dZero (some dTwo)), counterA := none, counterB := none,
    transitions := (List.replicate 13 none).set 8 (some [{ target := 0, prob := 1065353216 }]) }
private def mM : Machine :=
  { allowedPaddingPackets := 0, maxPaddingFrac := 0, allowedBlockedMicrosec := 0, maxBlockingFrac := 0,
    states := [mSt0, mSt1] }
private def mρ : Oracle Unit := { u := fun _ => (0, ()), d := fun _ _ => (0, ()) }
private def mTrace : FwTrace :=
  LL.modelTrace mρ [mM] 0 0 0 () [([.normalSent], 10), ([.timerBegin 0], 20), ([.timerBegin 0], 30), ([.timerBegin 0], 40)]

/-- Non-vacuity of `C07_monitor_accepts_model`: no call faults (the monitor walks all four), and the
    logs hold a resampling after the draw of the limit distribution, two decrements, the
    LimitReached delivery (event 8) right after the decrement to 0, and a resampling without a draw. -/
example : mTrace.calls.map (·.res) = [.ok, .ok, .ok, .ok] ∧
    mTrace.calls.map (·.log) =
      [[.trans 0 3 0, .draw 0, .sampled 0 3 1, .distRaw 4611686018427387904, .limit 0 2 false, .counter 0 0 0 0 0,
        .distRaw 0],
       [.trans 0 10 1, .limit 0 1 true],
       [.trans 0 10 1, .limit 0 0 true, .trans 0 8 1, .draw 0, .sampled 0 8 0, .limit 0 18446744073709551615 false,
        .counter 0 0 0 0 0],
       [.trans 0 10 0, .limit 0 18446744073709551614 true]] ∧
    mTrace.calls.map (·.actions) = [[.updateTimer 0 false 0], [], [], []] ∧
    monitor mTrace = none := by decide +kernel

/-- Non-vacuity of the rules of `checkLog` (machine in state 1 with limit 1 / state 0): a change of
    state without a resampling, a refreshed self-transition, a wrong decrement, a decrement to 0
    without LimitReached and a LimitReached delivery above 0 are all rejected; the model's third
    call is accepted. -/
example :
    (checkLog [mM] (fun _ => 0) (fun _ => 0) (fun _ => none) [.sampled 0 3 1, .counter 0 0 0 0 0]).isSome = true ∧
    (checkLog [mM] (fun _ => 1) (fun _ => 1) (fun _ => none) [.sampled 0 3 1, .limit 0 2 false]).isSome = true ∧
    (checkLog [mM] (fun _ => 2) (fun _ => 1) (fun _ => none) [.limit 0 0 true, .trans 0 8 1]).isSome = true ∧
    (checkLog [mM] (fun _ => 1) (fun _ => 1) (fun _ => none) [.limit 0 0 true]).isSome = true ∧
    (checkLog [mM] (fun _ => 2) (fun _ => 1) (fun _ => none) [.limit 0 1 true, .trans 0 8 1]).isSome = true ∧
    checkLog [mM] (fun _ => 1) (fun _ => 1) (fun _ => none)
      [.trans 0 10 1, .limit 0 0 true, .trans 0 8 1, .draw 0, .sampled 0 8 0, .limit 0 18446744073709551615 false,
       .counter 0 0 0 0 0] = none := by decide +kernel

end MonitorDemo

end Mb.C07
