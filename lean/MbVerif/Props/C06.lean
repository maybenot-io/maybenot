/-
  C06 — transitions follow the declared probabilities over the whole RNG output space.

  The draw of `State::sample_state` takes exactly the `N = 2^23` values `k/N` (`k = w >> 9` of the
  `next_u32` word).  For a vector accepted by validation (`C12.VecWF`) the f32 running sums
  `c₀ = 0, cᵢ = fl32(cᵢ₋₁ + pᵢ)` never decrease and outcome `k` selects transition `i` iff
  `cᵢ₋₁ ≤ k/N < cᵢ`; so exactly `⌈cᵢ·N⌉ − ⌈cᵢ₋₁·N⌉` outcomes select it and `N − ⌈c_n·N⌉` select
  nothing (by the counting lemma `count_band`, not by enumeration), and that share is within
  `2^-23 + 2^-24` of the declared `pᵢ`.

  Framework level (`C06.fwMonitor` reads the hooked log): every transition lookup whose state
  declares a list for the event — top level, CounterZero inside `update_counter`, LimitReached
  inside a limit decrement, Signal — is directly followed by a draw of its own, and by the sampling
  entry exactly when `sampleState` of that list and that draw selects a target; no other draw or
  sampling exists.  The monitor accepts the model's trace under the one hypothesis that the oracle's
  draws are among the `2^23` values `k/2^23`, which is what `C06_draw01` shows of rand's conversion.
-/
import MbVerif.Proofs.SampleState
import MbVerif.Proofs.Validate
import MbVerif.Proofs.MonitorAcceptA

namespace Mb.C06
open Mb Mb.Fp

theorem C06_draw_nonneg (k : Nat) : le (.fin 0) (draw k) = true := by
  simp only [draw, le_fin_fin, decide_eq_true_eq]
  exact div_nonneg (Nat.cast_nonneg k) N_pos.le

/-- the running sums of a validated vector never decrease -/
theorem C06_mono {n : Nat} {ts : List Trans} (hv : C12.VecWF n ts) : Mono (.fin 0) ts :=
  mono_of_probs good_zero hv.probs

/-- the hypothesis `C12.VecWF` of the theorems below is what validation establishes: for the
    NaN-rejecting comparisons outright … -/
theorem C06_vecWF_of_validated_fixed {n : Nat} {ts : List Trans}
    (h : Validate.transVecWith Validate.checksFixed n ts = true) : C12.VecWF n ts :=
  Validate.transVecWith_sound Validate.checksFixed_sound (fun _ _ => trivial) h

/-- … which are those of the code since fix 65165a2: every vector accepted by `State::validate`
    satisfies the hypothesis of the theorems below -/
theorem C06_vecWF_of_validated {n : Nat} {ts : List Trans} (h : Validate.transVec n ts = true) : C12.VecWF n ts := by
  rw [Validate.transVec_eq_with] at h; exact C06_vecWF_of_validated_fixed h

/-- which outcomes select which target -/
theorem C06_pick_some_iff {n : Nat} {ts : List Trans} (hv : C12.VecWF n ts) (k t : Nat) :
    pick ts k = some t ↔
      ∃ b ∈ bands (.fin 0) ts, b.target = t ∧ le b.lo (draw k) = true ∧ lt (draw k) b.hi = true :=
  sampleLoop_some_iff (C06_mono hv) (C06_draw_nonneg k) t

/-- which outcomes select nothing -/
theorem C06_pick_none_iff {n : Nat} {ts : List Trans} (hv : C12.VecWF n ts) (k : Nat) :
    pick ts k = none ↔ le (total (.fin 0) ts) (draw k) = true :=
  sampleLoop_none_iff (C06_mono hv) (C06_draw_nonneg k)

/-- the model of `sample_state` on f32 bits is `pick` on the outcome index -/
theorem C06_sampleState_eq_pick (ts : List Trans) (r : F32) (k : Nat) (h : val32 r = draw k) :
    sampleState ts r = pick ts k := by
  simp [sampleState, pick, h]

/-- share of each transition: exactly `⌈cᵢ·N⌉ − ⌈cᵢ₋₁·N⌉` of the `N` outcomes -/
theorem C06_count_target {n : Nat} {ts : List Trans} (hv : C12.VecWF n ts) (b : Band)
    (hb : b ∈ bands (.fin 0) ts) :
    count (fun k => decide (pick ts k = some b.target)) = b.size := by
  have hg := good_bands good_zero hv.probs b hb
  unfold Band.size
  rw [← count_good_band hg.1 hg.2]
  apply count_congr_iff
  intro k _
  rw [C06_pick_some_iff hv, Bool.and_eq_true]
  constructor
  · rintro ⟨b', hb', ht, h⟩
    -- distinct targets: b' = b
    have hnd : ((bands (.fin 0) ts).map (·.target)).Nodup := by rw [bands_targets]; exact hv.distinct
    exact List.inj_on_of_nodup_map hnd hb' hb ht ▸ h
  · exact fun h => ⟨b, hb, rfl, h⟩

/-- no transition on exactly `N − ⌈c_n·N⌉` outcomes -/
theorem C06_count_none {n : Nat} {ts : List Trans} (hv : C12.VecWF n ts) :
    count (fun k => decide (pick ts k = none)) = N - ceilN (total (.fin 0) ts) := by
  have hg := good_total good_zero hv.probs (c := .fin 0) (ts := ts)
  rw [← show ceilN (.inf false) = N from rfl, ← count_good_band hg (good_inf.2 rfl)]
  apply count_congr_iff
  intro k _
  rw [C06_pick_none_iff hv, show lt (draw k) (.inf false) = true from rfl, Bool.and_true]

/-- the closed form evaluated by the check is what the theorems above state -/
theorem C06_closedForm {n : Nat} {ts : List Trans} (hv : C12.VecWF n ts) :
    (∀ tc ∈ (closedForm ts).1, count (fun k => decide (pick ts k = some tc.1)) = tc.2) ∧
    count (fun k => decide (pick ts k = none)) = (closedForm ts).2 := by
  refine ⟨?_, C06_count_none hv⟩
  intro tc htc
  simp only [closedForm, List.mem_map] at htc
  obtain ⟨b, hb, rfl⟩ := htc
  exact C06_count_target hv b hb

/-- the per-event sum of a validated vector is a real number in (0,1], so the residual share
    `N − ⌈c_n·N⌉` is a genuine count -/
theorem C06_total_real {n : Nat} {ts : List Trans} (hv : C12.VecWF n ts) :
    ∃ q : ℚ, total (.fin 0) ts = .fin q ∧ 0 ≤ q ∧ q ≤ 1 := by
  have hg := good_total good_zero hv.probs (c := .fin 0) (ts := ts)
  have hs := hv.sum
  rw [← total_eq_f32sum] at hs
  generalize total (.fin 0) ts = v at hg hs
  rcases v with _ | _ | q
  · exact hs.elim
  · exact hs.elim
  · exact ⟨q, rfl, hg.1, hs⟩

/-- up to the resolution of the draw: the share of outcomes taking transition `i` differs from
    the declared `pᵢ` by less than `2^-23` (one outcome) plus `2^-24` (one f32 rounding of the
    running sum) -/
theorem C06_share_close {n : Nat} {ts : List Trans} (hv : C12.VecWF n ts) (b : Band)
    (hb : b ∈ bands (.fin 0) ts) :
    ∃ pq : ℚ, b.p = .fin pq ∧ |(b.size : ℚ) / (N : ℚ) - pq| < 1 / 2 ^ 23 + 1 / 2 ^ 24 := by
  have hg := good_bands good_zero hv.probs b hb
  obtain ⟨t, ht, hpt, _⟩ := bands_p_mem _ _ b hb
  have hp : C12.Prob b.p := by rw [hpt]; exact hv.probs t ht
  obtain ⟨q, hq, _, hq1⟩ := C06_total_real hv
  have hle := mono_band_le_total (C06_mono hv) b hb
  rw [hq] at hle
  have hhi := hg.2
  generalize hbh : b.hi = h at hle hhi
  rcases h with _ | s | c
  · exact hhi.elim
  · obtain rfl := good_inf.1 hhi; simp [le] at hle
  · have hc1 : c ≤ 1 := le_trans (by simpa using hle) hq1
    unfold Band.size
    exact band_share_close hg.1 hp (bands_hi_eq _ _ b hb) hbh hc1

/-- a first transition declared with probability 1.0 is taken on every outcome of the draw -/
theorem C06_prob_one (t0 : Trans) (rest : List Trans) (h : val32 t0.prob = .fin 1) (k : Nat) (hk : k < N) :
    pick (t0 :: rest) k = some t0.target := by
  have hlt : (k : ℚ) / (N : ℚ) < 1 := by rw [div_lt_one N_pos]; exact_mod_cast hk
  simp only [pick, sampleLoop, h, add, zero_add, round_one, draw, lt_fin_fin, hlt, decide_true, ↓reduceIte]

/-- in particular for the single-transition vectors `[Trans(t, 1.0)]` used by hand-written machines -/
theorem C06_prob_one_single (t : Nat) (p : F32) (h : val32 p = .fin 1) (k : Nat) (hk : k < N) :
    pick [⟨t, p⟩] k = some t :=
  C06_prob_one ⟨t, p⟩ [] h k hk

/-- an event for which the state declares no vector: no draw, no state change, `Unchanged` -/
theorem C06_no_vector {σ : Type} (ρ : Oracle σ) (fuel mi : Nat) (ev : Event) (s : Fw σ)
    (r : Runtime) (m : Machine) (st : State)
    (h1 : s.rt[mi]? = some r) (h2 : s.machines[mi]? = some m) (h3 : r.currentState ≠ STATE_END)
    (h4 : m.states[r.currentState]? = some st) (h5 : st.transitions[ev.toNat]? = some none) :
    transition ρ (fuel + 1) mi ev s = (s.push (.trans mi ev.toNat r.currentState), false) := by
  simp [transition, h1, h2, h3, h4, h5]

/-- non-vacuity: `[Trans(1, 0.5), Trans(END, 0.25)]` is a validated vector; its closed form is
    half of the outcomes for state 1, a quarter for END and a quarter for no transition -/
example : C12.VecWF 2 [⟨1, 0x3f000000⟩, ⟨STATE_END, 0x3e800000⟩] ∧
    closedForm [⟨1, 0x3f000000⟩, ⟨STATE_END, 0x3e800000⟩] =
      ([(1, 4194304), (STATE_END, 2097152)], 2097152) := by
  refine ⟨by rw [← C12.vecWfB_iff]; decide +kernel, by decide +kernel⟩

/-- one `next_u32` word `w` yields the draw `k/2^23` with `k = w >> 9`, without retry -/
theorem C06_draw01 (w : UInt32) :
    C13.draw01 w = some (draw (w.toNat / 2 ^ 9)) ∧ w.toNat / 2 ^ 9 < N := by
  have hk : w.toNat / 2 ^ 9 < 2 ^ 23 := by
    have := w.toNat_lt
    omega
  refine ⟨?_, hk⟩
  have h0 : val32 0 = .fin 0 := by decide +kernel
  have h1 : val32 0x3f800000 = .fin 1 := by decide +kernel
  set v : ℚ := ((w.toNat / 2 ^ 9 : Nat) : ℚ) / ((2 ^ 23 : Nat) : ℚ) with hv
  have hrep : Rep 24 (-149) v := rep_unit _ hk
  have hv0 : 0 ≤ v := by positivity
  have hv1 : v < 1 := by
    rw [hv, div_lt_one (by positivity)]; exact_mod_cast hk
  have hround : f32.round v = .fin v := round_self_of_le_one hrep hv0 hv1.le
  have hsub : sub f32 (.fin 1) (.fin 0) = .fin 1 := by
    simp only [sub, neg, add, neg_zero, add_zero]; exact round_one
  unfold C13.draw01 C13.uniformF32
  simp only [h0, h1, hsub, C13.unit32]
  have hm : mul f32 (.fin v) (.fin 1) = .fin v := by simp only [mul, mul_one]; exact hround
  have ha : add f32 (.fin v) (.fin 0) = .fin v := by simp only [add, add_zero]; exact hround
  rw [hm, ha]
  simp only [lt_fin_fin, hv1, decide_true, ↓reduceIte]
  rfl

section FwMonitor

variable {σ : Type} (ρ : Oracle σ)

/-- One fresh draw per lookup, in the monitor's own terms, for every machine set (validated or
    not), configuration, oracle (arbitrary draws, NaN included) and history, faulting or not: the log
    of the construction and the log of every call of the model's trace pass `checkDraws`. -/
theorem C06_log_fresh_draws (ms : List Machine) (fp fb : F64) (t0 : Int) (rng : σ) (h : List Call) :
    checkDraws ms (LL.modelTrace ρ ms fp fb t0 rng h).log0 = none ∧
    ∀ r ∈ (LL.modelTrace ρ ms fp fb t0 rng h).calls, checkDraws ms r.log = none :=
  MA.c06_checkDraws_trace ρ ms fp fb t0 rng h

/-- the monitor's range predicate says exactly that the draw is one of the `N = 2^23` outcomes
    `draw k = k/N`, `k < N`, over which the counting theorems above range -/
theorem C06_drawInRange_iff (bits : F32) :
    drawInRange bits = true ↔ ∃ k, k < N ∧ val32 bits = draw k := by
  unfold drawInRange draw
  have hN : (0 : ℚ) < (N : ℚ) := N_pos
  constructor
  · intro h
    cases hv : val32 bits with
    | nan => rw [hv] at h; simp at h
    | inf s => rw [hv] at h; simp at h
    | fin q =>
      rw [hv] at h
      simp only [Bool.and_eq_true, decide_eq_true_eq] at h
      obtain ⟨⟨h0, h1⟩, hd⟩ := h
      have hnn : 0 ≤ (q * (N : ℚ)).num := Rat.num_nonneg.mpr (mul_nonneg h0 hN.le)
      have hk : (((q * (N : ℚ)).num.toNat : ℕ) : ℚ) = q * (N : ℚ) := by
        rw [← Int.cast_natCast, Int.toNat_of_nonneg hnn]; exact (Rat.den_eq_one_iff _).mp hd
      refine ⟨(q * (N : ℚ)).num.toNat, ?_, ?_⟩
      · have : (((q * (N : ℚ)).num.toNat : ℕ) : ℚ) < (N : ℚ) := by
          rw [hk]; calc q * (N : ℚ) < 1 * (N : ℚ) := mul_lt_mul_of_pos_right h1 hN
            _ = (N : ℚ) := one_mul _
        exact_mod_cast this
      · rw [hk, mul_div_assoc, div_self hN.ne', mul_one]
  · rintro ⟨k, hk, hv⟩
    rw [hv]
    have hkq : ((k : ℚ)) < (N : ℚ) := by exact_mod_cast hk
    simp only [Bool.and_eq_true, decide_eq_true_eq]
    refine ⟨⟨div_nonneg (Nat.cast_nonneg k) hN.le, (div_lt_one hN).mpr hkq⟩, ?_⟩
    rw [div_mul_cancel₀ _ hN.ne']
    simp

/-- The monitor accepts the model. Hypothesis `hu`: every uniform draw of the oracle is one of
    the `2^23` values `k/2^23`, `0 ≤ k < 2^23` (`C06_drawInRange_iff`) — the monitor's range rule
    checks exactly that of every logged draw, the model's oracle is arbitrary, so the hypothesis is
    needed (`C06_monitor_rejects_bad_draw`); for the implementation it is `C06_draw01`. Nothing else
    is assumed: any machines, configuration, history. -/
theorem C06_monitor_accepts_model (hu : ∀ g, drawInRange (ρ.u g).1 = true) (ms : List Machine) (fp fb : F64)
    (t0 : Int) (rng : σ) (h : List Call) : fwMonitor (LL.modelTrace ρ ms fp fb t0 rng h) = none :=
  MA.c06_monitor_model ρ hu ms fp fb t0 rng h

/-- transition slots: 13 events, the listed ones with a vector -/
private def slots (l : List (Nat × List Trans)) : List (Option (List Trans)) :=
  l.foldl (fun acc p => acc.set p.1 (some p.2)) (List.replicate 13 none)
/-- state 0: NormalSent leads to state 1 or stays, 1/2 each -/
private def dSt0 : State :=
  { action := none, counterA := none, counterB := none,
    transitions := slots [(3, [{ target := 1, prob := 1056964608 }, { target := 0, prob := 1056964608 }])] }
/-- state 1: counter A += 1; NormalSent leads to state 2 with probability 1 -/
private def dSt1 : State :=
  { action := none, counterA := some { operation := .increment, dist := none, copy := false }, counterB := none,
    transitions := slots [(3, [{ target := 2, prob := 1065353216 }])] }
/-- state 2: counter A -= 1 (so CounterZero fires on entry); CounterZero leads to state 0 with
    probability 1/2 -/
private def dSt2 : State :=
  { action := none, counterA := some { operation := .decrement, dist := none, copy := false }, counterB := none,
    transitions := slots [(9, [{ target := 0, prob := 1056964608 }])] }
private def dM : Machine :=
  { allowedPaddingPackets := 0, maxPaddingFrac := 0, allowedBlockedMicrosec := 0, maxBlockingFrac := 0,
    states := [dSt0, dSt1, dSt2] }
/-- draws 0, 0.75, 0, 0, 0.75, 0, … -/
private def dρ : Oracle Nat :=
  { u := fun g => (if g % 3 = 1 then 1061158912 else 0, g + 1), d := fun _ g => (0, g) }
private def dTrace (g : Nat) : FwTrace :=
  LL.modelTrace dρ [dM] 0 0 0 g [([.normalSent], 10), ([.normalSent, .paddingRecv], 20)]

/-- the demo oracle satisfies the hypothesis of `C06_monitor_accepts_model` -/
example : ∀ g, drawInRange (dρ.u g).1 = true := by
  intro g
  show drawInRange (if g % 3 = 1 then 1061158912 else 0) = true
  split <;> decide +kernel

/-- Non-vacuity of `C06_monitor_accepts_model`: no call faults; in the second call the transition
    into state 2 zeroes counter A and the CounterZero lookup (event 9) inside `update_counter` makes a
    draw of its own — 0, selecting target 0, from random state 0; 0.75, selecting nothing, from random
    state 2 — and PaddingRecv (event 1) is looked up without a list; the monitor accepts both traces. -/
example : (dTrace 0).calls.map (·.res) = [.ok, .ok] ∧
    (dTrace 0).calls.map (·.log) =
      [[.trans 0 3 0, .draw 0, .sampled 0 3 1, .limit 0 18446744073709551615 false, .counter 0 0 1 0 0],
       [.trans 0 3 1, .draw 1061158912, .sampled 0 3 2, .limit 0 18446744073709551615 false, .counter 0 1 0 0 0,
        .trans 0 9 2, .draw 0, .sampled 0 9 0, .limit 0 18446744073709551615 false, .counter 0 0 0 0 0,
        .trans 0 1 0]] ∧
    ((dTrace 2).calls.map (·.log))[1]? =
      some [.trans 0 3 1, .draw 0, .sampled 0 3 2, .limit 0 18446744073709551615 false, .counter 0 1 0 0 0,
        .trans 0 9 2, .draw 1061158912, .trans 0 1 2] ∧
    fwMonitor (dTrace 0) = none ∧ fwMonitor (dTrace 2) = none := by decide +kernel

/-- Non-vacuity of the rules of `checkDraws`: the CounterZero lookup re-using the outer draw (the
    shape of the seeded change C06-g), a target other than the one the draw selects, a target taken
    although the draw selects none, no transition although the draw selects one, a draw for a lookup
    without a list and a stray draw are all rejected. -/
example :
    (checkDraws [dM] [.trans 0 3 1, .draw 0, .sampled 0 3 2, .limit 0 18446744073709551615 false, .counter 0 1 0 0 0,
        .trans 0 9 2, .sampled 0 9 0]).isSome = true ∧
    (checkDraws [dM] [.trans 0 3 0, .draw 0, .sampled 0 3 0]).isSome = true ∧
    (checkDraws [dM] [.trans 0 9 2, .draw 1061158912, .sampled 0 9 0]).isSome = true ∧
    (checkDraws [dM] [.trans 0 3 0, .draw 0, .counter 0 0 0 0 0]).isSome = true ∧
    (checkDraws [dM] [.trans 0 1 0, .draw 0]).isSome = true ∧
    (checkDraws [dM] [.draw 0]).isSome = true := by decide +kernel

/-- The hypothesis of `C06_monitor_accepts_model` cannot be dropped: with an oracle that returns the
    draw 1.0 (not of the form `k/2^23` with `k < 2^23`) the model's trace passes the rule on draws and
    samplings but is rejected by the monitor's range rule. -/
theorem C06_monitor_rejects_bad_draw :
    (fwMonitor (LL.modelTrace ({ u := fun g => (1065353216, g), d := fun _ g => (0, g) } : Oracle Unit)
      [dM] 0 0 0 () [([.normalSent], 10)])).isSome = true ∧
    drawInRange 1065353216 = false := by decide +kernel

end FwMonitor

end Mb.C06
