/-
  C18 — internal timers: the model's `timerUpdate` (the UpdateTimer arm of `trigger_update`)
  against the contract function `C18.timerSpec` written from the property text.  Since the fix
  of F10 in /repo (no timer running always sets the timer) the two agree unconditionally
  (`C18_timerUpdate_spec`); `C18_timerUpdate_zero_sets` is the regression lemma.
-/
import MbVerif.Proofs.SimFuture
import MbVerif.Spec.C18

namespace Mb.C18
open Mb Mb.Sim

/-- The simulator's timer update *is* the contract: the stored expiry and the "TimerBegin now"
    decision agree with `timerSpec` for every current timer value, clock, duration (including 0)
    and replace flag. -/
theorem C18_timerUpdate_spec (cur : Option Int) (now : Int) (durNs : Nat) (replace : Bool) :
    timerUpdate cur now durNs replace = timerSpec cur now durNs replace := by
  unfold timerUpdate timerSpec
  cases cur with
  | some exp =>
    by_cases hr : replace = true
    · simp [hr]
    · have hr' : replace = false := by cases replace <;> simp_all
      by_cases hlt : exp < now + (durNs : Int)
      · simp [hr', hlt]
      · simp [hr', hlt]
  | none => simp

/-- Regression of F10: with no timer running, a zero-duration UpdateTimer without replace sets
    the timer (expiring at once) and reports TimerBegin, as the contract demands. -/
theorem C18_timerUpdate_zero_sets (now : Int) :
    timerUpdate none now 0 false = (some now, true) ∧ timerSpec none now 0 false = (some now, true) := by
  constructor
  · simp [timerUpdate]
  · simp [timerSpec]

/-- TimerBegin is pushed by `applyAction` only from the UpdateTimer arm, stamped with the current
    time, for the machine of the action and on the side of the caller. -/
theorem C18_timerBegin_only_from_update {σ : Type} (sd sd' : Side σ) (sq sq' : SimQueue) (now : Int)
    (cl : Bool) (a : TAction) (h : applyAction sd sq now cl a = .ok (sd', sq')) :
    sq' = sq ∨ ∃ d r m, a = .updateTimer d r m ∧ (timerUpdate (sd.schedTimer[m]?.join) now (d * 1000) r).2 = true
      ∧ sq' = sq.pushSim ⟨.timerBegin m, now, cl, false, false, false⟩ :=
  applyAction_queue h

/-- TimerEnd exactly at the stored expiry, once: firing an internal timer picks a slot whose
    stored expiry is the target, emits TimerEnd for that machine and side stamped with exactly
    that expiry, and empties the slot. -/
theorem C18_timerEnd_at_expiry_once {σ : Type} (st st' : St σ) (target : Int) (e : SimEvent)
    (h : doInternalTimer st target = .ok (e, st')) :
    e.time = target ∧ ∃ m, e.event = .timerEnd m ∧ (st.side e.client).schedTimer[m]? = some (some target) ∧
      (st'.side e.client).schedTimer = (st.side e.client).schedTimer.set m none := by
  obtain ⟨c, m, t', hf, rfl, rfl⟩ := doInternalTimer_ok h
  obtain ⟨k, hk, hl⟩ := findSlot_spec _ _ _ _ _ hf
  rw [Nat.zero_add] at hk
  subst hk
  obtain rfl : t' = target := by simpa using findSlot_sat _ _ _ _ _ hf
  exact ⟨rfl, m, rfl, hl, by rw [side_setSide_same]⟩

/-- The timer that is due is the one that ends: when `pick_next` decides for the internal
    timer branch with offset `i`, a timer with expiry `now + i` exists and is found. -/
theorem C18_due_timer_found {σ : Type} (st : St σ) (i : Nat) (h : pickDecide st = .ok (.timer i)) :
    doInternalTimer st (st.now + i) ≠ .error .noInternal :=
  doInternalTimer_found h

/-- Served before it expires: the offset `pick_next` serves next is at most the offset of
    every running internal timer that is not in the past, so no expiry is skipped. -/
theorem C18_served_before_expiry {σ : Type} (st : St σ) (p : Pick) (o : Nat) (h : pickDecide st = .ok p)
    (ho : p.offset = some o) (t : Int) (hm : some t ∈ st.client.schedTimer ∨ some t ∈ st.server.schedTimer)
    (hn : st.now ≤ t) : o ≤ dsince t st.now :=
  served_before_timer h ho t hm hn

/-- Simulated time never moves past a running internal timer (trace level): every iteration
    of the main loop keeps the invariant `FutureOK` (all pending action timers and internal timers
    at or after the clock); that it holds initially is `C17_pending_never_in_past`. -/
theorem C18_running_timer_never_in_past {σ : Type} (ρ : Oracle σ) (st st' : St σ) (r : StepRec) (hw : st.sq.WF)
    (hf : FutureOK st) (h : step ρ st = .ok (some (r, st'))) (hreal : r.ev.time - st.now < durMax) :
    ∀ t, (some t ∈ st'.client.schedTimer ∨ some t ∈ st'.server.schedTimer) → st'.now ≤ t := by
  have := step_future ρ hw hf h hreal
  intro t ht
  rcases ht with ht | ht
  · exact this.timC t ht
  · exact this.timS t ht

/-- Cancel clears: after `Cancel Internal` / `Cancel All` the machine's timer slot is empty, so
    no TimerEnd can be produced for it until a new UpdateTimer. -/
theorem C18_cancel_clears {σ : Type} (sd sd' : Side σ) (sq sq' : SimQueue) (now : Int) (cl : Bool) (m : Nat) (t : Timer)
    (ht : t = .internal ∨ t = .all) (h : applyAction sd sq now cl (.cancel m t) = .ok (sd', sq')) :
    sd'.schedTimer = sd.schedTimer.set m none := by
  obtain ⟨_, _, rfl, _⟩ := applyAction_cancel_iff.1 h
  rcases ht with rfl | rfl <;> rfl

/-- non-vacuity of `C18_timerUpdate_spec`: a running timer extended by a longer duration -/
example : timerUpdate (some 5) 3 10 false = (some 13, true) := by decide

end Mb.C18
