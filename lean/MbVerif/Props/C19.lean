/-
  C19 — seeded simulations are reproducible, total, and filters are pure projections, on the
  simulator model `Mb.Sim.simAdvanced` (hand-written from lib.rs / network.rs / queue*.rs /
  delay.rs, tied to the code by the exact-trace correspondence of every run).

  Projections: the filters never enter the main loop, so a filtered trace is the unfiltered one
  filtered, and a binding length cap gives a prefix.  Totality, without hypotheses: whatever the
  inputs, a run ends in none of the `BUG:` assertions, backwards time, exhausted `pick_next` fuel or
  divergence; the remaining faults are environmental.  Totality with machines (`C19_total`): for
  validated machines, a cap of `N` iterations and the guard `(N + 2) * span N T d <= Duration::MAX`
  (`span` = an explicit bound on the width of simulated time, quadratic in `N` with the 24 h caps
  on sampled timeouts and durations as coefficients) the run ends in no fault at all, for every
  oracle.  Behind it (`Proofs/SimNoFault*.lean`): a queued TunnelSent is at most `k * 48 h` old
  after `k` iterations, hence every aggregate delay and the clock stay within `span`; the clock
  values handed to the two frameworks lie in a window of that width, so the potential argument of
  C01 excludes their only fault; C04 keeps every returned machine id inside the slot vectors.
  Last, `C19.monitor` on the model's own observations reports exactly its "panic" entries, and the
  two hypotheses on the run list that this needs are shown necessary.
-/
import MbVerif.Proofs.SimRecord
import MbVerif.Proofs.SimCap
import MbVerif.Proofs.SimFuel
import MbVerif.Proofs.SimBugFree
import MbVerif.Proofs.SimTotal
import MbVerif.Proofs.SimNoFault
import MbVerif.Proofs.SimRaw
import MbVerif.Proofs.SimRun
import MbVerif.Proofs.SimMonitorAccept
import MbVerif.Spec.C19

namespace Mb.C19
open Mb Mb.Sim Mb.SimSpec

variable {σ : Type} (ρ : Oracle σ)

/-- Filters are projections.  Without a length cap, for all inputs the filtered run returns
    exactly the sub-sequence of the unfiltered run selected by the filter predicate on events. -/
theorem C19_filters_are_projections (budget : Nat) (mc ms : List Machine) (sq : SimQueue) (a : Args) (orc : σ)
    (hcap : a.maxTraceLength = 0) :
    (simAdvanced ρ budget mc ms sq a orc).trace =
      (simAdvanced ρ budget mc ms sq a.unfiltered orc).trace.filter
        (keepObs a.onlyNetworkActivity a.onlyClientEvents) := by
  obtain ⟨hs, hp⟩ := simAdvanced_unfiltered ρ budget mc ms sq a orc hcap
  rw [simAdvanced_trace, simAdvanced_trace ρ budget mc ms sq a.unfiltered orc, hs, hp]
  split
  · rfl
  · rw [show a.unfiltered.keep = keep false false from rfl, filter_keep_none]
    exact filter_stream_eq _ _ _ (simAdvanced_stream_sorted ρ budget mc ms sq a orc).1

/-- The monitor's projection function (Spec/C19) applied to the model's unfiltered run is the
    model's filtered run: the statement the C19 monitor checks on the implementation's traces. -/
theorem C19_project_model (budget : Nat) (mc ms : List Machine) (sq : SimQueue) (a : Args) (orc : σ)
    (hcap : a.maxTraceLength = 0) :
    (simAdvanced ρ budget mc ms sq a orc).trace =
      project a.onlyNetworkActivity a.onlyClientEvents 0 (simAdvanced ρ budget mc ms sq a.unfiltered orc).trace := by
  rw [C19_filters_are_projections ρ budget mc ms sq a orc hcap]
  simp [project, takeCap]

/-- A binding length cap yields a prefix.  With `max_trace_length = c > 0`, if the uncapped
    run with the same inputs does not fault, the capped run returns exactly the first `c` events
    of the uncapped run's trace (same filter settings). -/
theorem C19_cap_is_prefix (budget : Nat) (mc ms : List Machine) (sq : SimQueue) (a : Args) (orc : σ)
    (hc : a.maxTraceLength > 0) (hok : ∀ f, (simAdvanced ρ budget mc ms sq a.uncapped orc).stop ≠ .fault f) :
    (simAdvanced ρ budget mc ms sq a orc).trace =
      (simAdvanced ρ budget mc ms sq a.uncapped orc).trace.take a.maxTraceLength := by
  have hnf0 : (simAdvanced ρ budget mc ms sq a.uncapped orc).stop.isFault = false := by
    cases hs : (simAdvanced ρ budget mc ms sq a.uncapped orc).stop with
    | fault f => exact absurd hs (hok f)
    | queueEmpty | maxTrace | maxIter | noNormal | loopFuel => rfl
  have hnf : (simAdvanced ρ budget mc ms sq a orc).stop.isFault = false := by
    cases hs : (simAdvanced ρ budget mc ms sq a orc).stop with
    | fault f => exact absurd (simAdvanced_cap_fault ρ budget mc ms sq a orc f hs) (hok f)
    | queueEmpty | maxTrace | maxIter | noNormal | loopFuel => rfl
  rw [simAdvanced_trace, simAdvanced_trace ρ budget mc ms sq a.uncapped orc, hnf, hnf0,
    simAdvanced_cap_prefix ρ budget mc ms sq a orc hc]
  simp only [Bool.false_eq_true, if_false]
  exact List.map_take

/-- Simulated time never moves backwards: whatever `pick_next` returns is at or after the
    clock, so the "BUG: next event moves time backwards" test of the main loop cannot fire. -/
theorem C19_time_never_backwards (fuel : Nat) (st st' : St σ) (e : SimEvent)
    (h : pickNext fuel st = some (.ok (some e, st'))) : st.now ≤ e.time :=
  pickNext_time_ge fuel st st' e h

/-- "BUG: no internal action found" cannot fire. -/
theorem C19_no_bug_no_internal (st : St σ) (i : Nat) (h : pickDecide st = .ok (.timer i)) :
    doInternalTimer st (st.now + i) ≠ .error .noInternal :=
  doInternalTimer_found h

/-- "BUG: no action found" cannot fire. -/
theorem C19_no_bug_no_action (st : St σ) (s : Nat) (h : pickDecide st = .ok (.action s)) :
    doScheduledAction st (st.now + s) ≠ .error .noAction :=
  doScheduledAction_found h

/-- `pick_next` cannot recurse forever on the aggregate-delay branch: that branch is only
    chosen when a delay is pending, and popping it shrinks the termination measure. -/
theorem C19_no_divergence (st : St σ) (h : pickDecide st = .ok .agg) : pickAgg st ≠ .error .diverge :=
  pickAgg_no_diverge h

/-- Every fault is environmental, or the excluded limit 0.  For every machine set, queue,
    argument record and oracle: if the run ends in a fault at all, the fault is an environmental
    one (checked `Duration` arithmetic, an `unwrap`, a panic inside the framework, a machine id
    out of range, an empty queue, invalid machines / fractions) — never one of the five `BUG:`
    assertions, never "next event moves time backwards", never exhausted `pick_next` fuel, never
    divergence — or it is the division by zero of `NetworkBottleneck::new`, and then the
    packets-per-second limit is 0. -/
theorem C19_faults_classified (budget : Nat) (mc ms : List Machine) (sq : SimQueue) (a : Args) (orc : σ)
    (f : SimFault) (h : (simAdvanced ρ budget mc ms sq a orc).stop = .fault f) :
    f.isBug = false ∨ (f = .divZero ∧ effPps a.network sq.maxPps = 0) := by
  unfold simAdvanced at h
  have hinit := initState_total ρ (mc := mc) (ms := ms) (sq := sq) (a := a) (orc := orc)
  cases hi : initState ρ mc ms sq a orc with
  | error f0 =>
    simp only [hi] at h
    cases h
    exact hinit.1 _ hi
  | ok st =>
    simp only [hi, finish_stop] at h
    exact Or.inl (loop_total ρ a (loopFuel a budget) st 0 0 (hinit.2 st hi) f h)

/-- No internal consistency assertion ever fires, no division by zero for packets-per-second
    limits >= 1 (the property's range; a limit beyond `u32::MAX` saturates): whatever the
    inputs, a fault is never a `BUG:` assertion, backwards time, exhausted fuel, divergence or
    the division by zero of `NetworkBottleneck::new`. -/
theorem C19_no_assertion_fires (budget : Nat) (mc ms : List Machine) (sq : SimQueue) (a : Args) (orc : σ)
    (hpps : 1 ≤ effPps a.network sq.maxPps)
    (f : SimFault) (h : (simAdvanced ρ budget mc ms sq a orc).stop = .fault f) : f.isBug = false := by
  rcases C19_faults_classified ρ budget mc ms sq a orc f h with h1 | ⟨_, h2⟩
  · exact h1
  · omega

/-- Finding F5 (fixed in maybenot 4ed778e, where the limit was truncated to `u32` before the
    division): `NetworkBottleneck::new` divides by zero only for a limit of 0; every limit >= 1,
    the multiples of 2^32 included, is accepted. -/
theorem C19_divzero_only_for_zero (net : Network) (window : Nat) (q : Option Nat) :
    (∃ b, Bottleneck.new net window q = .ok b) ↔ 1 ≤ effPps net q := by
  unfold Bottleneck.new effPps
  simp only []
  have h32 : (2 : Nat) ^ 32 - 1 = 4294967295 := by decide
  constructor
  · rintro ⟨b, hb⟩
    split at hb
    · cases hb
    · rename_i hz; omega
  · intro h
    have hz : ¬ min (net.pps.getD (q.getD usizeMax)) (2 ^ 32 - 1) = 0 := by omega
    simp only [hz, if_false]
    exact ⟨_, rfl⟩

/-- the failing input of F5: a limit of exactly 2^32 is accepted and saturates to `u32::MAX` -/
example : (match Bottleneck.new ⟨0, some (2 ^ 32)⟩ 1000000000 none with
    | .ok b => b.ppsAddedDelay
    | .error _ => 12345) = 1000000000 / 4294967295 := by decide

/-- Function of the inputs.  With an iteration cap the result does not depend on the model's
    own loop budget: the run is determined by machines, queue, arguments and the oracle alone. -/
theorem C19_function_of_inputs (b₁ b₂ : Nat) (mc ms : List Machine) (sq : SimQueue) (a : Args) (orc : σ)
    (hm : a.maxSimIterations > 0) :
    (simAdvanced ρ b₁ mc ms sq a orc).trace = (simAdvanced ρ b₂ mc ms sq a orc).trace := by
  unfold simAdvanced
  have : loopFuel a b₁ = loopFuel a b₂ := by simp [loopFuel, hm]
  rw [this]

/-- Reproducible: two runs with the same machines, queue and arguments whose random sources
    answer every request identically return the same result (trace, stream and stop reason):
    nothing but (machines, queue, arguments, oracle) enters a run. -/
theorem C19_reproducible (ρ' : Oracle σ) (hu : ∀ s, ρ.u s = ρ'.u s) (hdd : ∀ d s, ρ.d d s = ρ'.d d s)
    (budget : Nat) (mc ms : List Machine) (sq : SimQueue) (a : Args) (orc : σ) :
    (simAdvanced ρ budget mc ms sq a orc).trace = (simAdvanced ρ' budget mc ms sq a orc).trace ∧
    (simAdvanced ρ budget mc ms sq a orc).stream = (simAdvanced ρ' budget mc ms sq a orc).stream ∧
    (simAdvanced ρ budget mc ms sq a orc).stop = (simAdvanced ρ' budget mc ms sq a orc).stop := by
  have : ρ = ρ' := by
    cases ρ with
    | mk u d =>
      cases ρ' with
      | mk u' d' =>
        have h1 : u = u' := funext hu
        have h2 : d = d' := funext fun x => funext fun s => hdd x s
        rw [h1, h2]
  subst this
  exact ⟨rfl, rfl, rfl⟩

/-- `pick_next` terminates: the fuel the main loop passes (`pickMeasure st + 1`: pending
    aggregate delays + internal timers + scheduled actions + 1) is never exhausted. -/
theorem C19_pickNext_fuel (st : St σ) : (pickNext (pickMeasure st + 1) st).isSome = true :=
  pickNext_fuel_ok _ st (Nat.lt_succ_self _)

/-- any larger fuel works as well -/
theorem C19_pickNext_fuel_mono (st : St σ) (fuel : Nat) (h : pickMeasure st < fuel) :
    (pickNext fuel st).isSome = true :=
  pickNext_fuel_ok fuel st h

/-- Iteration bound: with `max_sim_iterations = m > 0` the main loop performs at most `m`
    iterations and the model's loop fuel is never the reason to stop. -/
theorem C19_iterations_bounded (budget : Nat) (mc ms : List Machine) (sq : SimQueue) (a : Args) (orc : σ)
    (hm : a.maxSimIterations > 0) :
    (simAdvanced ρ budget mc ms sq a orc).stream.length ≤ a.maxSimIterations ∧
    (simAdvanced ρ budget mc ms sq a orc).stop ≠ .loopFuel :=
  simAdvanced_iters ρ budget mc ms sq a orc hm

/-- Length bound: with `max_trace_length = c > 0` at most `c` events are returned. -/
theorem C19_length_bounded (budget : Nat) (mc ms : List Machine) (sq : SimQueue) (a : Args) (orc : σ)
    (hc : a.maxTraceLength > 0) :
    (simAdvanced ρ budget mc ms sq a orc).trace.length ≤ a.maxTraceLength := by
  rw [simAdvanced_trace]
  split
  · exact Nat.zero_le _
  · rw [List.length_map, simAdvanced_cap_prefix ρ budget mc ms sq a orc hc, List.length_take]
    exact Nat.min_le_left _ _

/-- Time never goes back: the returned trace is ordered by time, and it is the kept part of
    the iteration stream in iteration order (the final sort does nothing). -/
theorem C19_trace_sorted (budget : Nat) (mc ms : List Machine) (sq : SimQueue) (a : Args) (orc : σ) :
    (simAdvanced ρ budget mc ms sq a orc).trace.Pairwise (fun x y => x.time ≤ y.time) :=
  simAdvanced_trace_sorted ρ budget mc ms sq a orc

/-- The simulation returns without a fault (general queue).  Machines accepted by validation
    (and of the shape of the Rust type: one transition slot per event), fractions in `[0, 1]`, a
    non-empty, well-formed queue of trace packets with times in `[-d, T]`, network delay `d`, an
    effective packets-per-second limit of at least 1, a cap of `N ≥ 1` iterations (`CappedAt`:
    `max_sim_iterations = N`, or `max_trace_length = N` with both output filters off), and
    `(N + 2) · span N T d ≤ Duration::MAX`: whatever the oracle, the run ends in none of the
    fault classes of the model — no overflow of checked `Duration` arithmetic, no `unwrap` on
    `None`, no fault inside either framework, no machine id out of range, no `BUG:` assertion. -/
theorem C19_total_queue (budget : Nat) (mc ms : List Machine) (sq : SimQueue) (N d T : Nat) (a : Args) (orc : σ)
    (hmc : MachinesOK mc) (hms : MachinesOK ms)
    (hfrac : Validate.fracOK a.fpClient = true ∧ Validate.fracOK a.fbClient = true ∧
      Validate.fracOK a.fpServer = true ∧ Validate.fracOK a.fbServer = true)
    (hq : QueueOK sq (-(d : Int)) (T : Int))
    (hd : a.network.delay = d) (hpps : 1 ≤ effPps a.network sq.maxPps)
    (hcap : CappedAt a N) (hN : 0 < N) (hg : (N + 2) * TB.span N T d ≤ durMax) :
    ∀ f, (simAdvanced ρ budget mc ms sq a orc).stop ≠ .fault f :=
  simAdvanced_no_fault ρ budget hmc hms hq hfrac hd hpps hcap hN hg orc

/-- The simulation returns without a fault for the queue `parse_trace` builds from a
    non-empty trace with times up to `T` (ns), with a packets-per-second limit that is absent
    (then the trace-derived one is used) or at least 1. -/
theorem C19_total (budget : Nat) (mc ms : List Machine) (trace : List TraceLine) (N d T : Nat) (a : Args) (orc : σ)
    (hmc : MachinesOK mc) (hms : MachinesOK ms)
    (hfrac : Validate.fracOK a.fpClient = true ∧ Validate.fracOK a.fbClient = true ∧
      Validate.fracOK a.fpServer = true ∧ Validate.fracOK a.fbServer = true)
    (hne : trace ≠ []) (hT : ∀ l ∈ trace, l.1 ≤ T)
    (hd : a.network.delay = d) (hpps : ∀ p, a.network.pps = some p → 1 ≤ p)
    (hcap : CappedAt a N) (hN : 0 < N) (hg : (N + 2) * TB.span N T d ≤ durMax) :
    ∀ f, (simAdvanced ρ budget mc ms (parseTrace trace d) a orc).stop ≠ .fault f :=
  simAdvanced_no_fault ρ budget hmc hms (parseTrace_queueOK d hne hT) hfrac hd
    (parseTrace_effPps d hne a.network hpps) hcap hN hg orc

/-- the same for raw input traces with all six direction tokens (padding lines are ignored by
    the parser, so at least one normal packet is needed) -/
theorem C19_total_raw (budget : Nat) (mc ms : List Machine) (raw : List RawLine) (N d T : Nat) (a : Args) (orc : σ)
    (hmc : MachinesOK mc) (hms : MachinesOK ms)
    (hfrac : Validate.fracOK a.fpClient = true ∧ Validate.fracOK a.fbClient = true ∧
      Validate.fracOK a.fpServer = true ∧ Validate.fracOK a.fbServer = true)
    (hne : normalLines raw ≠ []) (hT : ∀ l ∈ normalLines raw, l.1 ≤ T)
    (hd : a.network.delay = d) (hpps : ∀ p, a.network.pps = some p → 1 ≤ p)
    (hcap : CappedAt a N) (hN : 0 < N) (hg : (N + 2) * TB.span N T d ≤ durMax) :
    ∀ f, (simAdvanced ρ budget mc ms (parseTraceRaw raw d) a orc).stop ≠ .fault f := by
  rw [parseTraceRaw_eq]
  exact C19_total ρ budget mc ms (normalLines raw) N d T a orc hmc hms hfrac hne hT hd hpps hcap hN hg

/-- Returns normally and within the bounds: under the hypotheses of `C19_total` the run stops
    because the queue is empty, a configured bound is reached or all normal packets are
    processed, after at most `N` iterations. -/
theorem C19_total_returns (budget : Nat) (mc ms : List Machine) (trace : List TraceLine) (N d T : Nat) (a : Args) (orc : σ)
    (hmc : MachinesOK mc) (hms : MachinesOK ms)
    (hfrac : Validate.fracOK a.fpClient = true ∧ Validate.fracOK a.fbClient = true ∧
      Validate.fracOK a.fpServer = true ∧ Validate.fracOK a.fbServer = true)
    (hne : trace ≠ []) (hT : ∀ l ∈ trace, l.1 ≤ T)
    (hd : a.network.delay = d) (hpps : ∀ p, a.network.pps = some p → 1 ≤ p)
    (hcap : a.maxSimIterations = N) (hN : 0 < N) (hg : (N + 2) * TB.span N T d ≤ durMax) :
    ((simAdvanced ρ budget mc ms (parseTrace trace d) a orc).stop = .queueEmpty ∨
     (simAdvanced ρ budget mc ms (parseTrace trace d) a orc).stop = .maxTrace ∨
     (simAdvanced ρ budget mc ms (parseTrace trace d) a orc).stop = .maxIter ∨
     (simAdvanced ρ budget mc ms (parseTrace trace d) a orc).stop = .noNormal) ∧
    (simAdvanced ρ budget mc ms (parseTrace trace d) a orc).stream.length ≤ N := by
  have hnf := C19_total ρ budget mc ms trace N d T a orc hmc hms hfrac hne hT hd hpps (Or.inl hcap) hN hg
  have hb := C19_iterations_bounded ρ budget mc ms (parseTrace trace d) a orc (by omega)
  refine ⟨?_, by omega⟩
  cases hs : (simAdvanced ρ budget mc ms (parseTrace trace d) a orc).stop with
  | queueEmpty => exact Or.inl rfl
  | maxTrace => exact Or.inr (Or.inl rfl)
  | maxIter => exact Or.inr (Or.inr (Or.inl rfl))
  | noNormal => exact Or.inr (Or.inr (Or.inr rfl))
  | fault f => exact absurd hs (hnf f)
  | loopFuel => exact absurd hs hb.2

/-- the span of simulated time the guard is stated with, written out: trace span and delays,
    `2 N` aggregate delays of at most `N · 48 h + N · window` each, and `N` steps of at most
    `24 h + 24 h + d + N · window + 48 h` -/
theorem C19_span_eq (N T d : Nat) :
    TB.span N T d = T + d + TB.aggK * d + N * (2 * (N * TB.W + TB.WB * N)) + N * (TB.TO + TB.TD + d + TB.WB * N + TB.W) := by
  unfold TB.span TB.aggD TB.stepZ
  rw [Nat.two_mul]

/-- the constants of the guard, in nanoseconds: 24 h caps, the 48 h blocking horizon, the 1 s
    bottleneck window, the factor 4 of the aggregate-delay schedule -/
example : TB.TO = 86400000000000 ∧ TB.TD = 86400000000000 ∧ TB.BD = 86400000000000 ∧ TB.W = 172800000000000 ∧
    TB.WB = 1000000000 ∧ TB.aggK = 4 := by decide

/-- Non-vacuity of the guard: 50 iterations over a 1 s trace with 100 ms delay need 4.6e19 ns
    of the 1.8e28 available; 10 000 iterations over an hour-long trace still fit (3.5e26); for
    a 1 s trace the guard holds up to N = 37 650. -/
example : (50 + 2) * TB.span 50 1000000000 100000000 ≤ durMax := by decide
example : (10000 + 2) * TB.span 10000 3600000000000 100000000 ≤ durMax := by decide
example : (37650 + 2) * TB.span 37650 1000000000 100000000 ≤ durMax := by decide
/-- ... and the guard does bind: a cap of 100 000 iterations exceeds it -/
example : ¬ ((100000 + 2) * TB.span 100000 1000000000 100000000 ≤ durMax) := by decide

/-! Non-vacuity of `C19_total`: a two-state machine (state 0 pads after 1 ms, state 1 blocks for
    2 ms after 1 ms), on both sides, a three-packet trace, 10 ms delay, `N = 50`. Every
    hypothesis holds, so the run does not fault for any oracle. -/

/-- 1000.0, 2000.0 as f64 and 1.0 as f32 -/
def exDist (bits : F64) : Dist := { dist := .uniform bits bits, start := 0, max := 0 }

def exMachine : Machine :=
  { allowedPaddingPackets := 1000, maxPaddingFrac := 0, allowedBlockedMicrosec := 0, maxBlockingFrac := 0,
    states := [
      { action := some (.sendPadding false false (exDist 0x408F400000000000) none), counterA := none, counterB := none,
        transitions := [none, none, none, some [{ target := 1, prob := 0x3f800000 }], some [{ target := 1, prob := 0x3f800000 }],
                        none, none, none, none, none, none, none, none] },
      { action := some (.blockOutgoing false false (exDist 0x408F400000000000) (exDist 0x409F400000000000) none),
        counterA := none, counterB := none,
        transitions := [none, none, none, some [{ target := 0, prob := 0x3f800000 }], none, none,
                        some [{ target := 0, prob := 0x3f800000 }], none, none, none, none, none, none] }] }

def exTrace : List TraceLine := [(0, true), (1000000, false), (2000000, true)]

def exTotalArgs : Args :=
  { network := ⟨10000000, none⟩, maxTraceLength := 0, maxSimIterations := 50, continueAfterAllNormal := true,
    onlyClientEvents := false, onlyNetworkActivity := false, fpClient := 0, fbClient := 0, fpServer := 0, fbServer := 0 }

theorem C19_total_example_machine : MachinesOK [exMachine] := by
  intro m hm
  simp only [List.mem_singleton] at hm
  subst hm
  constructor
  · decide +kernel
  · intro st hst
    simp only [exMachine, List.mem_cons, List.mem_singleton, List.not_mem_nil, or_false] at hst
    rcases hst with rfl | rfl <;> rfl

example (orc : σ) (f : SimFault) :
    (simAdvanced ρ 0 [exMachine] [exMachine] (parseTrace exTrace 10000000) exTotalArgs orc).stop ≠ .fault f :=
  C19_total ρ 0 [exMachine] [exMachine] exTrace 50 10000000 2000000 exTotalArgs orc
    C19_total_example_machine C19_total_example_machine
    ⟨by decide +kernel, by decide +kernel, by decide +kernel, by decide +kernel⟩
    (by decide) (by decide) rfl (by intro p hp; cases hp) (Or.inl rfl) (by decide) (by decide) f

/-- the same run under the all-zero oracle -/
def exTotalRun : SimOut Unit :=
  simAdvanced exOracle 0 [exMachine] [exMachine] (parseTrace exTrace 10000000) exTotalArgs ()

/-- evaluated by the kernel: it runs into the iteration cap after 50 iterations, having executed
    9 paddings and 11 blocking actions (10 of them expired), delivered 2 padding packets, queued 10
    aggregate delays and accumulated 3 ms of aggregate delay on the client side -/
example : exTotalRun.stop = .maxIter ∧ exTotalRun.stream.length = 50 ∧
    (exTotalRun.stream.filter (fun r => match r.ev.event with | .paddingSent _ => true | _ => false)).length = 9 ∧
    (exTotalRun.stream.filter (fun r => match r.ev.event with | .blockingBegin _ => true | _ => false)).length = 11 ∧
    (exTotalRun.stream.filter (fun r => r.ev.event == .blockingEnd)).length = 10 ∧
    (exTotalRun.stream.filter (fun r => r.ev.event == .paddingRecv)).length = 2 ∧
    (match exTotalRun.final with | some st => st.net.ghost.aggPushed | none => 0) = 10 ∧
    (match exTotalRun.final with | some st => st.net.clientAgg | none => 0) = 3000000 := by decide +kernel

/-- The guard is needed in some form: the same machines and trace with a network delay of
    5·10^27 ns (1.6·10^11 years — far outside anything realistic, and outside the guard) make
    the model stop with the checked-arithmetic fault at the first blocking expiry: the multiple
    `4 · delay` that `push_aggregate_delay` computes does not fit a `Duration`. -/
theorem C19_total_guard_needed :
    (simAdvanced exOracle 0 [exMachine] [exMachine] (parseTrace exTrace 5000000000000000000000000000)
      { exTotalArgs with network := ⟨5000000000000000000000000000, none⟩ } ()).stop = .fault .durOverflow := by
  decide +kernel

/-- Non-vacuity: a concrete two-packet run without machines (state built directly, so that the
    kernel can evaluate it): 7 iterations, 3 of them client events; the stream is the same for
    both filter settings. -/
example : (match exState with
    | some st => ((loop exOracle exArgs 100 st 0 0).stream.length,
                  ((loop exOracle exArgs 100 st 0 0).stream.filter exArgs.keep).length,
                  (loop exOracle exArgs.unfiltered 100 st 0 0).stream.length)
    | none => (0, 0, 0)) = (7, 3, 7) := by decide +kernel

/-- Bounds part: a trace the model returns respects the configured bounds, in the
    monitor's vocabulary. -/
theorem C19_bounds_model (budget : Nat) (c : CaseIn) (r : RunIn) (orc : σ) (tr : List SimEvent)
    (h : (modelObs ρ budget c r orc).res = .ok tr) : boundsOK (r.effArgs c.delay) tr = true := by
  rw [modelObs_res] at h
  obtain ⟨_, htr⟩ := res_ok_inv h
  subst htr
  unfold boundsOK
  rw [List.length_map]
  simp only [Bool.and_eq_true, Bool.or_eq_true, beq_iff_eq, decide_eq_true_eq]
  constructor
  · by_cases h0 : (r.effArgs c.delay).maxTraceLength = 0
    · exact Or.inl h0
    · exact Or.inr (C19_length_bounded ρ budget c.mc c.ms _ _ orc (by omega))
  · by_cases h0 : (r.effArgs c.delay).maxSimIterations = 0
    · exact Or.inl h0
    · have h1 := (C19_iterations_bounded ρ budget c.mc c.ms (parseTraceRaw c.trace c.delay) (r.effArgs c.delay) orc
        (by omega)).1
      have h2 := simAdvanced_trace_le_stream ρ budget c.mc c.ms (parseTraceRaw c.trace c.delay) (r.effArgs c.delay) orc
      exact Or.inr (Nat.le_trans h2 h1)

/-- Determinism part: two runs with the same arguments in the monitor's sense (`sameArgs`:
    API, packets-per-second limit, seed, caps, stop setting, fractions, filters) and the same
    oracle have the same observation. -/
theorem C19_det_model (budget : Nat) (c : CaseIn) (r r' : RunIn) (orc : σ) (h : sameArgs r r' = true) :
    (modelObs ρ budget c r orc).res = (modelObs ρ budget c r' orc).res := by
  rw [modelObs_res, modelObs_res]
  unfold modelOut
  rw [effArgs_eq_of_sameArgs c.delay h]

/-- Projection part: for an uncapped unfiltered reference run `u` and a run `f` with the same
    base (API, limit, seed, iteration cap, stop setting, fractions) and the same oracle, if both
    return a trace then `f`'s trace is the monitor's projection (`C19.project`: filter, then cut
    at the cap) of `u`'s trace. -/
theorem C19_proj_model (budget : Nat) (c : CaseIn) (u f : RunIn) (orc : σ)
    (href : isReference u = true) (hsb : sameBase u f = true) (hwf : f.WF) (ut ft : List SimEvent)
    (hu : (modelObs ρ budget c u orc).res = .ok ut) (hf : (modelObs ρ budget c f orc).res = .ok ft) :
    ft = project f.args.onlyNetworkActivity f.args.onlyClientEvents f.args.maxTraceLength ut := by
  rw [modelObs_res] at hu hf
  obtain ⟨hup, hut⟩ := res_ok_inv hu
  obtain ⟨_, hft⟩ := res_ok_inv hf
  subst hut hft
  obtain ⟨hau, hmtl, hoc, hon⟩ := effArgs_reference c.delay href hsb hwf
  rw [← hmtl, ← hoc, ← hon, project_shift]
  congr 1
  unfold modelOut at hup ⊢
  rw [hau] at hup ⊢
  generalize f.effArgs c.delay = a at hup ⊢
  have hnf := isPanic_false_no_fault hup
  by_cases hc : a.maxTraceLength = 0
  · rw [uncapped_eq_self a hc]
    have := C19_project_model ρ budget c.mc c.ms (parseTraceRaw c.trace c.delay) a orc hc
    rw [← hc] at this
    exact this
  · have hpos : a.maxTraceLength > 0 := by omega
    have hnf' : ∀ f, (simAdvanced ρ budget c.mc c.ms (parseTraceRaw c.trace c.delay) a.uncapped orc).stop ≠ .fault f := by
      rw [← (simAdvanced_unfiltered ρ budget c.mc c.ms _ a.uncapped orc rfl).2]
      exact hnf
    rw [C19_cap_is_prefix ρ budget c.mc c.ms _ a orc hpos hnf',
      C19_filters_are_projections ρ budget c.mc c.ms _ a.uncapped orc rfl]
    unfold project takeCap
    simp only [hpos, if_true]
    rfl

/-- The C19 monitor accepts the model's own observations.  For every case (machine lists on
    both sides, raw trace, delay), every loop budget and every LIST of runs, each with its
    oracle, such that runs with the same base — in particular the same seed — share the oracle
    (the seed determines the random streams; in the driver each run carries its own hook log) and
    runs through `sim` are recorded without the `only_client_events` flag that `sim` does not
    have: the monitor `C19.monitor`, evaluated on the model's observations of these runs, reports
    exactly its "panic" entries — no "bounds", no "det" (same seed and arguments but differ) and
    no "proj" (not the projection of the unfiltered run) failure. -/
theorem C19_monitor_accepts_model (budget : Nat) (c : CaseIn) (runs : List (RunIn × σ))
    (hwf : ∀ p ∈ runs, p.1.WF)
    (horc : ∀ p ∈ runs, ∀ q ∈ runs, sameBase p.1 q.1 = true → p.2 = q.2) :
    C19.monitor c (runs.map fun p => modelObs ρ budget c p.1 p.2) =
      panicMsgs c (runs.map fun p => modelObs ρ budget c p.1 p.2) := by
  apply monitor_eq_panics_of
  · intro r hr tr hres
    obtain ⟨p, _, rfl⟩ := List.mem_map.1 hr
    exact C19_bounds_model ρ budget c p.1 p.2 tr hres
  · intro r hr r' hr' hsa
    obtain ⟨p, hp, rfl⟩ := List.mem_map.1 hr
    obtain ⟨q, hq, rfl⟩ := List.mem_map.1 hr'
    rw [modelObs_run, modelObs_run] at hsa
    rw [horc p hp q hq (sameBase_of_sameArgs hsa)]
    exact C19_det_model ρ budget c p.1 q.1 q.2 hsa
  · intro u hu f hf href hfr hsb ut ft hures hfres
    obtain ⟨p, hp, rfl⟩ := List.mem_map.1 hu
    obtain ⟨q, hq, rfl⟩ := List.mem_map.1 hf
    rw [modelObs_run] at href hsb
    rw [modelObs_run] at hsb ⊢
    rw [horc p hp q hq hsb] at hures
    exact C19_proj_model ρ budget c p.1 q.1 q.2 href hsb (hwf q hq) ut ft hures hfres

/-- The "panic" entries are exactly the runs whose model run ends in a fault (or, without an
    iteration cap, in the model's own loop budget): the observation of a run is a panic iff the
    model run stops on a fault or on the budget, and a fault is reported with its class. -/
theorem C19_monitor_panics_exact (budget : Nat) (c : CaseIn) (r : RunIn) (orc : σ) :
    ((∃ cls, (modelObs ρ budget c r orc).res = .panic cls) ↔ (modelOut ρ budget c r orc).stop.isPanic = true) ∧
    (∀ f, (modelOut ρ budget c r orc).stop = .fault f → (modelObs ρ budget c r orc).res = .panic f.cls) ∧
    ((r.effArgs c.delay).maxSimIterations > 0 → (modelOut ρ budget c r orc).stop ≠ .loopFuel) := by
  refine ⟨⟨?_, fun h => ?_⟩, ?_, ?_⟩
  · rintro ⟨cls, h⟩
    cases hp : (modelOut ρ budget c r orc).stop.isPanic with
    | true => rfl
    | false => rw [modelObs_res, res_ok hp] at h; cases h
  · rw [modelObs_res]; exact res_panic h
  · intro f hf
    rw [modelObs_res]
    unfold SimOut.res
    rw [hf]
  · intro hm
    exact (C19_iterations_bounded ρ budget c.mc c.ms _ _ orc hm).2

theorem C19_monitor_silent (budget : Nat) (c : CaseIn) (runs : List (RunIn × σ))
    (hwf : ∀ p ∈ runs, p.1.WF)
    (horc : ∀ p ∈ runs, ∀ q ∈ runs, sameBase p.1 q.1 = true → p.2 = q.2)
    (hnp : ∀ p ∈ runs, (modelOut ρ budget c p.1 p.2).stop.isPanic = false) :
    C19.monitor c (runs.map fun p => modelObs ρ budget c p.1 p.2) = [] := by
  rw [C19_monitor_accepts_model ρ budget c runs hwf horc]
  unfold panicMsgs
  rw [List.filterMap_eq_nil_iff]
  intro r hr
  obtain ⟨p, hp, rfl⟩ := List.mem_map.1 hr
  rw [modelObs_res, res_ok (hnp p hp)]

/-- Silent under the guard of `C19_total`: validated machines on both sides, a trace with at
    least one normal packet and times up to `T`, and runs that all have `max_sim_iterations = N ≥ 1`,
    fractions in [0, 1], a packets-per-second limit that is absent or at least 1, with
    `(N + 2) · span N T delay ≤ Duration::MAX`: no model run panics, so the monitor returns the
    empty list on the model's observations — for every oracle assignment that gives runs with
    the same base the same oracle. -/
theorem C19_monitor_accepts_model_total (budget : Nat) (c : CaseIn) (runs : List (RunIn × σ)) (N T : Nat)
    (hwf : ∀ p ∈ runs, p.1.WF)
    (horc : ∀ p ∈ runs, ∀ q ∈ runs, sameBase p.1 q.1 = true → p.2 = q.2)
    (hmc : MachinesOK c.mc) (hms : MachinesOK c.ms)
    (hne : normalLines c.trace ≠ []) (hT : ∀ l ∈ normalLines c.trace, l.1 ≤ T)
    (hN : 0 < N) (hg : (N + 2) * TB.span N T c.delay ≤ durMax)
    (hruns : ∀ p ∈ runs, (p.1.effArgs c.delay).maxSimIterations = N ∧
      (Validate.fracOK (p.1.effArgs c.delay).fpClient = true ∧ Validate.fracOK (p.1.effArgs c.delay).fbClient = true ∧
       Validate.fracOK (p.1.effArgs c.delay).fpServer = true ∧ Validate.fracOK (p.1.effArgs c.delay).fbServer = true) ∧
      ∀ x, (p.1.effArgs c.delay).network.pps = some x → 1 ≤ x) :
    C19.monitor c (runs.map fun p => modelObs ρ budget c p.1 p.2) = [] := by
  apply C19_monitor_silent ρ budget c runs hwf horc
  intro p hp
  obtain ⟨hcap, hfrac, hpps⟩ := hruns p hp
  have hnf := C19_total_raw ρ budget c.mc c.ms c.trace N c.delay T (p.1.effArgs c.delay) p.2 hmc hms hfrac hne hT
    (effArgs_delay p.1 c.delay) hpps (Or.inl hcap) hN hg
  have hnl := (C19_iterations_bounded ρ budget c.mc c.ms (parseTraceRaw c.trace c.delay) (p.1.effArgs c.delay) p.2
    (by omega)).2
  unfold modelOut
  cases hs : (simAdvanced ρ budget c.mc c.ms (parseTraceRaw c.trace c.delay) (p.1.effArgs c.delay) p.2).stop with
  | fault f => exact absurd hs (hnf f)
  | loopFuel => exact absurd hs hnl
  | queueEmpty | maxTrace | maxIter | noNormal => rfl

/-! Non-vacuity and sharpness of `C19_monitor_accepts_model` (kernel evaluation through
    `modelObs_eq_S`, the observation restated over the iteration stream). -/

/-- the padding machine on the client, eight runs as the harness makes them (main, repetition,
    reference, three filter settings, a capped filtered run, `sim`), all with the same oracle:
    the hypotheses hold and the monitor evaluates to the empty list -/
example : (∀ p ∈ demoRuns, p.1.WF) ∧
    C19.monitor demoCase (demoRuns.map fun p => modelObs exOracle 100 demoCase p.1 p.2) = [] := by
  refine ⟨by decide, ?_⟩
  simp only [modelObs_eq_S, demoRuns, List.map]
  -- "det" repeats "main"; the three filtered uncapped runs are read off the stream of the reference run "u"
  rw [modelObsS_congr _ _ _ (demoRun "det" 5 40 true true false) (demoRun "main" 5 40 true true false) _ rfl,
    modelObsS_unfiltered _ _ _ (demoRun "f10" 0 40 true true false) (demoRun "u" 0 40 true false false) _ rfl rfl,
    modelObsS_unfiltered _ _ _ (demoRun "f01" 0 40 true false true) (demoRun "u" 0 40 true false false) _ rfl rfl,
    modelObsS_unfiltered _ _ _ (demoRun "f11" 0 40 true true true) (demoRun "u" 0 40 true false false) _ rfl rfl]
  decide +kernel

/-- Runs with the same seed must share the oracle: the same run twice, once with an oracle
    that answers 1000 µs and once with one that answers 2000 µs for the sampled padding timeout —
    the two observations differ and the monitor reports its "same seed and arguments but differ"
    failure.  (The implementation derives its random streams from the seed; the hypothesis of the
    theorem is that idealisation.) -/
theorem C19_monitor_det_needs_shared_oracle :
    (C19.monitor wideCase ([(demoRun "u" 0 40 true false false, 0x408F400000000000),
        (demoRun "v" 0 40 true false false, 0x409F400000000000)].map
      fun p => modelObs natOracle 100 wideCase p.1 p.2)).length = 1 := by
  simp only [modelObs_eq_S]
  decide +kernel

/-- `sim` has no `only_client_events` parameter: a run through `sim` that is *recorded* with
    that flag set (the model, like `sim`, keeps both sides) is compared by the monitor with the
    client-only projection of the reference run, and fails.  The driver never builds such a run;
    `RunIn.WF` states that. -/
theorem C19_monitor_sim_flag_needed :
    (C19.monitor demoCase0
      ([({ demoSim 0 false with seed := some 1 }, ()),
        ({ demoSim 0 false with seed := some 1, args := demoArgs 0 0 false true false }, ())].map
      fun p => modelObs exOracle 100 demoCase0 p.1 p.2)).length = 1 := by
  simp only [modelObs_eq_S]
  decide +kernel

end Mb.C19
