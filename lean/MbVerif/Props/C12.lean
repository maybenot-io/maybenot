/-
  C12 — validation is sound.

  `Validate.machineWith c` is the model of `Machine::validate` with the three range tests
  (machine fractions, transition probabilities, per-vector sums) as a parameter `c`.
  `checksCur`   = the comparisons of the code before fix 65165a2, `x < 0.0 || x > 1.0`,
                  `p <= 0.0 || p > 1.0`, `sum <= 0.0 || sum > 1.0`, which NaN passes;
  `checksFixed` = the NaN-rejecting `!(x >= 0.0 && x <= 1.0)`, `!(p > 0.0 && p <= 1.0)`, … of that fix.
  `Validate.machine m = machineWith Validate.checks m` (`machine_eq_with`), where `Validate.checks`
  is built from `fracBad/probBad/sumBad`, the MIRROR POINT in Validate.lean.

  The first theorems do not depend on which style /repo uses: acceptance implies `WF` for any
  sound triple of tests, hence for `checksFixed`; two concrete machines (NaN fraction, NaN probability) that
  `checksCur` accepts although they are not well-formed; off NaN the two styles agree.
  Then: every construction path (`from_str`, `Framework::new`) goes through the same judgement;
  and last the theorems about `Validate.checks`, the style /repo uses.
-/
import MbVerif.Proofs.ValidateInit
import MbVerif.Proofs.CodecStr

namespace Mb.C12
open Mb Mb.Validate Mb.Fp

/-- acceptance by validation implies well-formedness, for any sound triple of range tests -/
theorem C12_sound_of_checks {c : Checks} (hc : ChecksSound c) (m : Machine) :
    machineWith c m = true → WF m :=
  machineWith_sound hc (inputsSat_true m)

/-- FULL soundness for the NaN-rejecting comparison style -/
theorem C12_sound_fixed (m : Machine) : machineWith checksFixed m = true → WF m :=
  C12_sound_of_checks checksFixed_sound m

/-- `x < 0.0 || x > 1.0`: a machine with `max_padding_frac = NaN` is accepted and is not well-formed -/
theorem C12_unsound_cur_fraction :
    machineWith checksCur witnessNanFraction = true ∧ ¬ WF witnessNanFraction := by
  refine ⟨by decide +kernel, ?_⟩
  rw [← wfB_iff]
  decide +kernel

/-- `p <= 0.0 || p > 1.0`: a machine with a NaN transition probability is accepted and is not
    well-formed -/
theorem C12_unsound_cur_probability :
    machineWith checksCur witnessNanProbability = true ∧ ¬ WF witnessNanProbability := by
  refine ⟨by decide +kernel, ?_⟩
  rw [← wfB_iff]
  decide +kernel

/-- hence soundness is false for the `x < lo || x > hi` style -/
theorem C12_sound_cur_false : ¬ ∀ m, machineWith checksCur m = true → WF m :=
  fun h => C12_unsound_cur_fraction.2 (h _ C12_unsound_cur_fraction.1)

/-- the isolated reason: the comparisons themselves let NaN through -/
theorem C12_checks_cur_unsound : ¬ ChecksSound checksCur := checksCur_unsound

/-- what the `x < lo || x > hi` style does give: soundness for machines without NaN fractions and
    probabilities -/
theorem C12_sound_cur_partial (m : Machine) (hnn : InputsSat (· ≠ .nan) m) :
    machineWith checksCur m = true → WF m :=
  machineWith_sound checksCur_sound_on_non_nan hnn

/-- the fixed tests reject NaN in every position -/
theorem C12_fixed_rejects_nan (m : Machine) (h : machineWith checksFixed m = true) :
    InputsSat (· ≠ .nan) m := by
  have hw := C12_sound_fixed m h
  refine ⟨?_, ?_, ?_⟩
  · intro e; have := hw.paddingFrac; rw [e] at this; exact this
  · intro e; have := hw.blockingFrac; rw [e] at this; exact this
  · intro s hs v hv ts e t ht en
    have := ((hw.states s hs).vectors v hv ts e).probs t ht
    rw [en] at this; exact this

/-- replacing the comparisons by the NaN-rejecting ones changes the judgement on no machine whose
    fractions and probabilities are not NaN: the repair is behaviour-preserving off NaN -/
theorem C12_cur_eq_fixed_off_nan (m : Machine) (hnn : InputsSat (· ≠ .nan) m) :
    machineWith checksCur m = machineWith checksFixed m :=
  machine_cur_eq_fixed hnn

/-- non-vacuity: a machine with two states, a two-target vector and a sampled limit is accepted by
    both styles and is well-formed -/
example : machineWith checksCur exampleMachine = true ∧ machineWith checksFixed exampleMachine = true ∧
    wfB exampleMachine = true := by
  refine ⟨by decide +kernel, by decide +kernel, by decide +kernel⟩

/-- the monitor run on the implementation's accepted machines decides `WF` -/
theorem C12_monitor_iff (m : Machine) : wfB m = true ↔ WF m := wfB_iff m

/-! `Machine::new` is `validate` on the assembled struct (machine.rs:40-57), so its model *is*
`Validate.machine`.  `Machine::from_str` is modelled by `MStr.fromStr` (C11), `Framework::new`
by `Validate.frameworkNew`. -/

/-- whatever `Machine::from_str` returns passed `Machine::validate`, for every string and every
    behaviour of the zlib decoder -/
theorem C12_from_str_factors (Z : MStr.Zlib) (s : Codec.Bytes) (m : Machine)
    (h : MStr.fromStr Z s = .ok m) : Validate.machine m = true := by
  obtain ⟨_, _, _, _, _, _, _, _, hv⟩ := MStr.fromStr_ok h
  exact hv

/-- `Framework::new` accepts iff both framework fractions are in [0,1] and every machine passes
    `Machine::validate` -/
theorem C12_frameworkNew_factors (ms : List Machine) (fp fb : F64) :
    frameworkNew ms fp fb = true ↔
      fracOK fp = true ∧ fracOK fb = true ∧ ∀ m ∈ ms, Validate.machine m = true := by
  simp [frameworkNew, and_assoc]

/-- the framework's own fraction test `(0.0..=1.0).contains(&x)` is NaN-safe -/
theorem C12_fracOK_sound (x : F64) (h : fracOK x = true) : Real01 (val64 x) := by
  unfold fracOK at h
  generalize val64 x = v at h
  rcases v with _ | ⟨_ | _⟩ | q <;> simp [le, zero, one, Real01] at h ⊢
  exact h

section init
variable {σ : Type} (ρ : Oracle σ)

/-- `Framework::new` on accepted arguments does not fault: state 0 of every machine exists, so
    neither `states[0]` nor the runtime update can go out of range -/
theorem C12_init_no_fault (ms : List Machine) (fp fb : F64) (t0 : Int) (rng : σ)
    (h : frameworkNew ms fp fb = true) : (Fw.init ρ ms fp fb t0 rng).fault = none := by
  have hms : ∀ m ∈ ms, 0 < m.states.length := fun m hm =>
    machineWith_has_state (by rw [← machine_eq_with]; exact ((C12_frameworkNew_factors ms fp fb).mp h).2.2 m hm)
  exact (init_inv ρ ms fp fb t0 rng hms).noFault

end init

/-! From here on: the only theorems that depend on which comparison style /repo uses. Since fix
65165a2 the code rejects NaN (`!(x >= lo && x <= hi)` style), so `Validate.checks = checksFixed`
and full soundness holds of the model of the code. The witnesses `C12_unsound_cur_fraction` /
`C12_unsound_cur_probability` record the defect the monitor found in the code before that fix
(KNOWN_FINDINGS.json, F1).
-/

/-- the model mirrors the NaN-rejecting comparisons of the code since fix 65165a2 -/
theorem C12_today_is_fixed : Validate.checks = checksFixed := rfl

/-- FULL: any machine accepted by `Machine::validate` is well-formed -/
theorem C12_sound (m : Machine) : Validate.machine m = true → WF m := by
  rw [machine_eq_with, C12_today_is_fixed]; exact C12_sound_fixed m

/-- in particular `Machine::validate` accepts no NaN fraction or probability -/
theorem C12_rejects_nan (m : Machine) (h : Validate.machine m = true) : InputsSat (· ≠ .nan) m := by
  rw [machine_eq_with, C12_today_is_fixed] at h; exact C12_fixed_rejects_nan m h

end Mb.C12
