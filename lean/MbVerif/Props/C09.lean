/-
  C09 — signals reach every other machine exactly once and never the lone signaller.

  What is proved here (decision logic stated outright, on the model):
  * `C09_pending_spec`: the pending-signal slot after any sequence of signalling transitions is
    `allExcept x` exactly when all of them came from the same machine `x` (however many times),
    and `all` as soon as two distinct machines signalled (this is the logic fixed by 1b19fdc).
  * `C09_round_lone` / `C09_round_all`: the delivery round unfolds to: reset the slot; deliver
    Signal to every machine except the excluded one, in index order; if that raised a new signal,
    reset the slot again and deliver Signal to the excluded machine. So no machine is visited
    twice (`C09_targets_nodup`) and every machine other than a lone signaller is visited
    (`C09_targets_complete`).
  * `C09_at_most_one`: counted on the model's ghost copy of the hook log, no machine receives
    more than one Signal in any call, for every machine set, oracle and batch; processing the
    reported events themselves never delivers a Signal (`C09_events_deliver_none`).
  * Exactness (lower bound, `Proofs/SigDeliver.lean`): `C09_transition_logs_own_entry` (every
    invocation of `transition` for an existing machine records its own entry),
    `C09_signal_delivery_exact` (one Signal delivery adds exactly one to the count of the target and
    nothing to any other machine), `C09_round_delivers` (the delivery round: nothing pending, nobody
    receives a Signal; `all` pending, every machine exactly one; `allExcept x` pending, every
    machine but `x` exactly one, and `x` exactly one iff the first round left a signal pending,
    i.e. iff a machine answered a delivered Signal by signalling), `C09_call_delivers` (the same for
    a whole call, with the slot as left by the reported events, which themselves deliver nothing:
    `C09_events_deliver_exactly_none`), and `C09_call_delivers_reachable` for the states reached
    from `Framework::new` with validated machines by any history of calls.
  * The slot is a function of the log (`Proofs/SigSlot.lean`): `C09_slot_tracks_log` (the slot after
    the reported events is the fold of `sigStep` over `signalsIn l`, the machines of the
    `sampled _ _ STATE_SIGNAL` entries of the call's log segment `l` in chronological order),
    `C09_answered_iff_logged` (the first round leaves a signal pending iff its segment records such an
    entry), `C09_lone_or_many` (empty / `allExcept x` / `all` iff nobody / only `x` / two distinct
    machines signalled), and the property in log terms only: `C09_call_delivers_log`.
  * Machines that have not ended (`Proofs/SigLive.lean`): `liveSigOf` counts only deliveries to a
    machine not in END, which is the monitor's `C09.deliveries` (`C09_live_eq_deliveries`).
    `C09_round_delivers_live` / `C09_call_delivers_live`: a machine that has not ended when the
    delivery round starts receives its Signal while not ended, an ended machine receives none;
    `C09_live_at_end`: not ended at the end of the call implies not ended when the round started;
    `C09_call_deliveries`: exactly the numbers `C09.checkCall` demands of a machine that is live
    at the end of the call.
  * The monitor tied to the model (`Proofs/MonitorAcceptB.lean`): `C09_call_accepted` - for every
    machine set, oracle, batch and state (whatever signal the previous call left pending),
    `C09.checkCall`, given the slot at the start of the call, the call's chronological log segment and
    "not ended after the call", reports nothing. The proof reads the segment in three parts
    (reported events; first delivery round; second delivery round) and shows whose entries each part
    holds: the reported events never sample a target on the Signal event, so every transition to the
    signal pseudo-state there counts as a signaller; the first round with a lone signaller `x` holds
    entries of machines other than `x` only, the second round entries of `x` only; so "the first
    round left a signal pending" shows in the log as a signaller or responder other than `x`, which
    is exactly what the monitor's `many` / `answered` test. `C09_monitor_accepts_model`: hence
    `C09.monitor` returns `none` on the trace the model itself produces (`LL.modelTrace`) for EVERY
    machine set, configuration, oracle and history, the pending signal handed from call to call being
    the snapshot's (including the deferred second-round signal of a lone signaller). No hypothesis
    is needed (no validity or no-fault assumption; a faulting call ends the monitor's walk).
  The implementation is tied to this by the correspondence of the full internal log (tag L) and by
  the monitor `C09.monitor` on the implementation's traces.
-/
import MbVerif.Proofs.SigCount
import MbVerif.Proofs.MonitorAcceptB
import MbVerif.Proofs.SigDeliver
import MbVerif.Proofs.SigSlot
import MbVerif.Proofs.SigLive
import MbVerif.Props.C01
import MbVerif.Proofs.C04

namespace Mb.C09
open Mb

variable {σ : Type} (ρ : Oracle σ)

theorem C09_pending_spec (x : Nat) (ids : List Nat) :
    ids.foldl sigStep (some (.allExcept x)) =
      if ids.all (· == x) then some (.allExcept x) else some .all := sr_pending_spec x ids

theorem C09_first (x : Nat) (ids : List Nat) :
    (x :: ids).foldl sigStep none = if ids.all (· == x) then some (.allExcept x) else some .all :=
  sr_first x ids

theorem C09_signalFrom (mi : Nat) (s : Fw σ) : (signalFrom mi s).signalPending = sigStep s.signalPending mi :=
  signalFrom_pending mi s

theorem C09_targets_nodup (n : Nat) (excluded : Option Nat) : (firstRound n excluded).Nodup :=
  sr_targets_nodup n excluded

theorem C09_targets_complete (n : Nat) (excluded : Option Nat) (mi : Nat) (h : mi < n) (hne : excluded ≠ some mi) :
    mi ∈ firstRound n excluded := sr_targets_complete n excluded mi h hne

theorem C09_excluded_not_visited (n x : Nat) : x ∉ firstRound n (some x) := sr_excluded_not_visited n x

theorem C09_round_none (s : Fw σ) (h : s.signalPending = none) : signalRound ρ s = s := sr_round_none ρ s h

theorem C09_round_all (s : Fw σ) (h : s.signalPending = some .all) :
    signalRound ρ s =
      let s2 := (firstRound s.rt.length none).foldl (fun s mi => (transition ρ FUEL mi .signal s).1)
        ({ s with signalPending := none } : Fw σ)
      match s2.signalPending with
      | none => s2
      | some _ => { s2 with signalPending := none } := sr_round_all ρ s h

theorem C09_round_lone (s : Fw σ) (x : Nat) (h : s.signalPending = some (.allExcept x)) :
    signalRound ρ s =
      let s2 := (firstRound s.rt.length (some x)).foldl (fun s mi => (transition ρ FUEL mi .signal s).1)
        ({ s with signalPending := none } : Fw σ)
      match s2.signalPending with
      | none => s2
      | some _ => (transition ρ FUEL x .signal ({ s2 with signalPending := none } : Fw σ)).1 :=
  sr_round_lone ρ s x h

/-- No machine receives more than one Signal per call (on the model's copy of the hook log). -/
theorem C09_at_most_one (mi0 : Nat) (es : List TEvent) (t : Int) (s : Fw σ) :
    sigOf mi0 (triggerEvents ρ es t s) ≤ sigOf mi0 s + 1 := sig_triggerEvents ρ mi0 es t s

/-- Processing a reported event never delivers a Signal: Signals are only delivered by the round at
    the end of the call. -/
theorem C09_events_deliver_none (mi0 : Nat) (e : TEvent) (s : Fw σ) :
    sigOf mi0 (processEvent ρ e s) ≤ sigOf mi0 s := sig_processEvent ρ mi0 e s

/-- Every invocation of `transition` (with fuel left) for a machine that exists extends the log by a
    segment containing the invocation's own entry. -/
theorem C09_transition_logs_own_entry (n j : Nat) (ev : Event) (s : Fw σ) (r : Runtime) (m : Machine)
    (hr : s.rt[j]? = some r) (hm : s.machines[j]? = some m) :
    ∃ l, (transition ρ (n + 1) j ev s).1.log = l ++ s.log ∧ LogEntry.trans j ev.toNat r.currentState ∈ l :=
  transition_logs_own_entry ρ n j ev s r m hr hm

/-- Delivering Signal to machine `i` adds exactly one Signal delivery to the count of `i` and none
    to the count of any other (existing) machine `j`, whatever `i` does in response. -/
theorem C09_signal_delivery_exact (i j : Nat) (s : Fw σ) (hlen : s.rt.length = s.machines.length)
    (hj : j < s.rt.length) :
    sigOf j (transition ρ FUEL i .signal s).1 = sigOf j s + (if i = j then 1 else 0) :=
  sig_transition_signal_eq ρ j i s ⟨hj, hlen ▸ hj⟩

/-- The delivery round, for an existing machine `j`: nothing pending, no Signal; `all` pending (two or
    more distinct signallers), exactly one Signal; `allExcept x` pending (lone signaller `x`), exactly
    one Signal for `j ≠ x`, and for `x` itself exactly one if the first round left a signal pending
    (a machine answered a delivered Signal by signalling) and none otherwise. -/
theorem C09_round_delivers (s : Fw σ) (j : Nat) (hlen : s.rt.length = s.machines.length) (hj : j < s.rt.length) :
    (s.signalPending = none → sigOf j (signalRound ρ s) = sigOf j s) ∧
    (s.signalPending = some .all → sigOf j (signalRound ρ s) = sigOf j s + 1) ∧
    (∀ x, s.signalPending = some (.allExcept x) →
      (j ≠ x → sigOf j (signalRound ρ s) = sigOf j s + 1) ∧
      (j = x → sigOf j (signalRound ρ s) =
        sigOf j s + (if (afterFirst ρ s (some x)).signalPending.isSome then 1 else 0))) := by
  simpa only [if_true, and_true] using (sigCount ρ j).round s ⟨hj, hlen ▸ hj⟩

/-- The reported events of a call deliver exactly no Signal. -/
theorem C09_events_deliver_exactly_none (es : List TEvent) (t : Int) (s : Fw σ) (j : Nat) :
    sigOf j (eventsDone ρ es t s) = sigOf j s := sig_eventsDone ρ es t s j

/-- A whole call, for an existing machine `j`, with the pending slot as the reported events of the
    call leave it (`eventsDone ρ es t s` is the state after the events, before the delivery round). -/
theorem C09_call_delivers (es : List TEvent) (t : Int) (s : Fw σ) (j : Nat)
    (hlen : s.rt.length = s.machines.length) (hj : j < s.rt.length) :
    ((eventsDone ρ es t s).signalPending = none → sigOf j (triggerEvents ρ es t s) = sigOf j s) ∧
    ((eventsDone ρ es t s).signalPending = some .all → sigOf j (triggerEvents ρ es t s) = sigOf j s + 1) ∧
    (∀ x, (eventsDone ρ es t s).signalPending = some (.allExcept x) →
      (j ≠ x → sigOf j (triggerEvents ρ es t s) = sigOf j s + 1) ∧
      (j = x → sigOf j (triggerEvents ρ es t s) =
        sigOf j s + (if (afterFirst ρ (eventsDone ρ es t s) (some x)).signalPending.isSome then 1 else 0))) := by
  have h := (sigCount ρ j).round (eventsDone ρ es t s) (Present.ofRun (eventsDone_run ρ es t s) ⟨hj, hlen ▸ hj⟩)
  rw [sig_eventsDone ρ es t s j] at h
  simpa only [triggerEvents_eq, if_true, and_true] using h

/-- The same for every call of every history of an instance created from validated machines. -/
theorem C09_call_delivers_reachable (ms : List Machine) (hms : C01.MachinesValid ms) (fp fb : F64) (t0 : Int) (rng : σ)
    (h : List Call) (es : List TEvent) (t : Int) (j : Nat) (hj : j < ms.length) :
    let s := runCalls ρ (Fw.init ρ ms fp fb t0 rng) h
    ((eventsDone ρ es t s).signalPending = none → sigOf j (triggerEvents ρ es t s) = sigOf j s) ∧
    ((eventsDone ρ es t s).signalPending = some .all → sigOf j (triggerEvents ρ es t s) = sigOf j s + 1) ∧
    (∀ x, (eventsDone ρ es t s).signalPending = some (.allExcept x) →
      (j ≠ x → sigOf j (triggerEvents ρ es t s) = sigOf j s + 1) ∧
      (j = x → sigOf j (triggerEvents ρ es t s) =
        sigOf j s + (if (afterFirst ρ (eventsDone ρ es t s) (some x)).signalPending.isSome then 1 else 0))) := by
  intro s
  have hV : Valid s := C01.C01_state_valid ρ ms hms fp fb t0 rng h
  have hm : s.machines = ms := ((init_run ρ ms fp fb t0 rng).trans (runCalls_run ρ _ h)).machines
  exact C09_call_delivers ρ es t s j hV.lenRt (by rw [hV.lenRt, hm]; exact hj)

/-- The pending slot after the reported events of a call is the slot at the start of the call stepped
    by the machines that transitioned to the signal pseudo-state, as recorded in the call's log. -/
theorem C09_slot_tracks_log (es : List TEvent) (t : Int) (s : Fw σ) :
    ∃ l, (eventsDone ρ es t s).log = l ++ s.log ∧
      (eventsDone ρ es t s).signalPending = (signalsIn l).foldl sigStep s.signalPending :=
  slot_tracks_log ρ es t s

/-- The first delivery round leaves a signal pending iff its log segment records a transition to the
    signal pseudo-state, i.e. iff some machine answered a delivered Signal by signalling. -/
theorem C09_answered_iff_logged (s : Fw σ) (excluded : Option Nat) :
    ∃ l, (afterFirst ρ s excluded).log = l ++ s.log ∧
      ((afterFirst ρ s excluded).signalPending.isSome = true ↔ signalsIn l ≠ []) :=
  afterFirst_answered ρ s excluded

theorem C09_lone_or_many (ids : List Nat) :
    (ids.foldl sigStep none = none ↔ ids = []) ∧
    (∀ x, ids.foldl sigStep none = some (.allExcept x) ↔ ids ≠ [] ∧ ∀ i ∈ ids, i = x) ∧
    (ids.foldl sigStep none = some .all ↔ ∃ a ∈ ids, ∃ b ∈ ids, a ≠ b) := lone_or_many ids

/-- C09 on the log. Let `ids0` be the signallers carried over from the previous call (the slot at
    the start is `ids0.foldl sigStep none`: `[]` for an empty slot, `[x]` for `allExcept x`), `l1` the
    log segment of the reported events, and `ids := ids0 ++ signalsIn l1` all machines that
    transitioned to the signal pseudo-state, with repetitions. For every existing machine `j`:
    nobody signalled: `j` receives no Signal; two distinct machines signalled: exactly one;
    only `x` signalled (however often): every `j ≠ x` exactly one, and `x` exactly one if the log
    segment `l2` of the first delivery round records a signalling transition, none otherwise. -/
theorem C09_call_delivers_log (es : List TEvent) (t : Int) (s : Fw σ) (j : Nat)
    (hlen : s.rt.length = s.machines.length) (hj : j < s.rt.length)
    (ids0 : List Nat) (h0 : s.signalPending = ids0.foldl sigStep none) :
    ∃ l1, (eventsDone ρ es t s).log = l1 ++ s.log ∧
      (ids0 ++ signalsIn l1 = [] → sigOf j (triggerEvents ρ es t s) = sigOf j s) ∧
      ((∃ a ∈ ids0 ++ signalsIn l1, ∃ b ∈ ids0 ++ signalsIn l1, a ≠ b) →
        sigOf j (triggerEvents ρ es t s) = sigOf j s + 1) ∧
      (∀ x, ids0 ++ signalsIn l1 ≠ [] → (∀ i ∈ ids0 ++ signalsIn l1, i = x) →
        (j ≠ x → sigOf j (triggerEvents ρ es t s) = sigOf j s + 1) ∧
        (j = x → ∃ l2, (afterFirst ρ (eventsDone ρ es t s) (some x)).log = l2 ++ (eventsDone ρ es t s).log ∧
          sigOf j (triggerEvents ρ es t s) = sigOf j s + (if signalsIn l2 = [] then 0 else 1))) := by
  obtain ⟨l1, e1, p1⟩ := slot_tracks_log ρ es t s
  rw [h0, ← List.foldl_append] at p1
  obtain ⟨c1, c2, c3⟩ := lone_or_many (ids0 ++ signalsIn l1)
  obtain ⟨d1, d2, d3⟩ := C09_call_delivers ρ es t s j hlen hj
  refine ⟨l1, e1, fun h => d1 (p1.trans (c1.mpr h)), fun h => d2 (p1.trans (c3.mpr h)), fun x hne hall => ?_⟩
  obtain ⟨f1, f2⟩ := d3 x (p1.trans ((c2 x).mpr ⟨hne, hall⟩))
  refine ⟨f1, fun hjx => ?_⟩
  obtain ⟨l2, e2, a2⟩ := afterFirst_answered ρ (eventsDone ρ es t s) (some x)
  refine ⟨l2, e2, ?_⟩
  rw [f2 hjx, if_congr a2 rfl rfl, ite_not]

/-- the live count of a log segment is the monitor's count of deliveries -/
theorem C09_live_eq_deliveries (j : Nat) (l : List LogEntry) : wsum (μLive j) l = deliveries l j :=
  wsum_live_eq_deliveries j l

/-- The delivery round, counting only Signals delivered to a machine that has not ended: a machine
    that has not ended when the round starts receives its Signal while not ended. -/
theorem C09_round_delivers_live (s : Fw σ) (j : Nat) (hlen : s.rt.length = s.machines.length) (hj : j < s.rt.length) :
    (s.signalPending = none → liveSigOf j (signalRound ρ s) = liveSigOf j s) ∧
    (s.signalPending = some .all →
      liveSigOf j (signalRound ρ s) = liveSigOf j s + (if notEnded s j = true then 1 else 0)) ∧
    (∀ x, s.signalPending = some (.allExcept x) →
      (j ≠ x → liveSigOf j (signalRound ρ s) = liveSigOf j s + (if notEnded s j = true then 1 else 0)) ∧
      (j = x → liveSigOf j (signalRound ρ s) =
        liveSigOf j s +
          (if (afterFirst ρ s (some x)).signalPending.isSome = true ∧ notEnded s j = true then 1 else 0))) :=
  (liveCount ρ j).round s ⟨hj, hlen ▸ hj⟩

theorem C09_call_delivers_live (es : List TEvent) (t : Int) (s : Fw σ) (j : Nat)
    (hlen : s.rt.length = s.machines.length) (hj : j < s.rt.length) :
    ((eventsDone ρ es t s).signalPending = none → liveSigOf j (triggerEvents ρ es t s) = liveSigOf j s) ∧
    ((eventsDone ρ es t s).signalPending = some .all →
      liveSigOf j (triggerEvents ρ es t s) =
        liveSigOf j s + (if notEnded (eventsDone ρ es t s) j = true then 1 else 0)) ∧
    (∀ x, (eventsDone ρ es t s).signalPending = some (.allExcept x) →
      (j ≠ x → liveSigOf j (triggerEvents ρ es t s) =
        liveSigOf j s + (if notEnded (eventsDone ρ es t s) j = true then 1 else 0)) ∧
      (j = x → liveSigOf j (triggerEvents ρ es t s) =
        liveSigOf j s +
          (if (afterFirst ρ (eventsDone ρ es t s) (some x)).signalPending.isSome = true ∧
              notEnded (eventsDone ρ es t s) j = true then 1 else 0))) :=
  call_delivers_live ρ es t s j ⟨hj, hlen ▸ hj⟩

/-- a machine that has not ended when the call returns had not ended when the delivery round began -/
theorem C09_live_at_end (es : List TEvent) (t : Int) (s : Fw σ) (j : Nat) (hj : j < s.rt.length)
    (h : notEnded (triggerEvents ρ es t s) j = true) : notEnded (eventsDone ρ es t s) j = true :=
  live_at_end ρ es t s j hj h

/-- What the monitor `C09.checkCall` demands of a machine `j` that is live at the end of the call, on
    the call's log segment `l` (with the monitor's own `deliveries`). -/
theorem C09_call_deliveries (es : List TEvent) (t : Int) (s : Fw σ) (j : Nat)
    (hlen : s.rt.length = s.machines.length) (hj : j < s.rt.length)
    (hlive : notEnded (triggerEvents ρ es t s) j = true) :
    ∃ l, (triggerEvents ρ es t s).log = l ++ s.log ∧
      ((eventsDone ρ es t s).signalPending = none → deliveries l j = 0) ∧
      ((eventsDone ρ es t s).signalPending = some .all → deliveries l j = 1) ∧
      (∀ x, (eventsDone ρ es t s).signalPending = some (.allExcept x) →
        (j ≠ x → deliveries l j = 1) ∧
        (j = x → deliveries l j =
          if (afterFirst ρ (eventsDone ρ es t s) (some x)).signalPending.isSome = true then 1 else 0)) :=
  call_deliveries ρ es t s j ⟨hj, hlen ▸ hj⟩ hlive

/-- Non-vacuity: machine 2 signalling three times keeps excluding machine 2; machines 2 and 0 give `all`. -/
example : [2, 2, 2].foldl sigStep none = some (.allExcept 2) := by decide
example : [2, 0, 2].foldl sigStep none = some .all := by decide
example : firstRound 4 (some 2) = [0, 1, 3] := by decide

/-- Non-vacuity: the signalling machines of a log segment (newest first) in chronological order; a
    transition to another state is not a signal. -/
example : signalsIn [.sampled 2 0 STATE_SIGNAL, .trans 2 0 1, .sampled 1 3 0, .sampled 0 1 STATE_SIGNAL] = [0, 2] := by
  decide
example : deliveries [.trans 1 Gen.EV_Signal 0, .trans 2 Gen.EV_Signal STATE_END, .trans 1 0 0] 1 = 1 := by decide
example : deliveries [.trans 1 Gen.EV_Signal 0, .trans 2 Gen.EV_Signal STATE_END, .trans 1 0 0] 2 = 0 := by decide

/-- `C09.checkCall` accepts every call of the model. For every machine set, oracle, batch, time
    and state with one runtime per machine - whatever signal the previous call left pending in
    `s.signalPending` -: the monitor's per-call check, given the number of machines, the slot at the
    start of the call, the chronological log segment of the call and "not ended after the call",
    reports nothing. That is, on the log: no machine receives two Signals; if two distinct machines
    count as signallers (signalled on an event other than Signal in this call, or carried over),
    every live machine receives exactly one; if nobody does, nobody receives one; if only `x` does,
    every other live machine receives exactly one and `x` receives one iff a machine other than `x`
    answered a delivered Signal by signalling, none otherwise. -/
theorem C09_call_accepted (es : List TEvent) (t : Int) (s : Fw σ) (hlen : s.rt.length = s.machines.length)
    (l : List LogEntry) (hl : (triggerEvents ρ es t s).log = l ++ s.log) :
    checkCall s.rt.length s.signalPending l.reverse (fun j => notEnded (triggerEvents ρ es t s) j) = none :=
  MB.checkCall_of_facts _ _ _ _ (MB.call_facts ρ es t s hlen l hl)

/-- the three parts of a call's log, for the record: the reported events sample no target on the
    Signal event (so the monitor counts every signalling transition there as a signaller, never as
    a responder) -/
theorem C09_events_sample_no_signal_event (es : List TEvent) (t : Int) (s : Fw σ) (l1 : List LogEntry)
    (hl : (eventsDone ρ es t s).log = l1 ++ s.log) (m nx : Nat) : LogEntry.sampled m Gen.EV_Signal nx ∉ l1 :=
  MB.events_noSignalEv ρ es t s l1 hl m nx

/-- with a lone signaller `x`, the first delivery round logs deliveries and sampled targets of
    machines other than `x` only (`l2`), the second round of `x` only (`l3`), each on the Signal
    event or on a CounterZero raised by it -/
theorem C09_round_parts (s : Fw σ) (x : Nat) (h : s.signalPending = some (.allExcept x)) :
    ∃ l2 l3, (afterFirst ρ s (some x)).log = l2 ++ s.log ∧ (signalRound ρ s).log = l3 ++ (l2 ++ s.log) ∧
      (∀ e ∈ l2, ∃ j, j ≠ x ∧ MB.Own j Gen.EV_Signal e) ∧ (∀ e ∈ l3, MB.Own x Gen.EV_Signal e) :=
  MB.round_lone_log ρ s x h

/-- `C09.monitor` accepts the model's own trace of every history: for every machine set,
    configuration, oracle and history of calls, the monitor applied to the trace of the model
    (`LL.modelTrace`: the records the driver builds - events, outcome, returned actions, snapshot and
    the call's log) reports no violation; the pending signal handed from one call to the next is the
    one in the model's snapshot. No hypothesis; the monitor stops at a call that faults. -/
theorem C09_monitor_accepts_model (ms : List Machine) (fp fb : F64) (t0 : Int) (rng : σ) (h : List Call) :
    monitor (LL.modelTrace ρ ms fp fb t0 rng h) = none :=
  MB.monitor09_model ρ ms fp fb t0 rng h

section MonitorDemo

/-- signals on NormalSent (event 3) and answers a Signal (event 12) by signalling -/
private def sSt0 : State :=
  { action := none, counterA := none, counterB := none,
    transitions := ((List.replicate 13 none).set 3 (some [{ target := STATE_SIGNAL, prob := 1065353216 }])).set 12
      (some [{ target := STATE_SIGNAL, prob := 1065353216 }]) }
/-- answers a Signal by signalling -/
private def sSt1 : State :=
  { action := none, counterA := none, counterB := none,
    transitions := (List.replicate 13 none).set 12 (some [{ target := STATE_SIGNAL, prob := 1065353216 }]) }
/-- signals on its own PaddingSent (event 4) -/
private def sSt2 : State :=
  { action := none, counterA := none, counterB := none,
    transitions := (List.replicate 13 none).set 4 (some [{ target := STATE_SIGNAL, prob := 1065353216 }]) }
private def sM0 : Machine :=
  { allowedPaddingPackets := 0, maxPaddingFrac := 0, allowedBlockedMicrosec := 0, maxBlockingFrac := 0, states := [sSt0] }
private def sM1 : Machine :=
  { allowedPaddingPackets := 0, maxPaddingFrac := 0, allowedBlockedMicrosec := 0, maxBlockingFrac := 0, states := [sSt1] }
private def sM2 : Machine :=
  { allowedPaddingPackets := 0, maxPaddingFrac := 0, allowedBlockedMicrosec := 0, maxBlockingFrac := 0, states := [sSt2] }
private def sρ : Oracle Unit := { u := fun _ => (0, ()), d := fun _ _ => (0, ()) }
private def sTrace : FwTrace :=
  LL.modelTrace sρ [sM0, sM1, sM2] 0 0 0 ()
    [([.normalSent], 10), ([], 20), ([.normalSent, .paddingSent 2], 30), ([.tunnelSent], 40)]

/-- Non-vacuity of `C09_monitor_accepts_model`: no call faults (the monitor walks all four). Call 1:
    machine 0 is the lone signaller, machines 1 and 2 receive Signal (event 12), machine 1 answers,
    so machine 0 receives its Signal in the second round - and answers too, which leaves
    `allExcept 0` pending for the next call. Call 2 reports no event at all: the carried-over signal
    alone causes the same round. Call 3: machines 0 and 2 both signal, everybody receives exactly one
    Signal and nothing stays pending. Call 4: no signal, no delivery. -/
example : sTrace.calls.map (·.res) = [.ok, .ok, .ok, .ok] ∧
    sTrace.calls.map (·.log) =
      [[.trans 0 3 0, .draw 0, .sampled 0 3 STATE_SIGNAL, .trans 1 3 0, .trans 2 3 0,
        .trans 1 12 0, .draw 0, .sampled 1 12 STATE_SIGNAL, .trans 2 12 0,
        .trans 0 12 0, .draw 0, .sampled 0 12 STATE_SIGNAL],
       [.trans 1 12 0, .draw 0, .sampled 1 12 STATE_SIGNAL, .trans 2 12 0,
        .trans 0 12 0, .draw 0, .sampled 0 12 STATE_SIGNAL],
       [.trans 0 3 0, .draw 0, .sampled 0 3 STATE_SIGNAL, .trans 1 3 0, .trans 2 3 0,
        .trans 2 4 0, .draw 0, .sampled 2 4 STATE_SIGNAL, .limit 2 0 true,
        .trans 0 12 0, .draw 0, .sampled 0 12 STATE_SIGNAL, .trans 1 12 0, .draw 0, .sampled 1 12 STATE_SIGNAL,
        .trans 2 12 0],
       [.trans 0 5 0, .trans 1 5 0, .trans 2 5 0]] ∧
    sTrace.calls.map (·.snap.signalPending) = [some (.allExcept 0), some (.allExcept 0), none, none] ∧
    monitor sTrace = none := by decide +kernel

/-- Non-vacuity of `checkCall` (three live machines): call 1 without the second-round delivery to
    the answered lone signaller is rejected; the log of call 2 is rejected when the carried-over
    signal is forgotten and accepted with it; a second Signal to the same machine is rejected. -/
example :
    (checkCall 3 none
      [.trans 0 3 0, .draw 0, .sampled 0 3 STATE_SIGNAL, .trans 1 3 0, .trans 2 3 0,
       .trans 1 12 0, .draw 0, .sampled 1 12 STATE_SIGNAL, .trans 2 12 0] (fun _ => true)).isSome = true ∧
    (checkCall 3 none
      [.trans 1 12 0, .draw 0, .sampled 1 12 STATE_SIGNAL, .trans 2 12 0,
       .trans 0 12 0, .draw 0, .sampled 0 12 STATE_SIGNAL] (fun _ => true)).isSome = true ∧
    checkCall 3 (some (.allExcept 0))
      [.trans 1 12 0, .draw 0, .sampled 1 12 STATE_SIGNAL, .trans 2 12 0,
       .trans 0 12 0, .draw 0, .sampled 0 12 STATE_SIGNAL] (fun _ => true) = none ∧
    (checkCall 3 (some .all) [.trans 0 12 0, .trans 1 12 0, .trans 1 12 0, .trans 2 12 0] (fun _ => true)).isSome = true := by
  decide +kernel

end MonitorDemo

end Mb.C09
