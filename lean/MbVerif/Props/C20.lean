/-
  C20 — the C API returns exactly the framework's actions, never writes past `num_machines`,
  and reports bad arguments through error codes.

  Theorems about the model `MbVerif/Ffi.lean` of crates/maybenot-ffi.  The C layout is computed
  from the field lists the translator regenerates from maybenot.h on every run
  (`MbVerif/Generated/Ffi.lean`), the discriminants and field orders of the Rust declarations
  come from src/lib.rs and src/error.rs; no theorem below mentions a concrete offset or
  discriminant, so they are re-checked against whatever the sources say.

  That the Rust code computes this model (raw bytes of the output buffer decoded with the
  header-derived layout vs. the framework's actions; result codes; canaries) is the
  correspondence / monitor run (`tools/props_ffi.py`).
-/
import MbVerif.Proofs.FfiSession

namespace Mb.C20
open Mb Mb.Ffi

/-- TRANSLATOR OBLIGATION.  maybenot.h is the C view of exactly what the Rust declares: the four
    enums have the same constants with the same values (and are 32-bit), `MaybenotEvent`,
    `MaybenotDuration` and every variant body of the `#[repr(C, u32)]` enum `MaybenotAction` have
    the same field names with corresponding types in the same order, the tagged union is
    `{ tag; union { bodies in variant order } }`, and the five prototypes match the `extern "C"`
    signatures. -/
theorem C20_layout_consistent : Gen.Ffi.layoutConsistent = true := by decide +kernel

/-- In the x86-64 SysV layout computed from the header, every variant's scalar fields and the tag
    are found by name, lie inside `sizeof(MaybenotAction)` and do not overlap; tags are distinct;
    same for `MaybenotEvent`. -/
theorem C20_layout_wellformed : actionLayoutOK = true ∧ eventLayoutOK = true :=
  ⟨layout_facts.1, layout_facts.2.2.1⟩

/-- Slot round trip: the bytes of any action whose values fit their C fields, read back with the
    header-derived layout, give that action — every named field at its own offset, padding
    ignored. -/
theorem C20_slot_roundtrip (c : CAction) (hfit : c.fits = true) :
    decodeAction (encodeAction c) = some c :=
  decode_encode c hfit

/-- FIELD FOR FIELD.  What the integrator reads (with maybenot.h) from the slot that
    `convert_action` fills for a framework action `a` is the specified view of `a`: same kind,
    machine, `bypass` under `bypass`, `replace` under `replace`, timer, and timeout / duration as
    whole seconds + nanoseconds. -/
theorem C20_action_fields (a : TAction) (h : inRange a) :
    decodeAction (encodeAction (convertAction a)) = some (view a) := by
  rw [decode_encode _ (convertAction_fits a h), convertAction_eq_view]

/-- The seconds / nanoseconds split of a `u64` microsecond value is exact, normalised, and fits
    `uint64_t secs` / `uint32_t nanos`. -/
theorem C20_split (us : Nat) (h : us < 2 ^ 64) :
    (durOfMicros us).secs * 10 ^ 9 + (durOfMicros us).nanos = us * 1000 ∧
    (durOfMicros us).nanos < 10 ^ 9 ∧
    (durOfMicros us).secs < 2 ^ 64 ∧ (durOfMicros us).nanos < 2 ^ 32 := by
  simp only [durOfMicros]
  omega

/-- The flags cannot be exchanged unnoticed: slots that decode to the same action came from
    framework actions with the same `bypass` and the same `replace` (and the same everything
    else). -/
theorem C20_view_injective (a b : TAction) (ha : inRange a) (hb : inRange b)
    (h : encodeAction (convertAction a) = encodeAction (convertAction b)) : a = b := by
  have h1 := C20_action_fields a ha
  rw [h, C20_action_fields b hb] at h1
  exact (view_inj (Option.some.inj h1)).symm

section
variable {σ : Type} (ρ : Oracle σ)

/-- COUNT.  With a buffer of at least `num_machines` slots (the caller's obligation) and the
    framework's output contract `hC04` (at most one action per machine, property C04), the count
    written is exactly the number of actions the framework returns, hence ≤ `num_machines`. -/
theorem C20_count (s : Fw σ) (now : Int) (evs : List CEvent) (buf : List Bytes) (r : Fw σ × List Bytes × Nat)
    (hbuf : s.machines.length ≤ buf.length)
    (hrun : onEvents ρ s now evs buf = some r)
    (hC04 : r.1.actionsOut.length ≤ s.machines.length) :
    r.2.2 = r.1.actionsOut.length ∧ r.2.2 ≤ s.machines.length := by
  obtain ⟨tes, _, rfl⟩ := onEvents_eq_some ρ hrun
  simp only [writeSlots_count, List.length_map] at hC04 ⊢
  omega

/-- The framework run inside the call is `trigger_events` on the converted events. -/
theorem C20_framework_step (s : Fw σ) (now : Int) (evs : List CEvent) (buf : List Bytes) (r : Fw σ × List Bytes × Nat)
    (hrun : onEvents ρ s now evs buf = some r) :
    ∃ tes, evs.mapM convertEvent = some tes ∧ r.1 = triggerEvents ρ tes now s := by
  obtain ⟨tes, hm, rfl⟩ := onEvents_eq_some ρ hrun
  exact ⟨tes, hm, rfl⟩

/-- EXACTLY THE FRAMEWORK'S ACTIONS.  The first `count` slots, decoded with maybenot.h, are the
    views of the framework's actions, in order. -/
theorem C20_written_actions (s : Fw σ) (now : Int) (evs : List CEvent) (buf : List Bytes) (r : Fw σ × List Bytes × Nat)
    (hbuf : s.machines.length ≤ buf.length)
    (hrun : onEvents ρ s now evs buf = some r)
    (hC04 : r.1.actionsOut.length ≤ s.machines.length)
    (hrange : ∀ a ∈ r.1.actionsOut, inRange a) :
    (r.2.1.take r.2.2).map decodeAction = r.1.actionsOut.map (fun a => some (view a)) := by
  have hc := (C20_count ρ s now evs buf r hbuf hrun hC04).1
  obtain ⟨tes, _, rfl⟩ := onEvents_eq_some ρ hrun
  simp only at hc hrange ⊢
  rw [writeSlots_take, hc, List.take_of_length_le (by simp)]
  exact decode_written _ hrange

/-- NOTHING BEYOND `count` IS WRITTEN: the caller's buffer from index `count` on is unchanged, and
    its length is unchanged. -/
theorem C20_suffix_unchanged (s : Fw σ) (now : Int) (evs : List CEvent) (buf : List Bytes) (r : Fw σ × List Bytes × Nat)
    (hrun : onEvents ρ s now evs buf = some r) :
    r.2.1.drop r.2.2 = buf.drop r.2.2 ∧ r.2.1.length = buf.length := by
  obtain ⟨tes, _, rfl⟩ := onEvents_eq_some ρ hrun
  exact ⟨writeSlots_drop _ _ _, writeSlots_length _ _ _⟩

/-- NEVER PAST `num_machines`, unconditionally (even if the framework broke its contract and
    returned more actions than machines, and whatever the size of the caller's memory). -/
theorem C20_never_past_num_machines (s : Fw σ) (now : Int) (evs : List CEvent) (buf : List Bytes)
    (r : Fw σ × List Bytes × Nat) (hrun : onEvents ρ s now evs buf = some r) :
    r.2.1.drop s.machines.length = buf.drop s.machines.length ∧ r.2.2 ≤ s.machines.length := by
  obtain ⟨tes, _, rfl⟩ := onEvents_eq_some ρ hrun
  refine ⟨writeSlots_drop_n _ _ _, ?_⟩
  simp only [writeSlots_count]; omega

end

/-- `actions.length ≤ n` follows from the shape of the iterator returned by `trigger_events`:
    a `filterMap` over the per-machine action slots. -/
theorem C20_hC04_of_slots {σ : Type} (s : Fw σ) (n : Nat) (h : s.actions.length = n) : s.actionsOut.length ≤ n := by
  rw [← h]; exact List.length_filterMap_le _ _

/-- END TO END, no hypothesis about the framework left.  For an instance created from ANY
    machines and fractions (`Fw.init`, i.e. a successful `maybenot_start`), after ANY history of
    calls, under ANY random source, the next `maybenot_on_events` call on a buffer with room for
    `num_machines` actions: the count is the number of actions the framework returns and is at
    most `num_machines`; the first `count` slots decode (with maybenot.h) to exactly those
    actions, in order, field for field; every other slot of the caller's memory is unchanged.
    The framework's output contract comes from the C04 theorems. -/
theorem C20_session {σ : Type} (ρ : Oracle σ) (ms : List Machine) (fp fb : F64) (t0 : Int) (rng : σ)
    (h : List Call) (now : Int) (evs : List CEvent) (buf : List Bytes) (r : Fw σ × List Bytes × Nat)
    (hms : ms.length < 2 ^ 64) (hbuf : ms.length ≤ buf.length)
    (hrun : onEvents ρ (runCalls ρ (Fw.init ρ ms fp fb t0 rng) h) now evs buf = some r) :
    r.2.2 = r.1.actionsOut.length ∧ r.2.2 ≤ ms.length ∧
    (r.2.1.take r.2.2).map decodeAction = r.1.actionsOut.map (fun a => some (view a)) ∧
    r.2.1.drop r.2.2 = buf.drop r.2.2 ∧ r.2.1.length = buf.length := by
  have hmach := runCalls_machines ρ ms fp fb t0 rng h
  obtain ⟨tes, _, hr1⟩ := C20_framework_step ρ _ now evs buf r hrun
  have hmem := runStates_snoc ρ (Fw.init ρ ms fp fb t0 rng) h (tes, now)
  rw [← hr1] at hmem
  have hcnt := C04.C04_count ρ ms fp fb t0 rng _ r.1 hmem
  have hout := C04.C04_out ρ ms fp fb t0 rng _ r.1 hmem
  have hrange : ∀ a ∈ r.1.actionsOut, inRange a := by
    intro a ha
    simp only [C04.outOK, Bool.and_eq_true, List.all_eq_true] at hout
    exact inRange_of_actionOK ms a hms (hout.2 a ha)
  have hbuf' : (runCalls ρ (Fw.init ρ ms fp fb t0 rng) h).machines.length ≤ buf.length := by rw [hmach]; exact hbuf
  have hC04 : r.1.actionsOut.length ≤ (runCalls ρ (Fw.init ρ ms fp fb t0 rng) h).machines.length := by
    rw [hmach]; exact hcnt
  have h1 := C20_count ρ _ now evs buf r hbuf' hrun hC04
  have h2 := C20_written_actions ρ _ now evs buf r hbuf' hrun hC04 hrange
  have h3 := C20_suffix_unchanged ρ _ now evs buf r hrun
  rw [hmach] at h1
  exact ⟨h1.1, h1.2, h2, h3.1, h3.2⟩

/-- `convert_event` maps each C event type to the same-named framework event and passes the
    machine id on exactly for PaddingSent, BlockingBegin, TimerBegin, TimerEnd. -/
theorem C20_event_same_name (e : CEvent) (t : TEvent) (h : convertEvent e = some t) :
    e.eventType = evType (evName t) ∧ ∀ m, evMachine t = some m → m = e.machine :=
  (convertEvent_eq_some_iff e t).1 h

/-- Every framework event is reachable: the same-named C event converts to it. -/
theorem C20_event_complete (t : TEvent) : convertEvent (eventOf t) = some t :=
  convertEvent_eventOf t

/-- `convert_event` is injective on the declared discriminants: two C events that convert to the
    same framework event have the same type (and the same machine id where the event has one). -/
theorem C20_event_injective (e₁ e₂ : CEvent) (t : TEvent)
    (h₁ : convertEvent e₁ = some t) (h₂ : convertEvent e₂ = some t) :
    e₁.eventType = e₂.eventType ∧ (evMachine t ≠ none → e₁.machine = e₂.machine) := by
  obtain ⟨a₁, b₁⟩ := (convertEvent_eq_some_iff e₁ t).1 h₁
  obtain ⟨a₂, b₂⟩ := (convertEvent_eq_some_iff e₂ t).1 h₂
  refine ⟨by rw [a₁, a₂], ?_⟩
  intro hm
  cases hmt : evMachine t with
  | none => exact absurd hmt hm
  | some m => rw [← b₁ m hmt, ← b₂ m hmt]

/-- An `MaybenotEvent` read back with the header-derived layout. -/
theorem C20_event_roundtrip (e : CEvent) (ht : e.eventType < 2 ^ 32) (hm : e.machine < 2 ^ 64) :
    decodeEvent (encodeEvent e) = some e := by
  obtain ⟨_, _, _, s1, s2, _⟩ := layout_facts
  exact decodeEvent_encodeEvent e (by rw [s1]; omega) (by rw [s2]; omega)

/-- The five result codes are pairwise distinct (so a code identifies its cause). -/
theorem C20_codes_distinct :
    [RC_Ok, RC_MachineStringNotUtf8, RC_InvalidMachineString, RC_StartFramework, RC_NullPointer].Nodup :=
  resCodes_nodup

/-- `maybenot_on_events`: NullPointer iff one of the four pointers is null, Ok otherwise; on
    NullPointer the caller's buffer and count cell are untouched and the instance is unchanged. -/
theorem C20_on_events_null {σ : Type} (ρ : Oracle σ) (nulls : Nulls) (s : Fw σ) (now : Int) (evs : List CEvent)
    (buf : List Bytes) :
    (nulls.any = true → apiOnEvents ρ nulls s now evs buf =
        some { fw := s, rc := RC_NullPointer, buf := buf, count := none }) ∧
    (nulls.any = false → onEventsRc nulls = RC_Ok) := by
  rcases onEventsRc_cases nulls with ⟨ha, hrc⟩ | ⟨ha, hrc⟩
  · refine ⟨fun _ => ?_, fun h => (by rw [ha] at h; cases h)⟩
    simp [apiOnEvents, hrc, rc_null_ne_ok]
  · exact ⟨fun h => (by rw [ha] at h; cases h), fun _ => hrc⟩

/-- `maybenot_start`: the result code as a function of the arguments, cause by cause.  Ok exactly
    when `out` is non-null, the string is UTF-8, every line is a valid machine string and both
    fractions pass `Framework::new`. -/
theorem C20_start_codes (outNull : Bool) (arg : MachinesArg) (fp fb : F64) :
    (outNull = true → startRc outNull arg fp fb = RC_NullPointer) ∧
    (outNull = false → arg = .notUtf8 → startRc outNull arg fp fb = RC_MachineStringNotUtf8) ∧
    (outNull = false → arg = .invalid → startRc outNull arg fp fb = RC_InvalidMachineString) ∧
    (∀ ms, outNull = false → arg = .parsed ms → Validate.frameworkNew ms fp fb = false →
        startRc outNull arg fp fb = RC_StartFramework) ∧
    (startRc outNull arg fp fb = RC_Ok ↔
        outNull = false ∧ ∃ ms, arg = .parsed ms ∧ Validate.frameworkNew ms fp fb = true) := by
  obtain ⟨d2, d3, d4, d1⟩ := rc_ne_ok
  refine ⟨?_, ?_, ?_, ?_, ?_⟩
  · intro h; simp [startRc, h]
  · intro h h'; simp [startRc, h, h']
  · intro h h'; simp [startRc, h, h']
  · intro ms h h' hv; simp [startRc, h, h', hv]
  · cases outNull with
    | true => simp [startRc, d1]
    | false =>
      cases arg with
      | notUtf8 => simp [startRc, d2]
      | invalid => simp [startRc, d3]
      | parsed ms =>
        cases hv : Validate.frameworkNew ms fp fb <;> simp [startRc, hv, d4]

/-- A fraction outside [0, 1] or NaN is rejected by the validation model used for
    `StartFramework` (IEEE comparisons: every comparison with NaN is false). -/
theorem C20_bad_fraction_rejected (ms : List Machine) (fp fb : F64)
    (h : Validate.fracOK fp = false ∨ Validate.fracOK fb = false) : Validate.frameworkNew ms fp fb = false := by
  rcases h with h | h <;> simp [Validate.frameworkNew, h]

/-- The monitor (first failing check) is silent exactly when the specification (every check)
    holds. -/
theorem C20_monitor_iff (cs : List Check) : firstFail cs = none ↔ Holds cs :=
  firstFail_none_iff cs

/-- The model of the C API satisfies the specification the monitor checks on the implementation:
    for a caller with `g` guard slots on either side of `n = num_machines` output slots, all
    pre-filled with `pat`, every check of `EvObs.checks` holds of the model's observable outcome —
    result code, count = number of framework actions ≤ n, decoded actions = views of the framework's
    actions, slots from `count` on and both guards untouched. -/
theorem C20_model_satisfies_spec {σ : Type} (ρ : Oracle σ) (nulls : Nulls) (s : Fw σ) (now : Int) (evs : List CEvent)
    (g : Nat) (pat : Bytes) (out : CallOut σ)
    (hrun : apiOnEvents ρ nulls s now evs (List.replicate (s.machines.length + g) pat) = some out)
    (hC04 : ∀ tes, evs.mapM convertEvent = some tes →
      (triggerEvents ρ tes now s).actionsOut.length ≤ s.machines.length ∧
      ∀ a ∈ (triggerEvents ρ tes now s).actionsOut, inRange a) :
    Holds (EvObs.checks { nulls := nulls, rc := out.rc, count := out.count, nm := s.machines.length, guard := g,
                          patSlot := pat, mem := List.replicate g pat ++ out.buf, ref := out.fw.actionsOut }) :=
  model_satisfies_checks ρ nulls s now evs g pat out hrun hC04

/-- the framework action used in the examples: blocking with `bypass = true`, `replace = false`,
    timeout 1.5 s, duration 24 h, machine 3 -/
def exAction : TAction := .blockOutgoing 1500000 86400000000 true false 3

example : inRange exAction := by decide
example : view exAction = .blockOutgoing 3 ⟨1, 500000000⟩ false true ⟨86400, 0⟩ := by decide
example : decodeAction (encodeAction (convertAction exAction)) = some (view exAction) :=
  C20_action_fields exAction (by decide)
/-- a swap of the two flags is visible in the bytes -/
example : decodeAction (encodeAction (convertAction (.blockOutgoing 1500000 86400000000 false true 3))) ≠
    some (view exAction) := by
  rw [C20_action_fields (.blockOutgoing 1500000 86400000000 false true 3) (by decide)]; decide
/-- a swap of timeout and duration is visible in the bytes -/
example : decodeAction (encodeAction (convertAction (.blockOutgoing 86400000000 1500000 true false 3))) ≠
    some (view exAction) := by
  rw [C20_action_fields (.blockOutgoing 86400000000 1500000 true false 3) (by decide)]; decide
example : actionL.size = 56 ∧ actionL.align = 8 ∧ eventL.size = 16 := layout_facts.2.2.2.2.2
/-- the largest `u64` microsecond value still splits exactly -/
example : (durOfMicros (2 ^ 64 - 1)).secs = 18446744073709 ∧ (durOfMicros (2 ^ 64 - 1)).nanos = 551615000 := by decide
/-- zip semantics: two actions, three machines, a five-slot memory: two slots written, the rest
    untouched -/
example :
    let pat : Bytes := List.replicate 56 0xC5
    let r := writeSlots [convertAction exAction, convertAction (.cancel 1 .all)] 3 (List.replicate 5 pat)
    r.2 = 2 ∧ r.1.drop 2 = List.replicate 3 pat ∧
    (r.1.take 2).map decodeAction = [some (view exAction), some (view (.cancel 1 .all))] := by
  refine ⟨by decide, by decide, ?_⟩
  show [decodeAction (encodeAction (convertAction exAction)),
    decodeAction (encodeAction (convertAction (.cancel 1 .all)))] = _
  rw [C20_action_fields exAction (by decide), C20_action_fields (.cancel 1 .all) (by decide)]
/-- more actions than machines (contract broken): truncated at `num_machines`, nothing beyond -/
example :
    let pat : Bytes := List.replicate 56 0xC5
    let r := writeSlots [convertAction exAction, convertAction (.cancel 1 .all)] 1 (List.replicate 3 pat)
    r.2 = 1 ∧ r.1.drop 1 = List.replicate 2 pat := by decide
/-- events: an undeclared discriminant converts to nothing; PaddingSent keeps its machine id,
    NormalSent drops it -/
example : convertEvent ⟨10, 0⟩ = none ∧ convertEvent ⟨evType "PaddingSent", 7⟩ = some (.paddingSent 7) ∧
    convertEvent ⟨evType "NormalSent", 7⟩ = some .normalSent := by decide +kernel
example : startRc true .notUtf8 0 0 = RC_NullPointer ∧ startRc false .notUtf8 0 0 = RC_MachineStringNotUtf8 ∧
    startRc false .invalid 0 0 = RC_InvalidMachineString := ⟨rfl, rfl, rfl⟩

end Mb.C20
